/-
  C14 — soundness of the checkers of `IbexModel/Inner.lean`, part 2: inner backward projections of
  single operators (`into2`, `into1`): the exact range of the operator over the returned intervals
  is inside the requested image, hence EVERY real point of the returned intervals is mapped into
  the image (and the operator is defined there).
-/
import IbexProofs.Inner

namespace Ibex
namespace Inner
open Ibex

/-- real meaning of the binary operators by name (the division is undefined for `y = 0`) -/
noncomputable def bwd2R : String → ℝ → ℝ → Option ℝ
  | "add", x, y => some (x + y)
  | "sub", x, y => some (x - y)
  | "mul", x, y => some (x * y)
  | "div", x, y => if y = 0 then none else some (x / y)
  | "max", x, y => some (Max.max x y)
  | "min", x, y => some (Min.min x y)
  | _, _, _ => none

noncomputable def bwd1R : String → Int → ℝ → Option ℝ
  | "sqr", _, x => some (x * x)
  | "abs", _, x => some |x|
  | "minus", _, x => some (-x)
  | "sqrt", _, x => if 0 ≤ x then some (Real.sqrt x) else none
  | "pow", n, x => if n < 0 ∧ x = 0 then none else some (x ^ n)
  | _, _, _ => none

theorem range2_encl {op : String} {X Y R : Itv} (h : range2 op X Y = some R) {x y : ℝ} (hx : x ∈ X) (hy : y ∈ Y) :
    ∃ v, bwd2R op x y = some v ∧ v ∈ R := by
  unfold range2 at h
  split at h
  · simp only [Option.some.injEq] at h; subst h
    exact ⟨x + y, rfl, Itv.addG_encl Rnd.exact_sound hx hy⟩
  · simp only [Option.some.injEq] at h; subst h
    exact ⟨x - y, rfl, Itv.subG_encl Rnd.exact_sound hx hy⟩
  · simp only [Option.some.injEq] at h; subst h
    exact ⟨x * y, rfl, Itv.mulG_encl Rnd.exact_sound hx hy⟩
  · split at h
    · exact absurd h (by simp)
    · rename_i hc
      simp only [Option.some.injEq] at h; subst h
      have hy0 : y ≠ 0 := not_containsExt_zero (by simpa using hc) hy
      exact ⟨x / y, if_neg hy0, Itv.divG_encl Rnd.exact_sound hx hy hy0⟩
  · simp only [Option.some.injEq] at h; subst h
    exact ⟨Max.max x y, rfl, Itv.max_encl hx hy⟩
  · simp only [Option.some.injEq] at h; subst h
    exact ⟨Min.min x y, rfl, Itv.min_encl hx hy⟩
  · exact absurd h (by simp)

/-- **Inner backward projection of a binary operator**: if the checker accepts `(X', Y')` for the
    image `Z`, the operator is defined at every point of `X' × Y'` and maps it into `Z`. -/
theorem into2_sound {op : String} {X Y Z : Itv} (h : into2 op X Y Z = true) {x y : ℝ} (hx : x ∈ X) (hy : y ∈ Y) :
    ∃ v, bwd2R op x y = some v ∧ v ∈ Z := by
  simp only [into2, Itv.isEmpty_eq_false_of_mem hx, Itv.isEmpty_eq_false_of_mem hy, Bool.false_or] at h
  cases hr : range2 op X Y with
  | none => simp [hr] at h
  | some R =>
    simp only [hr] at h
    obtain ⟨v, hv, hm⟩ := range2_encl hr hx hy
    exact ⟨v, hv, Itv.mem_of_subset h hm⟩

theorem sqrtInto_sound {X Z : Itv} (h : sqrtInto X Z = true) {x : ℝ} (hx : x ∈ X) :
    0 ≤ x ∧ Real.sqrt x ∈ Z := by
  cases X with
  | empty => exact absurd hx (Itv.not_mem_empty _)
  | mk a b =>
    cases Z with
    | empty => simp [sqrtInto] at h
    | mk l u =>
      simp only [sqrtInto, Bool.and_eq_true] at h
      obtain ⟨⟨h0, hl⟩, hu⟩ := h
      have ha0 : (0 : EReal) ≤ a.toE := toE_z0 ▸ (Ext.le_iff _ _).1 h0
      have hx0 : 0 ≤ x := by exact_mod_cast le_trans ha0 hx.1
      refine ⟨hx0, ?_, ?_⟩
      ·
        cases l with
        | ninf => exact bot_le
        | pinf => exact absurd hl Bool.false_ne_true
        | fin q =>
          cases a with
          | ninf => exact absurd ha0 (not_le.2 EReal.bot_lt_zero)
          | pinf => exact absurd hx.1 (not_le.2 (EReal.coe_lt_top x))
          | fin p =>
            simp only [Bool.or_eq_true, decide_eq_true_eq] at hl
            simp only [Ext.toE_fin, EReal.coe_le_coe_iff]
            rcases hl with hq | hq
            · exact le_trans (by exact_mod_cast hq) (Real.sqrt_nonneg x)
            · have hpx : (p : ℝ) ≤ x := EReal.coe_le_coe_iff.1 hx.1
              have hqq : (q : ℝ) ^ 2 ≤ x := by rw [sq]; exact le_trans (by exact_mod_cast hq) hpx
              exact le_trans (le_abs_self _) (Real.abs_le_sqrt hqq)
      · cases u with
        | pinf => exact le_top
        | ninf => exact absurd hu Bool.false_ne_true
        | fin q =>
          cases b with
          | ninf => exact absurd hu Bool.false_ne_true
          | pinf => exact absurd hu Bool.false_ne_true
          | fin p =>
            simp only [Bool.and_eq_true, decide_eq_true_eq] at hu
            simp only [Ext.toE_fin, EReal.coe_le_coe_iff]
            have hq0' : (0 : ℝ) ≤ (q : ℝ) := by exact_mod_cast hu.1
            have hxp : x ≤ (p : ℝ) := EReal.coe_le_coe_iff.1 hx.2
            have hqq : x ≤ (q : ℝ) * (q : ℝ) := le_trans hxp (by exact_mod_cast hu.2)
            calc Real.sqrt x ≤ Real.sqrt ((q : ℝ) * (q : ℝ)) := Real.sqrt_le_sqrt hqq
              _ = (q : ℝ) := Real.sqrt_mul_self hq0'

/-- **Inner backward projection of a unary operator** -/
theorem into1_sound {op : String} {n : Int} {X Z : Itv} (h : into1 op n X Z = some true) {x : ℝ} (hx : x ∈ X) :
    ∃ v, bwd1R op n x = some v ∧ v ∈ Z := by
  unfold into1 at h
  split at h
  · simp only [Option.some.injEq] at h
    exact ⟨x * x, rfl, Itv.mem_of_subset h (Itv.sqrG_encl Rnd.exact_sound hx)⟩
  · simp only [Option.some.injEq] at h
    exact ⟨|x|, rfl, Itv.mem_of_subset h (Itv.abs_encl hx)⟩
  · simp only [Option.some.injEq] at h
    exact ⟨-x, rfl, Itv.mem_of_subset h (Itv.neg_encl hx)⟩
  · simp only [Option.some.injEq] at h
    obtain ⟨h0, hm⟩ := sqrtInto_sound h hx
    exact ⟨Real.sqrt x, if_pos h0, hm⟩
  · split at h
    · rename_i hn
      simp only [Option.some.injEq] at h
      refine ⟨x ^ n, if_neg fun h => not_lt.2 hn h.1, ?_⟩
      have := Itv.mem_of_subset h (Itv.powNatG_encl Rnd.exact_sound n.toNat hx)
      have e : x ^ n = x ^ n.toNat := by
        conv_lhs => rw [← Int.toNat_of_nonneg hn]
        exact zpow_natCast x n.toNat
      rwa [e]
    · rename_i hn
      split at h
      · exact absurd h (by simp)
      · rename_i hc
        simp only [Option.some.injEq] at h
        have hx0 : x ≠ 0 := not_containsExt_zero (by simpa using hc) hx
        refine ⟨x ^ n, if_neg fun h => hx0 h.2, ?_⟩
        have hpow : x ^ (-n).toNat ∈ Itv.powNatG Inner.X X (-n).toNat := Itv.powNatG_encl Rnd.exact_sound _ hx
        have hne : x ^ (-n).toNat ≠ 0 := pow_ne_zero _ hx0
        have := Itv.mem_of_subset h (Itv.divG_encl Rnd.exact_sound (Itv.mem_point.2 Rat.cast_one.symm) hpow hne)
        have e : x ^ n = 1 / x ^ (-n).toNat := by
          have hn' : 0 ≤ -n := by omega
          have : n = -((-n).toNat : Int) := by rw [Int.toNat_of_nonneg hn']; ring
          conv_lhs => rw [this]
          rw [zpow_neg, zpow_natCast, one_div]
        rwa [e]
  · exact absurd h (by simp)

end Inner
end Ibex
