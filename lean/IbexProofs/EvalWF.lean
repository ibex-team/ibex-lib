/-
  Well-formedness of evaluated values: every matrix value produced by the generic evaluator has
  exactly `r * c` entries (for every algebra, environment, DAG and table of applied functions).
-/
import IbexProofs.EvalCert

namespace Ibex
namespace Eval
variable {α : Type}

/-! ### list lemmas -/

theorem wf_mapM_length {β γ : Type} {f : β → Option γ} {l : List β} {o : List γ} (h : l.mapM f = some o) :
    o.length = l.length :=
  (mapM_eq_some_iff.1 h).length_eq.symm

theorem wf_mapM_mem {β γ : Type} {f : β → Option γ} {l : List β} {o : List γ} (h : l.mapM f = some o) :
    ∀ x ∈ o, ∃ i ∈ l, f i = some x := fun x hx => by
  obtain ⟨k, hk⟩ := List.mem_iff_getElem?.1 hx
  obtain ⟨i, hi, hfi⟩ := forall₂_getElem?_right (mapM_eq_some_iff.1 h) hk
  exact ⟨i, List.mem_of_getElem? hi, hfi⟩

theorem wf_filterMap_length {ι β : Type} {f : ι → Option β} :
    ∀ (l : List ι), (∀ i ∈ l, ∃ b, f i = some b) → (l.filterMap f).length = l.length := by
  intro l
  induction l with
  | nil => intro _; rfl
  | cons a l ih =>
    intro h
    obtain ⟨b, hb⟩ := h a (by simp)
    rw [List.filterMap_cons_some hb]
    simp [ih (fun i hi => h i (by simp [hi]))]

theorem wf_flatMap_length {ι β : Type} {f : ι → List β} {k : Nat} :
    ∀ (l : List ι), (∀ i ∈ l, (f i).length = k) → (l.flatMap f).length = l.length * k := by
  intro l
  induction l with
  | nil => intro _; simp
  | cons a l ih =>
    intro h
    rw [List.flatMap_cons, List.length_append, h a (by simp), ih (fun i hi => h i (by simp [hi])),
      List.length_cons, Nat.succ_mul, Nat.add_comm]

theorem wf_foldl_add (l : List Nat) : ∀ a : Nat, l.foldl (· + ·) a = a + l.sum := by
  induction l with
  | nil => intro a; simp
  | cons b l ih => intro a; simp only [List.foldl_cons, List.sum_cons, ih]; omega

theorem wf_idx_lt {r c i j : Nat} (hi : i < r) (hj : j < c) : i * c + j < r * c := by
  have h1 : (i + 1) * c ≤ r * c := Nat.mul_le_mul_right c hi
  rw [Nat.succ_mul] at h1
  omega

/-! ### matrix operations -/

theorem wf_row_length {m : Mat α} (hm : m.d.length = m.r * m.c) {i : Nat} (hi : i < m.r) :
    (m.row i).length = m.c := by
  unfold Mat.row
  rw [List.length_take, List.length_drop, hm]
  have h1 : (i + 1) * m.c ≤ m.r * m.c := Nat.mul_le_mul_right m.c hi
  rw [Nat.succ_mul] at h1
  omega

theorem wf_transpose {m : Mat α} (hm : m.d.length = m.r * m.c) :
    m.transpose.d.length = m.transpose.r * m.transpose.c := by
  unfold Mat.transpose
  simp only
  rw [wf_flatMap_length (k := m.r), List.length_range]
  intro j hj
  rw [wf_filterMap_length, List.length_range]
  intro i hi
  have hi' : i < m.r := List.mem_range.1 hi
  have hj' : j < m.c := List.mem_range.1 hj
  have hlt : i * m.c + j < m.d.length := by rw [hm]; exact wf_idx_lt hi' hj'
  exact ⟨m.d[i * m.c + j], List.getElem?_eq_getElem hlt⟩

theorem wf_mapM? {β : Type} {f : α → Option β} {m : Mat α} {x : Mat β}
    (hm : m.d.length = m.r * m.c) (hx : m.mapM? f = some x) : x.d.length = x.r * x.c := by
  unfold Mat.mapM? at hx
  simp only [Option.map_eq_some_iff] at hx
  obtain ⟨d, hd, rfl⟩ := hx
  simp only
  rw [wf_mapM_length hd, hm]

theorem wf_zip? {β : Type} {f : α → α → Option β} {a b : Mat α} {x : Mat β}
    (ha : a.d.length = a.r * a.c) (hb : b.d.length = b.r * b.c) (hx : Mat.zip? f a b = some x) :
    x.d.length = x.r * x.c := by
  unfold Mat.zip? at hx
  split at hx
  · rename_i hc
    simp only [Bool.and_eq_true, beq_iff_eq] at hc
    simp only [Option.map_eq_some_iff] at hx
    obtain ⟨d, hd, rfl⟩ := hx
    simp only
    rw [wf_mapM_length hd, List.length_zip, ha, hb, hc.1, hc.2, Nat.min_self]
  · exact absurd hx (by simp)

theorem wf_sub? {m x : Mat α} (hm : m.d.length = m.r * m.c) {r1 r2 c1 c2 : Nat}
    (hx : m.sub? r1 r2 c1 c2 = some x) : x.d.length = x.r * x.c := by
  unfold Mat.sub? at hx
  split at hx
  · rename_i hc
    simp only [Bool.and_eq_true, decide_eq_true_eq] at hc
    obtain ⟨⟨⟨h1, h2⟩, h3⟩, h4⟩ := hc
    simp only [Option.some.injEq] at hx
    subst hx
    simp only
    rw [wf_flatMap_length (k := c2 - c1 + 1), List.length_range]
    intro i hi
    have hi' : i < r2 - r1 + 1 := List.mem_range.1 hi
    rw [List.length_take, List.length_drop, wf_row_length hm (by omega)]
    omega
  · exact absurd hx (by simp)

theorem wf_matMul {A : Alg α} {a b x : Mat α} (hx : matMul A a b = some x) :
    x.d.length = x.r * x.c := by
  unfold matMul at hx
  split at hx
  · exact absurd hx (by simp)
  · simp only [bind, pure, Option.bind_eq_some_iff, Option.some.injEq] at hx
    obtain ⟨d, hd, rfl⟩ := hx
    simp only
    rw [wf_mapM_length hd, wf_flatMap_length (k := b.c), List.length_range]
    intro i _
    simp

theorem wf_mulVal {A : Alg α} {a b x : Mat α} (hb : b.d.length = b.r * b.c)
    (hx : mulVal A a b = some x) : x.d.length = x.r * x.c := by
  unfold mulVal at hx
  split at hx
  · split at hx
    · exact wf_mapM? hb hx
    · exact absurd hx (by simp)
  · exact wf_matMul hx

theorem wf_binVal {A : Alg α} (op : String) {a b x : Mat α} (ha : a.d.length = a.r * a.c)
    (hb : b.d.length = b.r * b.c) : binVal A op a b = some x → x.d.length = x.r * x.c := by
  unfold binVal
  split
  · exact wf_zip? ha hb
  · exact wf_zip? ha hb
  · exact wf_mulVal hb
  · split
    · exact wf_zip? ha hb
    · intro hx; exact absurd hx (by simp)
  · split
    · exact wf_zip? ha hb
    · intro hx; exact absurd hx (by simp)
  · split
    · exact wf_zip? ha hb
    · intro hx; exact absurd hx (by simp)
  · intro hx; exact absurd hx (by simp)

theorem wf_unVal {A : Alg α} (op : String) {a x : Mat α} (ha : a.d.length = a.r * a.c) :
    unVal A op a = some x → x.d.length = x.r * x.c := by
  unfold unVal
  split
  · intro hx
    simp only [Option.some.injEq] at hx
    subst hx
    exact wf_transpose ha
  · intro hx
    simp only [Option.bind_eq_some_iff] at hx
    obtain ⟨f, _, hx⟩ := hx
    exact wf_mapM? ha hx
  · split
    · intro hx
      simp only [Option.bind_eq_some_iff] at hx
      obtain ⟨f, _, hx⟩ := hx
      exact wf_mapM? ha hx
    · intro hx; exact absurd hx (by simp)

theorem wf_rows_length {k : Nat} {i : Nat} : ∀ (parts : List (Mat α)),
    (∀ q ∈ parts, q.d.length = q.r * q.c ∧ q.r = k) → i < k →
    (parts.flatMap fun q => q.row i).length = (parts.map (·.c)).sum := by
  intro parts
  induction parts with
  | nil => intro _ _; simp
  | cons q qs ih =>
    intro h hi
    obtain ⟨hq, hqr⟩ := h q (by simp)
    rw [List.flatMap_cons, List.length_append, wf_row_length hq (by omega),
      ih (fun q' hq' => h q' (by simp [hq'])) hi, List.map_cons, List.sum_cons]

theorem wf_cols_length {k : Nat} : ∀ (parts : List (Mat α)),
    (∀ q ∈ parts, q.d.length = q.r * q.c ∧ q.c = k) →
    (parts.flatMap (·.d)).length = (parts.map (·.r)).sum * k := by
  intro parts
  induction parts with
  | nil => intro _; simp
  | cons q qs ih =>
    intro h
    obtain ⟨hq, hqc⟩ := h q (by simp)
    rw [List.flatMap_cons, List.length_append, hq, hqc,
      ih (fun q' hq' => h q' (by simp [hq'])), List.map_cons, List.sum_cons, Nat.add_mul]

theorem wf_vecVal {row : Bool} {parts : List (Mat α)} {x : Mat α}
    (hp : ∀ q ∈ parts, q.d.length = q.r * q.c) (hx : vecVal row parts = some x) :
    x.d.length = x.r * x.c := by
  cases parts with
  | nil => exact absurd hx (by simp [vecVal])
  | cons p ps =>
    unfold vecVal at hx
    simp only at hx
    split at hx
    · split at hx
      · rename_i hall
        rw [List.all_eq_true] at hall
        simp only [Option.some.injEq] at hx
        subst hx
        simp only
        rw [wf_foldl_add, Nat.zero_add,
          wf_flatMap_length (k := ((p :: ps).map (·.c)).sum), List.length_range]
        intro i hi
        exact wf_rows_length (k := p.r) (p :: ps)
          (fun q hq => ⟨hp q hq, by simpa using hall q hq⟩) (List.mem_range.1 hi)
      · exact absurd hx (by simp)
    · split at hx
      · rename_i hall
        rw [List.all_eq_true] at hall
        simp only [Option.some.injEq] at hx
        subst hx
        simp only
        rw [wf_foldl_add, Nat.zero_add]
        exact wf_cols_length (k := p.c) (p :: ps)
          (fun q hq => ⟨hp q hq, by simpa using hall q hq⟩)
      · exact absurd hx (by simp)

/-! ### the evaluator -/

def WFv (vals : Array (Mat α)) : Prop :=
  ∀ (j : Nat) (v : Mat α), vals[j]? = some v → v.d.length = v.r * v.c

def CallWF (call : Nat → List (Mat α) → Option (Mat α)) : Prop :=
  ∀ (f : Nat) (as : List (Mat α)) (v : Mat α), call f as = some v → v.d.length = v.r * v.c

theorem nodeVal_wf {A : Alg α} {env : List α} {call : Nat → List (Mat α) → Option (Mat α)}
    {vals : Array (Mat α)} (hv : WFv vals) (hc : CallWF call) (n : Node) {x : Mat α} :
    nodeVal A env call vals n = some x → x.d.length = x.r * x.c := by
  obtain ⟨k, r, c⟩ := n
  cases k with
  | var off =>
    intro hx
    simp only [nodeVal] at hx
    split at hx
    · rename_i hl
      cases hx
      exact eq_of_beq hl
    · cases hx
  | const vs =>
    intro hx
    obtain ⟨d, _, hx⟩ := Option.bind_eq_some_iff.1 hx
    split at hx
    · rename_i hl
      cases hx
      exact eq_of_beq hl
    · cases hx
  | un op a =>
    intro hx
    obtain ⟨va, hva, hx⟩ := Option.bind_eq_some_iff.1 hx
    exact wf_unVal op (hv _ _ hva) hx
  | bin op a b =>
    intro hx
    obtain ⟨va, hva, hx⟩ := Option.bind_eq_some_iff.1 hx
    obtain ⟨vb, hvb, hx⟩ := Option.bind_eq_some_iff.1 hx
    exact wf_binVal op (hv _ _ hva) (hv _ _ hvb) hx
  | pow a k =>
    intro hx
    obtain ⟨va, hva, hx⟩ := Option.bind_eq_some_iff.1 hx
    split at hx
    · exact wf_mapM? (hv _ _ hva) hx
    · cases hx
  | idx a r1 r2 c1 c2 =>
    intro hx
    obtain ⟨va, hva, hx⟩ := Option.bind_eq_some_iff.1 hx
    exact wf_sub? (hv _ _ hva) hx
  | vec row as =>
    intro hx
    obtain ⟨ms, hms, hx⟩ := Option.bind_eq_some_iff.1 hx
    refine wf_vecVal (fun q hq => ?_) hx
    obtain ⟨i, _, hi⟩ := wf_mapM_mem hms q hq
    exact hv _ _ hi
  | chi a b c' =>
    intro hx
    obtain ⟨va, _, hx⟩ := Option.bind_eq_some_iff.1 hx
    obtain ⟨vb, _, hx⟩ := Option.bind_eq_some_iff.1 hx
    obtain ⟨vc, _, hx⟩ := Option.bind_eq_some_iff.1 hx
    split at hx
    · obtain ⟨s, _, rfl⟩ := Option.map_eq_some_iff.1 hx
      rfl
    · cases hx
  | apply f as =>
    intro hx
    obtain ⟨ms, _, hx⟩ := Option.bind_eq_some_iff.1 hx
    exact hc _ _ _ hx

theorem fold_wf {A : Alg α} {env : List α} {call : Nat → List (Mat α) → Option (Mat α)}
    (hc : CallWF call) :
    ∀ (ns : List Node) {v r : Array (Mat α)}, WFv v → ns.foldlM (step A env call) v = some r →
      WFv r := by
  intro ns v r hv h
  refine fold_inv h (P := fun _ w => WFv w) hv fun i n w x _ _ hw hx _ j y hj => ?_
  rw [Array.getElem?_push] at hj
  split at hj
  · cases hj
    exact nodeVal_wf hw hc n hx
  · exact hw j y hj

theorem root_wf_gen {A : Alg α} {env : List α} {call : Nat → List (Mat α) → Option (Mat α)}
    (hc : CallWF call) {dag : Dag} {v : Mat α} (h : root A env call dag = some v) :
    v.d.length = v.r * v.c := by
  unfold root at h
  simp only [Option.bind_eq_some_iff] at h
  obtain ⟨r, hr, h⟩ := h
  rw [run_eq] at hr
  rw [Array.back?_eq_getElem?] at h
  exact fold_wf hc _ (fun j v hj => by simp at hj) hr _ _ h

theorem buildCalls_wf (A : Alg α) (funs : List Dag) : CallWF (buildCalls A funs) := by
  refine buildCalls_induction (B := A) (P := fun t _ => CallWF t) funs (fun f as v hx => nomatch hx)
    fun d _ k t _ ih => ?_
  intro f as v hx
  dsimp only at hx
  split at hx
  · exact root_wf_gen ih hx
  · exact ih _ _ _ hx

theorem root_wf (A : Alg α) (env : List α) (funs : List Dag) (dag : Dag) {v : Mat α}
    (h : root A env (buildCalls A funs) dag = some v) : v.d.length = v.r * v.c :=
  root_wf_gen (buildCalls_wf A funs) h

end Eval
end Ibex
