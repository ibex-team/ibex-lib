/-
  C20 — soundness of the linearisation certificates of `IbexModel/Linearize.lean` over the reals.
  First-order rows: with slopes `s_j ∈ G_j` such that `g x − g c = Σ s_j (x_j − c_j)`, a coefficient chosen on the
  right side of `G_j` (according to the sign that `x_j − c_j` can take on the box) gives a valid relaxation /
  restriction; exact range of a linear form over a box; duality rows.
-/
import IbexProofs.Basic
import IbexProofs.Arith
import Mathlib.Tactic.Linarith
import Mathlib.Tactic.Ring
import Mathlib.Tactic.Positivity

namespace Ibex

theorem Itv.fin_le_of_mem_lo {a : ℚ} {gl gu : Ext} {s : ℝ} (h : Ext.le (.fin a) gl = true) (hs : s ∈ Itv.mk gl gu) : (a : ℝ) ≤ s := by
  rw [Ext.le_iff] at h
  exact EReal.coe_le_coe_iff.1 (le_trans h hs.1)

theorem Itv.le_fin_of_mem_hi {a : ℚ} {gl gu : Ext} {s : ℝ} (h : Ext.le gu (.fin a) = true) (hs : s ∈ Itv.mk gl gu) : s ≤ (a : ℝ) := by
  rw [Ext.le_iff] at h
  exact EReal.coe_le_coe_iff.1 (le_trans hs.2 h)

theorem Ext.le_fin_self (q : ℚ) : Ext.le (.fin q) (.fin q) = true := (Ext.le_iff _ _).2 le_rfl

namespace Lin
open List

/-! ### real semantics -/

def dotR : List ℝ → List ℝ → ℝ
  | a :: as, x :: xs => a * x + dotR as xs
  | _, _ => 0

@[simp] theorem dotR_nil_left (x : List ℝ) : dotR [] x = 0 := by cases x <;> rfl
@[simp] theorem dotR_nil_right (a : List ℝ) : dotR a [] = 0 := by cases a <;> rfl
@[simp] theorem dotR_cons (a x : ℝ) (as xs : List ℝ) : dotR (a :: as) (x :: xs) = a * x + dotR as xs := rfl

def castL (l : List ℚ) : List ℝ := l.map fun q => (q : ℝ)

@[simp] theorem castL_nil : castL [] = [] := rfl
@[simp] theorem castL_cons (q : ℚ) (l : List ℚ) : castL (q :: l) = (q : ℝ) :: castL l := rfl
@[simp] theorem castL_length (l : List ℚ) : (castL l).length = l.length := by simp [castL]

theorem dot_cast : ∀ (a x : List ℚ), ((dot a x : ℚ) : ℝ) = dotR (castL a) (castL x)
  | [], [] => Rat.cast_zero
  | [], _ :: _ => Rat.cast_zero
  | _ :: _, [] => Rat.cast_zero
  | a :: as, x :: xs => by rw [dot, Rat.cast_add, Rat.cast_mul, dot_cast as xs]; rfl

def BoxMem (x : List ℝ) (box : Box) : Prop := Forall₂ (fun (t : ℝ) (I : Itv) => t ∈ I) x box

theorem BoxMem.length_eq {x : List ℝ} {box : Box} (h : BoxMem x box) : x.length = box.length := Forall₂.length_eq h

def subR (x c : List ℝ) : List ℝ := zipWith (· - ·) x c

@[simp] theorem subR_cons (x c : ℝ) (xs cs : List ℝ) : subR (x :: xs) (c :: cs) = (x - c) :: subR xs cs := rfl

theorem dotR_split : ∀ (a x c : List ℝ), a.length = x.length → a.length = c.length →
    dotR a x = dotR a c + dotR a (subR x c)
  | [], _, _, _, _ => by simp
  | a :: as, [], _, h, _ => by simp at h
  | a :: as, _ :: _, [], _, h => by simp at h
  | a :: as, x :: xs, c :: cs, h1, h2 => by
    simp only [length_cons, Nat.add_right_cancel_iff] at h1 h2
    simp only [dotR_cons, subR_cons, dotR_split as xs cs h1 h2]
    ring

def Row.SatR (r : Row) (x : List ℝ) : Prop :=
  r.lo.toE ≤ ((dotR (castL r.a) x : ℝ) : EReal) ∧ ((dotR (castL r.a) x : ℝ) : EReal) ≤ r.hi.toE

def LeRow.SatR (r : LeRow) (x : List ℝ) : Prop := ((dotR (castL r.a) x : ℝ) : EReal) ≤ r.b.toE

theorem dotR_map_neg : ∀ (s d : List ℝ), dotR (s.map fun t => -t) d = - dotR s d
  | [], d => by simp
  | _ :: _, [] => by simp
  | s :: ss, d :: ds => by simp only [map_cons, dotR_cons, dotR_map_neg ss ds]; ring

theorem castL_map_neg : ∀ a : List ℚ, castL (a.map fun q => -q) = (castL a).map fun t => -t
  | [] => rfl
  | q :: a => by rw [map_cons, castL_cons, castL_cons, map_cons, castL_map_neg a, Rat.cast_neg]

theorem dotR_neg_left (a : List ℚ) (x : List ℝ) : dotR (castL (a.map fun q => -q)) x = - dotR (castL a) x := by
  rw [castL_map_neg, dotR_map_neg]

theorem Row.satR_iff_sides (r : Row) (x : List ℝ) : r.SatR x ↔ ∀ s ∈ r.sides, s.SatR x := by
  unfold Row.SatR Row.sides
  have hneg : ∀ (lo : Ext), LeRow.SatR ⟨r.a.map (fun q => -q), Ext.neg lo⟩ x ↔ lo.toE ≤ ((dotR (castL r.a) x : ℝ) : EReal) := by
    intro lo
    unfold LeRow.SatR
    simp only [dotR_neg_left, Ext.toE_neg, EReal.coe_neg]
    exact EReal.neg_le_neg_iff
  constructor
  · rintro ⟨h1, h2⟩ s hs
    simp only [mem_append] at hs
    rcases hs with hs | hs
    · split at hs
      · simp at hs
      · simp only [mem_singleton] at hs; subst hs; exact h2
    · split at hs
      · simp at hs
      · simp only [mem_singleton] at hs; subst hs; exact (hneg _).2 h1
  · intro h
    constructor
    · by_cases hlo : r.lo = .ninf
      · simp [hlo]
      · exact (hneg _).1 (h ⟨r.a.map (fun q => -q), Ext.neg r.lo⟩ (by simp [hlo]))
    · by_cases hhi : r.hi = .pinf
      · simp [hhi]
      · exact h ⟨r.a, r.hi⟩ (by simp [hhi])

theorem mem_sidesOf {rows : List Row} {s : LeRow} : s ∈ sidesOf rows ↔ ∃ r ∈ rows, s ∈ r.sides := by
  simp [sidesOf, mem_flatMap]

def Cmp.HoldsR : Cmp → ℝ → Prop
  | .lt, v => v < 0
  | .leq, v => v ≤ 0
  | .eq, v => v = 0
  | .geq, v => 0 ≤ v
  | .gt, v => 0 < v

/-- `s·v` for a sign (`true` = minus) -/
def sg (neg : Bool) (v : ℝ) : ℝ := if neg then -v else v

theorem Cmp.signs_sound {op : Cmp} {v : ℝ} (h : op.HoldsR v) {s : Bool} (hs : s ∈ op.signs) : sg s v ≤ 0 := by
  cases op <;> simp only [Cmp.signs, mem_cons, not_mem_nil, or_false] at hs
  · subst hs; exact le_of_lt h
  · subst hs; exact h
  · rcases hs with rfl | rfl
    · exact le_of_eq h
    · exact neg_nonpos.2 (ge_of_eq h)
  · subst hs; exact neg_nonpos.2 h
  · subst hs; exact neg_nonpos.2 (le_of_lt h)

theorem Cmp.rsign_sound {op : Cmp} {s : Bool} (hs : op.rsign = some s) {v : ℝ} (h : sg s v ≤ 0) : op.weak.HoldsR v := by
  cases op <;> cases hs
  exacts [h, h, neg_nonpos.1 h, neg_nonpos.1 h]

theorem mem_sgn {neg : Bool} {v : ℝ} {I : Itv} (h : v ∈ I) : sg neg v ∈ sgn neg I := by
  unfold sg sgn
  cases neg
  · simpa using h
  · simpa using Itv.neg_encl h

theorem canUp_of_lt {bx : Itv} {c : ℚ} {x : ℝ} (hx : x ∈ bx) (h : (c : ℝ) < x) : canUp bx c = true := by
  cases bx with
  | empty => exact absurd hx (Itv.not_mem_empty x)
  | mk lo hi =>
    simp only [canUp, Ext.lt_iff, Ext.toE_fin]
    exact lt_of_lt_of_le (EReal.coe_lt_coe_iff.2 h) hx.2

theorem canDown_of_lt {bx : Itv} {c : ℚ} {x : ℝ} (hx : x ∈ bx) (h : x < (c : ℝ)) : canDown bx c = true := by
  cases bx with
  | empty => exact absurd hx (Itv.not_mem_empty x)
  | mk lo hi =>
    simp only [canDown, Ext.lt_iff, Ext.toE_fin]
    exact lt_of_le_of_lt hx.1 (EReal.coe_lt_coe_iff.2 h)

theorem mul_sub_le_mul_sub {a s x c : ℝ} (hup : c < x → a ≤ s) (hdn : x < c → s ≤ a) : a * (x - c) ≤ s * (x - c) := by
  rcases lt_trichotomy c x with h | rfl | h
  · exact mul_le_mul_of_nonneg_right (hup h) (sub_nonneg.2 h.le)
  · simp
  · exact mul_le_mul_of_nonpos_right (hdn h) (sub_nonpos.2 h.le)

theorem of_not_or {a P : Bool} (h : (!a || P) = true) (ha : a = true) : P = true := by
  rw [ha] at h; exact h

theorem coefRelax_le {bx : Itv} {c a : ℚ} {G : Itv} {x s : ℝ} (h : coefRelax bx c a G = true) (hx : x ∈ bx) (hs : s ∈ G) :
    (a : ℝ) * (x - c) ≤ s * (x - c) := by
  cases G with
  | empty => exact absurd hs (Itv.not_mem_empty s)
  | mk gl gu =>
    simp only [coefRelax, Bool.and_eq_true] at h
    exact mul_sub_le_mul_sub (fun hlt => Itv.fin_le_of_mem_lo (of_not_or h.1 (canUp_of_lt hx hlt)) hs)
      (fun hgt => Itv.le_fin_of_mem_hi (of_not_or h.2 (canDown_of_lt hx hgt)) hs)

theorem coefRestrict_le {bx : Itv} {c a : ℚ} {G : Itv} {x s : ℝ} (h : coefRestrict bx c a G = true) (hx : x ∈ bx) (hs : s ∈ G) :
    s * (x - c) ≤ (a : ℝ) * (x - c) := by
  cases G with
  | empty => exact absurd hs (Itv.not_mem_empty s)
  | mk gl gu =>
    simp only [coefRestrict, Bool.and_eq_true] at h
    exact mul_sub_le_mul_sub (fun hlt => Itv.le_fin_of_mem_hi (of_not_or h.1 (canUp_of_lt hx hlt)) hs)
      (fun hgt => Itv.fin_le_of_mem_lo (of_not_or h.2 (canDown_of_lt hx hgt)) hs)

theorem coefsAll_length {p : Itv → ℚ → ℚ → Itv → Bool} {box : Box} {c a : List ℚ} {G : List Itv}
    (h : coefsAll p box c a G = true) : c.length = box.length ∧ a.length = box.length ∧ G.length = box.length := by
  fun_induction coefsAll p box c a G with
  | case1 => simp
  | case2 bx bs c cs a as g gs ih =>
    rw [Bool.and_eq_true] at h
    simp [ih h.2]
  | case3 => cases h

/-- `R` is `≤` for RELAX and `≥` for RESTRICT -/
theorem coefsAll_dot {p : Itv → ℚ → ℚ → Itv → Bool} {R : ℝ → ℝ → Prop}
    (hp : ∀ {bx c a G} {x s : ℝ}, p bx c a G = true → x ∈ bx → s ∈ G → R ((a : ℝ) * (x - c)) (s * (x - c)))
    (hadd : ∀ {u v u' v' : ℝ}, R u v → R u' v' → R (u + u') (v + v')) (h0 : R 0 0)
    {box : Box} {c a : List ℚ} {G : List Itv} {x s : List ℝ} (h : coefsAll p box c a G = true) (hx : BoxMem x box)
    (hs : BoxMem s G) :
    R (dotR (castL a) (subR x (castL c))) (dotR s (subR x (castL c))) := by
  fun_induction coefsAll p box c a G generalizing x s with
  | case1 => cases hx; cases hs; simpa using h0
  | case2 bx bs c cs a as g gs ih =>
    rw [Bool.and_eq_true] at h
    cases hx with | cons hx1 hxs =>
    cases hs with | cons hs1 hss =>
    exact hadd (hp h.1 hx1 hs1) (ih h.2 hxs hss)
  | case3 => cases h

theorem coefs_relax_le {box : Box} {c a : List ℚ} {G : List Itv} {x s : List ℝ}
    (h : coefsAll coefRelax box c a G = true) (hx : BoxMem x box) (hs : BoxMem s G) :
    dotR (castL a) (subR x (castL c)) ≤ dotR s (subR x (castL c)) :=
  coefsAll_dot (R := (· ≤ ·)) (fun h hx hs => coefRelax_le h hx hs) (fun h1 h2 => add_le_add h1 h2) le_rfl h hx hs

theorem coefs_restrict_le {box : Box} {c a : List ℚ} {G : List Itv} {x s : List ℝ}
    (h : coefsAll coefRestrict box c a G = true) (hx : BoxMem x box) (hs : BoxMem s G) :
    dotR s (subR x (castL c)) ≤ dotR (castL a) (subR x (castL c)) :=
  coefsAll_dot (R := (· ≥ ·)) (fun h hx hs => coefRestrict_le h hx hs) (fun h1 h2 => add_le_add h1 h2) le_rfl h hx hs

/-! ### slope enclosures -/

/-- `v` encloses `g c` and `G` encloses slopes of `g` between `c` and every point of the box:
    `g x − g c = Σ_j s_j (x_j − c_j)` with `s_j ∈ G_j` (Hansen matrix row, or Jacobian row by the mean value theorem) -/
def SlopeEncl (g : List ℝ → ℝ) (box : Box) (c : List ℚ) (v : Itv) (G : List Itv) : Prop :=
  g (castL c) ∈ v ∧ ∀ x, BoxMem x box →
    ∃ s : List ℝ, Forall₂ (fun (t : ℝ) (I : Itv) => t ∈ I) s G ∧ g x - g (castL c) = dotR s (subR x (castL c))

theorem SlopeEncl.sgn {g : List ℝ → ℝ} {box : Box} {c : List ℚ} {v : Itv} {G : List Itv} (h : SlopeEncl g box c v G)
    (neg : Bool) : SlopeEncl (fun x => sg neg (g x)) box c (sgn neg v) (G.map (sgn neg)) := by
  refine ⟨mem_sgn h.1, fun x hx => ?_⟩
  obtain ⟨s, hs, heq⟩ := h.2 x hx
  cases neg
  · refine ⟨s, ?_, by simpa [sg] using heq⟩
    simpa [Lin.sgn] using hs
  · refine ⟨s.map fun t => -t, ?_, ?_⟩
    · rw [forall₂_map_left_iff, forall₂_map_right_iff]
      exact hs.imp fun {a b} hab => by simpa [Lin.sgn] using Itv.neg_encl hab
    · simp only [sg, if_true, dotR_map_neg]
      linarith

/-! ### the two row theorems -/

theorem dotR_expand {a c : List ℚ} {x : List ℝ} (ha : a.length = x.length) (hc : c.length = x.length) :
    dotR (castL a) x = ((dot a c : ℚ) : ℝ) + dotR (castL a) (subR x (castL c)) := by
  rw [dot_cast]; exact dotR_split _ _ _ (by simp [ha]) (by simp [ha, hc])

theorem SlopeEncl.slopes {g : List ℝ → ℝ} {box : Box} {c : List ℚ} {v : Itv} {G : List Itv} {x : List ℝ}
    (hv : SlopeEncl g box c v G) (hx : BoxMem x box) :
    ∃ s, BoxMem s G ∧ g x = g (castL c) + dotR s (subR x (castL c)) := by
  obtain ⟨s, hs, heq⟩ := hv.2 x hx
  exact ⟨s, hs, by linarith⟩

theorem rhsRelax_le {a c : List ℚ} {v : Itv} {b : Ext} (h : rhsRelax a c v b = true) {t : ℝ} (ht : t ∈ v) :
    (((dot a c : ℚ) - t : ℝ) : EReal) ≤ b.toE := by
  unfold rhsRelax at h
  split at h
  · refine le_trans (EReal.coe_le_coe_iff.2 ?_) ((Ext.le_iff _ _).1 h)
    have := EReal.coe_le_coe_iff.1 ht.1
    push_cast; linarith
  · rw [beq_iff_eq.1 h]; exact le_top

theorem le_rhsRestrict {a c : List ℚ} {v : Itv} {b : Ext} (h : rhsRestrict a c v b = true) {t : ℝ} (ht : t ∈ v) :
    b.toE ≤ (((dot a c : ℚ) - t : ℝ) : EReal) := by
  unfold rhsRestrict at h
  split at h
  · refine le_trans ((Ext.le_iff _ _).1 h) (EReal.coe_le_coe_iff.2 ?_)
    have := EReal.coe_le_coe_iff.1 ht.2
    push_cast; linarith
  · rw [beq_iff_eq.1 h]; exact bot_le

/-- **RELAX row.**  Coefficients on the relaxing side of the slopes, right-hand side `≥ a·c − lb g(c)`:
    every point of the box with `g x ≤ 0` satisfies `a·x ≤ b`. -/
theorem relax_row_valid {g : List ℝ → ℝ} {box : Box} {c a : List ℚ} {v : Itv} {G : List Itv} {b : Ext} {x : List ℝ}
    (hv : SlopeEncl g box c v G) (hco : coefsAll coefRelax box c a G = true) (hr : rhsRelax a c v b = true)
    (hx : BoxMem x box) (hg : g x ≤ 0) : ((dotR (castL a) x : ℝ) : EReal) ≤ b.toE := by
  have hlen := coefsAll_length hco
  obtain ⟨s, hs, hgx⟩ := hv.slopes hx
  have hax := dotR_expand (hlen.2.1.trans hx.length_eq.symm) (hlen.1.trans hx.length_eq.symm)
  have hle := coefs_relax_le hco hx hs
  refine le_trans (EReal.coe_le_coe_iff.2 ?_) (rhsRelax_le hr hv.1)
  linarith

/-- **RESTRICT row.**  Coefficients on the restricting side of the slopes, right-hand side `≤ a·c − ub g(c)`:
    every point of the box with `a·x ≤ b` satisfies `g x ≤ 0`. -/
theorem restrict_row_valid {g : List ℝ → ℝ} {box : Box} {c a : List ℚ} {v : Itv} {G : List Itv} {b : Ext} {x : List ℝ}
    (hv : SlopeEncl g box c v G) (hco : coefsAll coefRestrict box c a G = true) (hr : rhsRestrict a c v b = true)
    (hx : BoxMem x box) (hrow : ((dotR (castL a) x : ℝ) : EReal) ≤ b.toE) : g x ≤ 0 := by
  have hlen := coefsAll_length hco
  obtain ⟨s, hs, hgx⟩ := hv.slopes hx
  have hax := dotR_expand (hlen.2.1.trans hx.length_eq.symm) (hlen.1.trans hx.length_eq.symm)
  have hle := coefs_restrict_le hco hx hs
  have := EReal.coe_le_coe_iff.1 (le_trans hrow (le_rhsRestrict hr hv.1))
  linarith

/-! ### exact range of a linear form over a box -/

theorem minTerm_le {a : ℚ} {bx : Itv} {t : ℚ} {x : ℝ} (h : minTerm a bx = some t) (hx : x ∈ bx) : (t : ℝ) ≤ (a : ℝ) * x := by
  cases bx with
  | empty => exact absurd hx (Itv.not_mem_empty x)
  | mk lo hi =>
    simp only [minTerm] at h
    split_ifs at h with h0 hpos
    · cases h; simp [h0]
    · cases lo <;> cases h
      push_cast
      exact mul_le_mul_of_nonneg_left (EReal.coe_le_coe_iff.1 hx.1) (by exact_mod_cast hpos.le)
    · cases hi <;> cases h
      push_cast
      exact mul_le_mul_of_nonpos_left (EReal.coe_le_coe_iff.1 hx.2) (by exact_mod_cast not_lt.1 hpos)

theorem le_maxTerm {a : ℚ} {bx : Itv} {t : ℚ} {x : ℝ} (h : maxTerm a bx = some t) (hx : x ∈ bx) : (a : ℝ) * x ≤ (t : ℝ) := by
  cases bx with
  | empty => exact absurd hx (Itv.not_mem_empty x)
  | mk lo hi =>
    simp only [maxTerm] at h
    split_ifs at h with h0 hpos
    · cases h; simp [h0]
    · cases hi <;> cases h
      push_cast
      exact mul_le_mul_of_nonneg_left (EReal.coe_le_coe_iff.1 hx.2) (by exact_mod_cast hpos.le)
    · cases lo <;> cases h
      push_cast
      exact mul_le_mul_of_nonpos_left (EReal.coe_le_coe_iff.1 hx.1) (by exact_mod_cast not_lt.1 hpos)

theorem minDot_le {a : List ℚ} {box : Box} {m : ℚ} {x : List ℝ} (h : minDot a box = some m) (hx : BoxMem x box) :
    (m : ℝ) ≤ dotR (castL a) x := by
  fun_induction minDot a box generalizing m x with
  | case1 => cases hx; cases h; simp
  | case2 a as bx bs t r hr ht ih =>
    cases hx with | cons hx1 hxs =>
    cases h
    have := minTerm_le ht hx1
    have := ih hr hxs
    rw [castL_cons, dotR_cons]; push_cast; linarith
  | case3 => cases h
  | case4 => cases h

theorem le_maxDot {a : List ℚ} {box : Box} {m : ℚ} {x : List ℝ} (h : maxDot a box = some m) (hx : BoxMem x box) :
    dotR (castL a) x ≤ (m : ℝ) := by
  fun_induction maxDot a box generalizing m x with
  | case1 => cases hx; cases h; simp
  | case2 a as bx bs t r hr ht ih =>
    cases hx with | cons hx1 hxs =>
    cases h
    have := le_maxTerm ht hx1
    have := ih hr hxs
    rw [castL_cons, dotR_cons]; push_cast; linarith
  | case3 => cases h
  | case4 => cases h

theorem rowUnsat_sound {box : Box} {r : LeRow} (h : rowUnsat box r = true) {x : List ℝ} (hx : BoxMem x box) : ¬ r.SatR x := by
  unfold rowUnsat at h
  unfold LeRow.SatR
  split at h
  · rename_i m b hm hb
    rw [hb]
    have := minDot_le hm hx
    have hlt : (b : ℝ) < (m : ℝ) := by exact_mod_cast of_decide_eq_true h
    simp only [Ext.toE_fin, EReal.coe_le_coe_iff, not_le]
    linarith
  · rename_i hb
    rw [hb]; simp
  · simp at h

theorem rowRedundant_sound {box : Box} {r : LeRow} (h : rowRedundant box r = true) {x : List ℝ} (hx : BoxMem x box) : r.SatR x := by
  unfold rowRedundant at h
  unfold LeRow.SatR
  split at h
  · rename_i m b hm hb
    rw [hb]
    have := le_maxDot hm hx
    have hle : (m : ℝ) ≤ (b : ℝ) := by exact_mod_cast of_decide_eq_true h
    simp only [Ext.toE_fin, EReal.coe_le_coe_iff]
    linarith
  · rename_i hb
    rw [hb]; simp
  · simp at h

/-! ### the model row -/

theorem finOf_eq {e : Ext} {q : ℚ} (h : finOf e = some q) : e = .fin q := by
  cases e <;> simp [finOf] at h; subst h; rfl

theorem selRelax_coef {bx : Itv} {c : ℚ} {g : Itv} {a : ℚ} (h : selRelax bx c g = some a) : coefRelax bx c a g = true := by
  cases g with
  | empty => cases h
  | mk gl gu =>
    simp only [selRelax] at h
    simp only [coefRelax]
    cases hu : canUp bx c <;> cases hd : canDown bx c <;> simp only [hu, hd] at h ⊢
    case false.false => rfl
    case false.true => rw [finOf_eq h]; simp [Ext.le_fin_self]
    case true.false => rw [finOf_eq h]; simp [Ext.le_fin_self]
    case true.true =>
      split_ifs at h with he
      rw [← beq_iff_eq.1 he, finOf_eq h]; simp [Ext.le_fin_self]

theorem selRestrict_coef {bx : Itv} {c : ℚ} {g : Itv} {a : ℚ} (h : selRestrict bx c g = some a) : coefRestrict bx c a g = true := by
  cases g with
  | empty => cases h
  | mk gl gu =>
    simp only [selRestrict] at h
    simp only [coefRestrict]
    cases hu : canUp bx c <;> cases hd : canDown bx c <;> simp only [hu, hd] at h ⊢
    case false.false => rfl
    case false.true => rw [finOf_eq h]; simp [Ext.le_fin_self]
    case true.false => rw [finOf_eq h]; simp [Ext.le_fin_self]
    case true.true =>
      split_ifs at h with he
      rw [← beq_iff_eq.1 he, finOf_eq h]; simp [Ext.le_fin_self]

theorem selAll_coefs {sel : Itv → ℚ → Itv → Option ℚ} {p : Itv → ℚ → ℚ → Itv → Bool}
    (hsp : ∀ {bx c g a}, sel bx c g = some a → p bx c a g = true) {box : Box} {c : List ℚ} {G : List Itv} {a : List ℚ}
    (h : selAll sel box c G = some a) : coefsAll p box c a G = true := by
  fun_induction selAll sel box c G generalizing a with
  | case1 => cases h; rfl
  | case2 bx bs c cs g gs a0 as hs h0 ih => cases h; simp [coefsAll, hsp h0, ih hs]
  | case3 => cases h
  | case4 => cases h

/-! ### systems, expansions, certificates -/

/-- the nonlinear system: real functions with their comparison operators (`g(x) op 0`) -/
abbrev NLSys := List ((List ℝ → ℝ) × Cmp)

def opsOf (sys : NLSys) : List Cmp := sys.map (·.2)

def Feasible (sys : NLSys) (x : List ℝ) : Prop := ∀ p ∈ sys, p.2.HoldsR (p.1 x)

/-- feasibility with the non-strict reading of `<`, `>` -/
def WeakFeasible (sys : NLSys) (x : List ℝ) : Prop := ∀ p ∈ sys, p.2.weak.HoldsR (p.1 x)

theorem opsOf_get {sys : NLSys} {i : ℕ} {op : Cmp} (h : (opsOf sys)[i]? = some op) : ∃ g, sys[i]? = some (g, op) := by
  simp only [opsOf, getElem?_map, Option.map_eq_some_iff] at h
  obtain ⟨p, hp, rfl⟩ := h
  exact ⟨p.1, hp⟩

/-- every line of the expansion is what the library's contract promises (C02: value enclosure at `c`;
    C08: slope enclosure on the box) for the constraint function it is attached to -/
def Expansion.Valid (sys : NLSys) (box : Box) (E : Expansion) : Prop :=
  ∀ G, E.G = some G → ∀ (k i : ℕ) (gk : List Itv) (v : Itv) (g : List ℝ → ℝ) (op : Cmp),
    E.act[k]? = some i → G[k]? = some gk → E.gc[k]? = some v → sys[i]? = some (g, op) → SlopeEncl g box E.c v gk

theorem Expansion.line_valid {sys : NLSys} {box : Box} {E : Expansion} (hE : E.Valid sys box) {k : ℕ} {neg : Bool}
    {G' : List Itv} {v' : Itv} (hl : E.line k neg = some (G', v')) {i : ℕ} {g : List ℝ → ℝ} {op : Cmp}
    (hi : E.act[k]? = some i) (hg : sys[i]? = some (g, op)) : SlopeEncl (fun x => sg neg (g x)) box E.c v' G' := by
  unfold Expansion.line at hl
  split at hl
  · simp at hl
  · rename_i G hG
    split at hl
    · rename_i gk v hgk hv
      simp only [Option.some.injEq, Prod.mk.injEq] at hl
      obtain ⟨rfl, rfl⟩ := hl
      exact (hE G hG k i gk v g op hi hgk hv hg).sgn neg
    · simp at hl

theorem mem_relaxLines {ops : List Cmp} {E : Expansion} {k : ℕ} {s : Bool} (h : (k, s) ∈ relaxLines ops E) :
    ∃ i op, E.act[k]? = some i ∧ ops[i]? = some op ∧ s ∈ op.signs := by
  simp only [relaxLines, mem_flatMap, mem_range] at h
  obtain ⟨k', _, hks⟩ := h
  split at hks
  · rename_i i hi
    split at hks
    · rename_i op hop
      simp only [mem_map, Prod.mk.injEq] at hks
      obtain ⟨s', hs', rfl, rfl⟩ := hks
      exact ⟨i, op, hi, hop, hs'⟩
    · simp at hks
  · simp at hks

theorem justRelax_sound {sys : NLSys} {box : Box} {E : Expansion} (hE : E.Valid sys box) {r : LeRow} {k : ℕ} {neg : Bool}
    (h : justRelax box E r k neg = true) {i : ℕ} {g : List ℝ → ℝ} {op : Cmp} (hi : E.act[k]? = some i)
    (hg : sys[i]? = some (g, op)) {x : List ℝ} (hx : BoxMem x box) (hgx : sg neg (g x) ≤ 0) : r.SatR x := by
  unfold justRelax at h
  split at h
  · rename_i G' v' hl
    simp only [Bool.and_eq_true] at h
    exact relax_row_valid (Expansion.line_valid hE hl hi hg) h.1 h.2 hx hgx
  · simp at h

theorem justRestrict_sound {sys : NLSys} {box : Box} {E : Expansion} (hE : E.Valid sys box) {r : LeRow} {k : ℕ} {neg : Bool}
    (h : justRestrict box E r k neg = true) {i : ℕ} {g : List ℝ → ℝ} {op : Cmp} (hi : E.act[k]? = some i)
    (hg : sys[i]? = some (g, op)) {x : List ℝ} (hx : BoxMem x box) (hr : r.SatR x) : sg neg (g x) ≤ 0 := by
  unfold justRestrict at h
  split at h
  · rename_i G' v' hl
    simp only [Bool.and_eq_true] at h
    exact restrict_row_valid (Expansion.line_valid hE hl hi hg) h.1 h.2 hx hr
  · simp at h

theorem LeRow.SatR.mono {f r : LeRow} {x : List ℝ} (h : f.SatR x) (ha : f.a = r.a) (hb : Ext.le f.b r.b = true) :
    r.SatR x := by
  unfold LeRow.SatR at h ⊢
  rw [← ha]
  exact le_trans h ((Ext.le_iff _ _).1 hb)

theorem fromFixed_sound {fixed : List LeRow} {r : LeRow} (h : fromFixed fixed r = true) {x : List ℝ}
    (hf : ∀ f ∈ fixed, f.SatR x) : r.SatR x := by
  simp only [fromFixed, any_eq_true, Bool.and_eq_true, beq_iff_eq] at h
  obtain ⟨f, hfm, ha, hb⟩ := h
  exact (hf f hfm).mono ha hb

theorem relaxRowCert_sound {sys : NLSys} {box : Box} {Es : List Expansion} {fixed : List LeRow} {r : LeRow}
    (hE : ∀ E ∈ Es, E.Valid sys box) (h : relaxRowCert box (opsOf sys) Es fixed r = true) {x : List ℝ}
    (hx : BoxMem x box) (hfeas : Feasible sys x) (hf : ∀ f ∈ fixed, f.SatR x) : r.SatR x := by
  simp only [relaxRowCert, Bool.or_eq_true, beq_iff_eq, any_eq_true] at h
  rcases h with (hb | hfx) | ⟨E, hEm, ks, hks, hj⟩
  · unfold LeRow.SatR; rw [hb]; simp
  · exact fromFixed_sound hfx hf
  · obtain ⟨i, op, hi, hop, hs⟩ := mem_relaxLines (k := ks.1) (s := ks.2) hks
    obtain ⟨g, hg⟩ := opsOf_get hop
    exact justRelax_sound (hE E hEm) hj hi hg hx (Cmp.signs_sound (hfeas _ (mem_of_getElem? hg)) hs)

theorem modelRowRelax_valid {sys : NLSys} {box : Box} {E : Expansion} (hE : E.Valid sys box) {k : ℕ} {neg : Bool} {r : LeRow}
    (h : modelRowRelax box E k neg = some r) {i : ℕ} {g : List ℝ → ℝ} {op : Cmp} (hi : E.act[k]? = some i)
    (hg : sys[i]? = some (g, op)) {x : List ℝ} (hx : BoxMem x box) (hgx : sg neg (g x) ≤ 0) : r.SatR x := by
  unfold modelRowRelax at h
  split at h
  · rename_i G' v' hl
    split at h
    · rename_i a l hi' hsel
      simp only [Option.some.injEq] at h
      subst h
      refine relax_row_valid (Expansion.line_valid hE hl hi hg) (selAll_coefs (sel := selRelax) (p := coefRelax) @selRelax_coef hsel) ?_ hx hgx
      simp [rhsRelax, Ext.le]
    · simp at h
  · simp at h

theorem modelRowRestrict_valid {sys : NLSys} {box : Box} {E : Expansion} (hE : E.Valid sys box) {k : ℕ} {neg : Bool} {r : LeRow}
    (h : modelRowRestrict box E k neg = some r) {i : ℕ} {g : List ℝ → ℝ} {op : Cmp} (hi : E.act[k]? = some i)
    (hg : sys[i]? = some (g, op)) {x : List ℝ} (hx : BoxMem x box) (hr : r.SatR x) : sg neg (g x) ≤ 0 := by
  unfold modelRowRestrict at h
  split at h
  · rename_i G' v' hl
    split at h
    · rename_i a lo u hsel
      simp only [Option.some.injEq] at h
      subst h
      refine restrict_row_valid (Expansion.line_valid hE hl hi hg) (selAll_coefs (sel := selRestrict) (p := coefRestrict) @selRestrict_coef hsel) ?_ hx hr
      simp [rhsRestrict, Ext.le]
    · simp at h
  · simp at h

/-- **RELAX certificate for −1**: no point of the box is feasible -/
theorem unsatCert_sound {sys : NLSys} {box : Box} {Es : List Expansion} (hE : ∀ E ∈ Es, E.Valid sys box)
    (h : unsatCert box (opsOf sys) Es = true) {x : List ℝ} (hx : BoxMem x box) : ¬ Feasible sys x := by
  intro hfeas
  simp only [unsatCert, any_eq_true] at h
  obtain ⟨E, hEm, ks, hks, hj⟩ := h
  obtain ⟨i, op, hi, hop, hs⟩ := mem_relaxLines (k := ks.1) (s := ks.2) hks
  obtain ⟨g, hg⟩ := opsOf_get hop
  split at hj
  · rename_i r hr
    exact rowUnsat_sound hj hx
      (modelRowRelax_valid (hE E hEm) hr hi hg hx (Cmp.signs_sound (hfeas _ (mem_of_getElem? hg)) hs))
  · simp at hj

theorem relaxCert_sound {sys : NLSys} {box : Box} {Es : List Expansion} {fixed : List LeRow} {rows : List Row} {ret : ℤ}
    (hE : ∀ E ∈ Es, E.Valid sys box) (h : relaxCert box (opsOf sys) Es fixed rows ret = true) {x : List ℝ}
    (hx : BoxMem x box) (hfeas : Feasible sys x) (hf : ∀ f ∈ fixed, f.SatR x) :
    ret ≠ -1 ∧ ∀ r ∈ rows, r.SatR x := by
  unfold relaxCert at h
  split at h
  · exact absurd hfeas (unsatCert_sound hE h hx)
  · rename_i hret
    refine ⟨by simpa using hret, fun r hr => ?_⟩
    rw [Row.satR_iff_sides]
    intro s hs
    rw [all_eq_true] at h
    exact relaxRowCert_sound hE (h s (mem_sidesOf.2 ⟨r, hr, hs⟩)) hx hfeas hf

/-! ### RESTRICT -/

theorem inactive_sound {op : Cmp} {ev : Itv} (h : inactive op ev = true) {v : ℝ} (hv : v ∈ ev) : op.weak.HoldsR v := by
  cases ev with
  | empty => exact absurd hv (Itv.not_mem_empty v)
  | mk lo hi =>
    have h0 : ((0 : ℚ) : ℝ) = 0 := Rat.cast_zero
    cases op <;> simp only [inactive, Bool.and_eq_true, beq_iff_eq] at h <;> simp only [Cmp.weak, Cmp.HoldsR, ← h0]
    · exact Itv.le_fin_of_mem_hi h hv
    · exact Itv.le_fin_of_mem_hi h hv
    · obtain ⟨rfl, rfl⟩ := h
      exact le_antisymm (EReal.coe_le_coe_iff.1 hv.2) (EReal.coe_le_coe_iff.1 hv.1)
    · exact Itv.fin_le_of_mem_lo h hv
    · exact Itv.fin_le_of_mem_lo h hv

theorem mem_linesOf {E : Expansion} {i k : ℕ} (h : k ∈ linesOf E i) : E.act[k]? = some i := by
  simp only [linesOf, mem_filter, mem_range, beq_iff_eq] at h
  exact h.2

/-- the enclosure of `g_i` over the box (C02) -/
def EvalValid (sys : NLSys) (box : Box) (evalbox : List Itv) : Prop :=
  ∀ (i : ℕ) (g : List ℝ → ℝ) (op : Cmp) (ev : Itv), sys[i]? = some (g, op) → evalbox[i]? = some ev →
    ∀ x, BoxMem x box → g x ∈ ev

theorem covered_sound {sys : NLSys} {box : Box} {Es : List Expansion} {sides : List LeRow} {evalbox : List Itv}
    (hE : ∀ E ∈ Es, E.Valid sys box) (hev : EvalValid sys box evalbox) {i : ℕ} {g : List ℝ → ℝ} {op : Cmp}
    (hg : sys[i]? = some (g, op)) (h : covered box Es sides evalbox i op = true) {x : List ℝ} (hx : BoxMem x box)
    (hs : ∀ s ∈ sides, s.SatR x) : op.weak.HoldsR (g x) := by
  unfold covered at h
  rw [Bool.or_eq_true] at h
  rcases h with h | h
  · split at h
    · rename_i ev hevi
      exact inactive_sound h (hev i g op ev hg hevi x hx)
    · simp at h
  · split at h
    · simp at h
    · rename_i neg hneg
      simp only [any_eq_true, Bool.or_eq_true] at h
      obtain ⟨E, hEm, k, hk, hj⟩ := h
      have hi := mem_linesOf hk
      apply Cmp.rsign_sound hneg
      rcases hj with ⟨r, hr, hj⟩ | hj
      · exact justRestrict_sound (hE E hEm) hj hi hg hx (hs r hr)
      · split at hj
        · rename_i r hr
          exact modelRowRestrict_valid (hE E hEm) hr hi hg hx (rowRedundant_sound hj hx)
        · simp at hj

theorem zipIdxAll_get {α : Type} {l : List α} {p : ℕ → α → Bool} (h : zipIdxAll l p = true) {i : ℕ} {a : α}
    (hi : l[i]? = some a) : p i a = true := by
  simp only [zipIdxAll, all_eq_true] at h
  exact h (a, i) (mem_zipIdx_iff_getElem?.2 hi)

/-- **RESTRICT certificate, one call** (return value ≠ −1): a point of the box satisfying every row satisfies every
    constraint (non-strict reading) and every fixed row -/
theorem restrictCert_sound {sys : NLSys} {box : Box} {Es : List Expansion} {fixed : List LeRow} {rows : List Row}
    {evalbox : List Itv} (hE : ∀ E ∈ Es, E.Valid sys box) (hev : EvalValid sys box evalbox)
    (h : restrictCert box (opsOf sys) Es fixed rows evalbox = true) {x : List ℝ} (hx : BoxMem x box)
    (hrows : ∀ r ∈ rows, r.SatR x) : WeakFeasible sys x ∧ ∀ f ∈ fixed, f.SatR x := by
  simp only [restrictCert, Bool.and_eq_true] at h
  have hsides : ∀ s ∈ sidesOf rows, s.SatR x := by
    intro s hs
    obtain ⟨r, hr, hsr⟩ := mem_sidesOf.1 hs
    exact (Row.satR_iff_sides r x).1 (hrows r hr) s hsr
  constructor
  · intro p hp
    obtain ⟨i, hi⟩ := mem_iff_getElem?.1 hp
    have hop : (opsOf sys)[i]? = some p.2 := by simp [opsOf, getElem?_map, hi]
    exact covered_sound hE hev (g := p.1) (op := p.2) hi (zipIdxAll_get h.1 hop) hx hsides
  · intro f hf
    have := h.2
    rw [all_eq_true] at this
    have := this f hf
    simp only [any_eq_true, Bool.and_eq_true, beq_iff_eq] at this
    obtain ⟨r, hr, ha, hb⟩ := this
    exact (hsides r hr).mono ha hb

/-! ### LinearizerDuality -/

def blocksR : List (List ℚ) → List (List ℝ) → ℝ
  | a :: as, z :: zs => dotR (castL a) z + blocksR as zs
  | _, _ => 0

def DRow.SatR (r : DRow) (x : List ℝ) (zs : List (List ℝ)) : Prop :=
  ((dotR (castL r.ax) x + blocksR r.az zs : ℝ) : EReal) ≤ r.b.toE

theorem dotR_of_isZero : ∀ {l : List ℚ} (z : List ℝ), isZero l = true → dotR (castL l) z = 0
  | [], z, _ => dotR_nil_left z
  | _ :: _, [], _ => dotR_nil_right _
  | a :: as, z :: zs, h => by
    rw [isZero, all_cons, Bool.and_eq_true, beq_iff_eq] at h
    rw [castL_cons, dotR_cons, h.1, dotR_of_isZero zs h.2, Rat.cast_zero, zero_mul, add_zero]

theorem blocksR_zero : ∀ {az : List (List ℚ)} (zs : List (List ℝ)), az.all isZero = true → blocksR az zs = 0
  | [], zs, _ => by cases zs <;> rfl
  | _ :: _, [], _ => rfl
  | a :: as, z :: zs, h => by
    simp only [all_cons, Bool.and_eq_true] at h
    simp [blocksR, dotR_of_isZero z h.1, blocksR_zero zs h.2]

theorem blocksR_only : ∀ {az : List (List ℚ)} {i : ℕ} {zs : List (List ℝ)} {blk : List ℚ} {z : List ℝ},
    onlyBlock az i = true → az[i]? = some blk → zs[i]? = some z → blocksR az zs = dotR (castL blk) z
  | [], _, _, _, _, _, h, _ => by cases h
  | _ :: _, _, [], _, _, _, _, h => by cases h
  | a :: as, 0, z0 :: zs, blk, z, ho, ha, hz => by
    cases ha; cases hz
    rw [blocksR, blocksR_zero zs ho, add_zero]
  | a :: as, i + 1, z0 :: zs, blk, z, ho, ha, hz => by
    rw [onlyBlock, Bool.and_eq_true] at ho
    rw [blocksR, dotR_of_isZero z0 ho.1, blocksR_only ho.2 ha hz, zero_add]

theorem dotR_unitAt {n j : ℕ} (x : List ℝ) (h : j < n) : dotR (castL (unitAt n j)) x = x.getD j 0 := by
  fun_induction unitAt n j generalizing x with
  | case1 => omega
  | case2 n =>
    cases x with
    | nil => rfl
    | cons x xs => rw [castL_cons, dotR_cons, dotR_of_isZero xs (by simp [isZero]), Rat.cast_one, one_mul, add_zero]; rfl
  | case3 n j ih =>
    cases x with
    | nil => rfl
    | cons x xs => rw [castL_cons, dotR_cons, ih xs (Nat.lt_of_succ_lt_succ h), Rat.cast_zero, zero_mul, zero_add]; rfl

theorem tieRow_sound {n : ℕ} {r : DRow} {i j : ℕ} {pj : ℚ} (h : tieRow n r i j pj = true) (hj : j < n)
    {x : List ℝ} {zs : List (List ℝ)} {z : List ℝ} (hz : zs[i]? = some z) (hr : r.SatR x zs) :
    x.getD j 0 + z.getD j 0 ≤ (pj : ℝ) := by
  simp only [tieRow, Bool.and_eq_true, beq_iff_eq] at h
  obtain ⟨⟨⟨hax, hob⟩, haz⟩, hb⟩ := h
  unfold DRow.SatR at hr
  rw [blocksR_only hob haz hz, hax, dotR_unitAt x hj, dotR_unitAt z hj] at hr
  have := le_trans hr ((Ext.le_iff _ _).1 hb)
  simp only [Ext.toE_fin, EReal.coe_le_coe_iff] at this
  exact this

theorem dualCoef_le {n : ℕ} {rows : List DRow} {i : ℕ} {bx : Itv} {p a d : ℚ} {g : Itv} {j : ℕ}
    (h : dualCoef n rows i bx p a d g j = true) {x s z : ℝ} (hx : x ∈ bx) (hs : s ∈ g) (hz : z ≤ 0)
    (htie : j < n → (rows.any fun r => tieRow n r i j p) = true → x + z ≤ (p : ℝ)) :
    s * (x - p) ≤ (a : ℝ) * (x - p) + (d : ℝ) * (-z) := by
  cases g with
  | empty => exact absurd hs (Itv.not_mem_empty s)
  | mk gl gu =>
    simp only [dualCoef, Bool.and_eq_true, decide_eq_true_eq] at h
    obtain ⟨⟨hd, hdown⟩, hup⟩ := h
    have hd' : (0 : ℝ) ≤ d := by exact_mod_cast hd
    have hdz : 0 ≤ (d : ℝ) * (-z) := mul_nonneg hd' (neg_nonneg.2 hz)
    rcases lt_trichotomy (p : ℝ) x with hlt | heq | hgt
    · -- above `p`: `s ≤ a + d`, and `d (x − p) ≤ d (−z)` because `d = 0` or a tie row gives `x + z ≤ p`
      have hup' := of_not_or hup (canUp_of_lt hx hlt)
      rw [Bool.and_eq_true, Bool.or_eq_true, beq_iff_eq, Bool.and_eq_true, decide_eq_true_eq] at hup'
      obtain ⟨hgu, htd⟩ := hup'
      have hsu : s ≤ (a : ℝ) + d := by exact_mod_cast Itv.le_fin_of_mem_hi hgu hs
      have h1 := mul_le_mul_of_nonneg_right hsu (sub_nonneg.2 hlt.le)
      have h2 : (d : ℝ) * (x - p) ≤ d * (-z) := by
        rcases htd with rfl | ⟨hjn, hany⟩
        · simp
        · exact mul_le_mul_of_nonneg_left (by linarith [htie hjn hany]) hd'
      exact h1.trans ((add_mul _ _ _).trans_le (add_le_add le_rfl h2))
    · rw [← heq, sub_self, mul_zero, mul_zero, zero_add]; exact hdz
    · exact le_add_of_le_of_nonneg
        (mul_le_mul_of_nonpos_right (Itv.fin_le_of_mem_lo (of_not_or hdown (canDown_of_lt hx hgt)) hs) (sub_nonpos.2 hgt.le)) hdz

theorem dualCoefs_le {n : ℕ} {rows : List DRow} {i : ℕ} {box : Box} {p a d : List ℚ} {G : List Itv} {j : ℕ}
    {x z s : List ℝ} (h : dualCoefs n rows i box p a d G j = true) (hx : BoxMem x box)
    (hs : BoxMem s G) (hzl : z.length = box.length) (hz : ∀ t ∈ z, t ≤ 0)
    (htie : ∀ t : ℕ, j + t < n → (rows.any fun r => tieRow n r i (j + t) (p.getD t 0)) = true →
      x.getD t 0 + z.getD t 0 ≤ ((p.getD t 0 : ℚ) : ℝ)) :
    dotR s (subR x (castL p)) ≤ dotR (castL a) (subR x (castL p)) - dotR (castL d) z := by
  fun_induction dualCoefs n rows i box p a d G j generalizing x z s with
  | case1 => cases hs; simp
  | case2 bx bs p ps a as d ds g gs j ih =>
    rw [Bool.and_eq_true] at h
    cases hx with | cons hx1 hxs =>
    cases hs with | cons hs1 hss =>
    cases z with
    | nil => simp at hzl
    | cons z0 zs =>
      have h1 := dualCoef_le h.1 hx1 hs1 (hz z0 (by simp)) (htie 0)
      have h2 := ih h.2 hxs hss (by simpa using hzl) (fun t ht => hz t (mem_cons_of_mem _ ht))
        (fun t hlt hany => by
          have e : j + (t + 1) = j + 1 + t := by omega
          exact htie (t + 1) (e ▸ hlt) (e ▸ hany))
      simp only [castL_cons, subR_cons, dotR_cons]
      linarith
  | case3 => cases h

theorem dualCoefs_length {n : ℕ} {rows : List DRow} {i : ℕ} {box : Box} {p a d : List ℚ} {G : List Itv} {j : ℕ}
    (h : dualCoefs n rows i box p a d G j = true) : p.length = box.length ∧ a.length = box.length := by
  fun_induction dualCoefs n rows i box p a d G j with
  | case1 => simp
  | case2 bx bs p ps a as d ds g gs j ih =>
    rw [Bool.and_eq_true] at h
    simp [ih h.2]
  | case3 => cases h

/-- **a main duality row proves its constraint** at every `(x, z)` of the LP box satisfying all the rows -/
theorem dualMain_sound {sys : NLSys} {n : ℕ} {box : Box} {E : Expansion} (hE : E.Valid sys box) {rows : List DRow} {r : DRow}
    {i k : ℕ} (h : dualMain n box E rows r i k = true) {g : List ℝ → ℝ} {op : Cmp} (hi : E.act[k]? = some i)
    (hg : sys[i]? = some (g, op)) {x : List ℝ} (hx : BoxMem x box) {zs : List (List ℝ)} {z : List ℝ}
    (hz : zs[i]? = some z) (hzlen : z.length = box.length) (hzneg : ∀ t ∈ z, t ≤ 0)
    (hrows : ∀ r' ∈ rows, r'.SatR x zs) (hr : r.SatR x zs) : g x ≤ 0 := by
  unfold dualMain at h
  split at h
  · rename_i G' v' blk hl hblk
    simp only [Bool.and_eq_true] at h
    obtain ⟨⟨hob, hco⟩, hrhs⟩ := h
    have hv := Expansion.line_valid hE hl hi hg
    simp only [sg, Bool.false_eq_true, if_false] at hv
    have hlen := dualCoefs_length hco
    obtain ⟨s, hs, hgx⟩ := hv.slopes hx
    have hax := dotR_expand (hlen.2.trans hx.length_eq.symm) (hlen.1.trans hx.length_eq.symm)
    have hle := dualCoefs_le hco hx hs hzlen hzneg fun t hlt hany => by
      rw [Nat.zero_add] at hlt hany
      obtain ⟨r', hr', ht⟩ := any_eq_true.1 hany
      exact tieRow_sound ht hlt hz (hrows r' hr')
    rw [dotR_neg_left] at hle
    unfold DRow.SatR at hr
    rw [blocksR_only hob hblk hz] at hr
    have := EReal.coe_le_coe_iff.1 (le_trans hr (le_rhsRestrict hrhs hv.1))
    linarith
  · simp at h

/-- **certificate for LinearizerDuality, one call** (return value ≠ −1): at every point `(x, z)` of the LP box
    (`x` in the box, every auxiliary variable `≤ 0`) satisfying all the rows, `x` satisfies every constraint -/
theorem dualCert_sound {sys : NLSys} {n : ℕ} {box : Box} {E : Option Expansion} (hE : ∀ E' ∈ E, E'.Valid sys box)
    {rows : List DRow} {evalbox : List Itv} (hev : EvalValid sys box evalbox)
    (h : dualCert n box (opsOf sys) E rows evalbox = true) {x : List ℝ} (hx : BoxMem x box) {zs : List (List ℝ)}
    (hzs : zs.length = sys.length) (hzlen : ∀ z ∈ zs, z.length = box.length) (hzneg : ∀ z ∈ zs, ∀ t ∈ z, t ≤ 0)
    (hrows : ∀ r ∈ rows, r.SatR x zs) : WeakFeasible sys x := by
  intro p hp
  obtain ⟨i, hi⟩ := mem_iff_getElem?.1 hp
  have hop : (opsOf sys)[i]? = some p.2 := by simp [opsOf, getElem?_map, hi]
  have hc := zipIdxAll_get h hop
  unfold dualCovered at hc
  rw [Bool.or_eq_true] at hc
  rcases hc with hc | hc
  · split at hc
    · rename_i ev hevi
      exact inactive_sound hc (hev i p.1 p.2 ev hi hevi x hx)
    · simp at hc
  · simp only [Bool.and_eq_true, beq_iff_eq] at hc
    obtain ⟨hrs, hc⟩ := hc
    split at hc
    · simp at hc
    · rename_i E'
      simp only [any_eq_true] at hc
      obtain ⟨k, hk, r, hr, hm⟩ := hc
      have hilt : i < zs.length := by
        rw [hzs]; exact (List.getElem?_eq_some_iff.1 hi).1
      have hz : zs[i]? = some zs[i] := getElem?_eq_getElem hilt
      have hzm : zs[i] ∈ zs := getElem_mem hilt
      apply Cmp.rsign_sound hrs
      simp only [sg, Bool.false_eq_true, if_false]
      exact dualMain_sound (hE E' rfl) hm (mem_linesOf hk) (g := p.1) (op := p.2) hi hx hz (hzlen _ hzm) (hzneg _ hzm)
        hrows (hrows r hr)

/-! ### flat rows and block rows denote the same inequality -/

theorem dotR_append : ∀ (a1 a2 x1 x2 : List ℝ), a1.length = x1.length →
    dotR (a1 ++ a2) (x1 ++ x2) = dotR a1 x1 + dotR a2 x2
  | [], a2, [], x2, _ => by simp
  | [], _, _ :: _, _, h => by simp at h
  | _ :: _, _, [], _, h => by simp at h
  | a :: as, a2, x :: xs, x2, h => by
    simp only [length_cons, Nat.add_right_cancel_iff] at h
    simp only [cons_append, dotR_cons, dotR_append as a2 xs x2 h]
    ring

theorem castL_append (a b : List ℚ) : castL (a ++ b) = castL a ++ castL b := by simp [castL]

theorem dotR_take_drop (n : ℕ) (a : List ℚ) (x1 x2 : List ℝ) (hx : x1.length = n) (ha : n ≤ a.length) :
    dotR (castL a) (x1 ++ x2) = dotR (castL (a.take n)) x1 + dotR (castL (a.drop n)) x2 := by
  have happ : castL a = castL (a.take n) ++ castL (a.drop n) := by
    rw [← castL_append, take_append_drop]
  rw [happ]
  exact dotR_append _ _ _ _ (by simp [hx, Nat.min_eq_left ha])

theorem blocksR_chunks (n : ℕ) : ∀ (m : ℕ) (l : List ℚ) (zs : List (List ℝ)), l.length = m * n → zs.length = m →
    (∀ z ∈ zs, z.length = n) → blocksR (chunks n m l) zs = dotR (castL l) zs.flatten
  | 0, l, zs, _, hz, _ => by
    have : zs = [] := length_eq_zero_iff.1 hz
    subst this
    simp [chunks, blocksR]
  | m + 1, l, [], _, hz, _ => by simp at hz
  | m + 1, l, z :: zs, hl, hz, hzn => by
    simp only [length_cons, Nat.add_right_cancel_iff] at hz
    have hzl : z.length = n := hzn z (by simp)
    have hn : n ≤ l.length := by rw [hl, Nat.succ_mul]; omega
    have hrest := blocksR_chunks n m (l.drop n) zs (by rw [length_drop, hl, Nat.succ_mul]; omega) hz
      (fun z' hz' => hzn z' (by simp [hz']))
    simp only [chunks, blocksR, flatten_cons, hrest]
    exact (dotR_take_drop n l z zs.flatten hzl hn).symm

theorem toDRow_sat {n m : ℕ} {r : LeRow} (hr : r.a.length = n + m * n) {x : List ℝ} (hx : x.length = n)
    {zs : List (List ℝ)} (hz : zs.length = m) (hzn : ∀ z ∈ zs, z.length = n) :
    (toDRow n m r).SatR x zs ↔ r.SatR (x ++ zs.flatten) := by
  unfold DRow.SatR LeRow.SatR toDRow
  simp only
  rw [dotR_take_drop n r.a x zs.flatten hx (by omega),
    blocksR_chunks n m (r.a.drop n) zs (by rw [length_drop, hr]; omega) hz hzn]

end Lin
end Ibex
