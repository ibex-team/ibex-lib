/-
  The model of the optimizer's branch-and-bound loop (`IbexModel/OptLoop.lean`): after any number of
  iterations, for every policy whose contractor keeps the extended points below the current loup and whose
  bisector covers the cell, every point of the tracked set `Sol` (extended points `(x, f(x))` of feasible `x`)
  has its goal value above the loup, above `uplo_of_epsboxes`, or lies in a cell of the buffer; hence
  `uplo ≤ f(x)`.  Induction over the iterations; no bound on cells, dimension or steps.
-/
import IbexModel.OptLoop
import IbexProofs.Cover

namespace Ibex.OptLoop
open Ibex

variable {P : Policy} {g : Nat} {Sol : Set (List ℝ)}

def Acc (s : St) (p : List ℝ) (t : ℝ) : Prop :=
  s.loup.toE ≤ ((t : ℝ) : EReal) ∨ s.uploEps.toE ≤ ((t : ℝ) : EReal) ∨ ∃ b ∈ s.buffer, Box.Mem p b

theorem lbg_le {b : Box} {p : List ℝ} {t : ℝ} (hm : Box.Mem p b) (ht : p[g]? = some t) :
    (lbg g b).toE ≤ ((t : ℝ) : EReal) := by
  obtain ⟨hl, h⟩ := Box.mem_iff.1 hm
  have hg : g < b.length := by
    have := (List.getElem?_eq_some_iff.1 ht).1
    omega
  have hb : b[g]? = some b[g] := List.getElem?_eq_getElem hg
  have hmem := h g t _ ht hb
  unfold lbg
  rw [hb]
  cases hI : b[g] with
  | empty => rw [hI] at hmem; exact absurd hmem (Itv.not_mem_empty t)
  | mk a c => rw [hI] at hmem; exact ((Itv.mem_mk t a c).1 hmem).1

theorem minLb_le {b : Box} : ∀ {l : List Box}, b ∈ l → (minLb g l).toE ≤ (lbg g b).toE
  | [], h => by cases h
  | x :: xs, h => by
    unfold minLb
    rw [Ext.toE_min]
    rcases List.mem_cons.1 h with h | h
    · subst h; exact min_le_left _ _
    · exact le_trans (min_le_right _ _) (minLb_le h)

theorem uplo_le_of_acc {s : St} {p : List ℝ} {t : ℝ} (ht : p[g]? = some t) (h : Acc s p t) :
    (uplo g s).toE ≤ ((t : ℝ) : EReal) := by
  unfold uplo
  rw [Ext.toE_min, Ext.toE_min]
  rcases h with h | h | ⟨b, hb, hm⟩
  · exact le_trans (min_le_right _ _) h
  · exact le_trans (le_trans (min_le_left _ _) (min_le_right _ _)) h
  · exact le_trans (le_trans (min_le_left _ _) (min_le_left _ _)) (le_trans (minLb_le hb) (lbg_le hm ht))

theorem uplo_le_loup (s : St) : (uplo g s).toE ≤ s.loup.toE := by
  unfold uplo
  rw [Ext.toE_min]
  exact min_le_right _ _

def CtcSound (P : Policy) (g : Nat) (Sol : Set (List ℝ)) : Prop :=
  ∀ (L : Ext) (h : Box) (p : List ℝ) (t : ℝ), p ∈ Sol → p[g]? = some t → Box.Mem p h →
    ((t : ℝ) : EReal) < L.toE → Box.Mem p (P.ctc L h)

theorem toE_min_le_left (a b : Ext) : (Ext.min a b).toE ≤ a.toE := by
  rw [Ext.toE_min]; exact min_le_left _ _

theorem toE_min_le_right (a b : Ext) : (Ext.min a b).toE ≤ b.toE := by
  rw [Ext.toE_min]; exact min_le_right _ _

theorem Acc.mono {s s' : St} {p : List ℝ} {t : ℝ} (hl : s'.loup.toE ≤ s.loup.toE)
    (hu : s'.uploEps.toE ≤ s.uploEps.toE) (hb : ∀ b ∈ s.buffer, b ∈ s'.buffer) (h : Acc s p t) :
    Acc s' p t :=
  h.imp (le_trans hl) (Or.imp (le_trans hu) fun ⟨b, hb', hm⟩ => ⟨b, hb b hb', hm⟩)

theorem handle_acc (hctc : CtcSound P g Sol) {s : St} {h : Box} {p : List ℝ} {t : ℝ} (hp : p ∈ Sol)
    (ht : p[g]? = some t) (h0 : Acc s p t ∨ Box.Mem p h) : Acc (handle P g s h) p t := by
  unfold handle
  by_cases hlt : ((t : ℝ) : EReal) < s.loup.toE
  · -- the point may still improve the loup: the contractor keeps it
    have hkeep : Box.Mem p h → Box.Mem p (P.ctc s.loup h) := fun hm => hctc _ _ _ _ hp ht hm hlt
    split
    · rename_i he
      exact h0.elim id fun hm => absurd (hkeep hm) (Box.not_mem_of_isEmpty he)
    · split
      · rcases h0 with ha | hm
        · exact ha.mono (toE_min_le_left _ _) (toE_min_le_left _ _) (fun _ hb => hb)
        · exact Or.inr (Or.inl (le_trans (toE_min_le_right _ _) (lbg_le (hkeep hm) ht)))
      · rcases h0 with ha | hm
        · exact ha.mono (toE_min_le_left _ _) le_rfl (fun _ hb => List.mem_cons_of_mem _ hb)
        · exact Or.inr (Or.inr ⟨_, List.mem_cons_self, hkeep hm⟩)
  · -- the point cannot improve the loup any more
    have hle : s.loup.toE ≤ ((t : ℝ) : EReal) := not_lt.1 hlt
    split
    · exact Or.inl hle
    · split
      · exact Or.inl (le_trans (toE_min_le_left _ _) hle)
      · exact Or.inl (le_trans (toE_min_le_left _ _) hle)

theorem prune_acc {s : St} {p : List ℝ} {t : ℝ} (ht : p[g]? = some t) (h : Acc s p t) : Acc (prune g s) p t := by
  rcases h with h | h | ⟨b, hb, hm⟩
  · exact Or.inl h
  · exact Or.inr (Or.inl h)
  · by_cases hk : Ext.lt (lbg g b) s.loup = true
    · exact Or.inr (Or.inr ⟨b, by simp [prune, hb, hk], hm⟩)
    · refine Or.inl ?_
      have : ¬ (lbg g b).toE < s.loup.toE := fun hh => hk ((Ext.lt_iff _ _).2 hh)
      exact le_trans (not_lt.1 this) (lbg_le hm ht)

theorem stepOn_acc (hctc : CtcSound P g Sol)
    (hbis : ∀ c, Cover.split2Ok c (P.bisect c).1 (P.bisect c).2 = true)
    {s : St} {c : Box} {p : List ℝ} {t : ℝ} (hp : p ∈ Sol) (ht : p[g]? = some t) (h : Acc s p t) :
    Acc (stepOn P g s c) p t := by
  unfold stepOn
  apply prune_acc ht
  -- either the point is still accounted for without the cell `c`, or it is in `c`, hence in one half
  have h0 : Acc ⟨s.buffer.erase c, s.loup, s.uploEps⟩ p t ∨ Box.Mem p c := by
    rcases h with h | h | ⟨b, hb, hm⟩
    · exact Or.inl (Or.inl h)
    · exact Or.inl (Or.inr (Or.inl h))
    · by_cases hbc : b = c
      · exact Or.inr (hbc ▸ hm)
      · exact Or.inl (Or.inr (Or.inr ⟨b, (List.mem_erase_of_ne hbc).2 hb, hm⟩))
  rcases h0 with h0 | hc
  · exact handle_acc hctc hp ht (Or.inl (handle_acc hctc hp ht (Or.inl h0)))
  · rcases Cover.split2Ok_sound (hbis c) hc with hl | hr
    · exact handle_acc hctc hp ht (Or.inl (handle_acc hctc hp ht (Or.inr hl)))
    · exact handle_acc hctc hp ht (Or.inr hr)

theorem run_relation {R : St → St → Prop} (hrefl : ∀ s, R s s)
    (hstep : ∀ s c s', R (stepOn P g s c) s' → R s s') : ∀ (fuel : Nat) (s : St), R s (run P g fuel s)
  | 0, s => hrefl s
  | fuel + 1, s => by
    unfold run
    split
    · exact hrefl s
    · rename_i s' hs
      unfold step at hs
      cases hb : s.buffer[P.pick s.buffer % s.buffer.length]? with
      | none => rw [hb] at hs; cases hs
      | some b =>
        rw [hb] at hs
        cases hs
        exact hstep s b _ (run_relation hrefl hstep fuel _)

theorem run_acc (hctc : CtcSound P g Sol)
    (hbis : ∀ c, Cover.split2Ok c (P.bisect c).1 (P.bisect c).2 = true) {p : List ℝ} {t : ℝ}
    (hp : p ∈ Sol) (ht : p[g]? = some t) (fuel : Nat) (s : St) : Acc s p t → Acc (run P g fuel s) p t :=
  run_relation (R := fun s s' => Acc s p t → Acc s' p t) (fun _ h => h)
    (fun _ _ _ ih h => ih (stepOn_acc hctc hbis hp ht h)) fuel s

theorem handle_loup (s : St) (h : Box) : (handle P g s h).loup.toE ≤ s.loup.toE := by
  unfold handle
  split
  · exact le_refl _
  · split
    · exact toE_min_le_left _ _
    · exact toE_min_le_left _ _

theorem run_loup : ∀ (fuel : Nat) (s : St), (run P g fuel s).loup.toE ≤ s.loup.toE :=
  run_relation (R := fun s s' => s'.loup.toE ≤ s.loup.toE) (fun _ => le_refl _) fun s c _ ih => by
    refine le_trans ih ?_
    unfold stepOn prune
    exact le_trans (handle_loup _ _) (handle_loup _ _)

end Ibex.OptLoop
