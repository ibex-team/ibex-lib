/-
  Dual-number evaluation (`Alg.dual`, forward-mode automatic differentiation with exact rational
  arithmetic) computes TRUE derivatives: near a rational point `p` the real evaluation of the DAG is
  defined, and each entry of the dual value is the value and the Fréchet derivative at `p` of the
  corresponding entry of the real denotation.
  This holds for every DAG (any size, sharing, vectors/matrices, dot and matrix products,
  indexing, `chi`, applied functions = chain rule through `Eval.buildCalls`), because it is an
  instance of the naturality of the evaluator (`EvalNat.lean`) for the relation
  `DRel n p : Dual → ((Fin n → ℝ) → ℝ) → Prop` between `Alg.dual n` and the algebra of functions
  `Alg.ev (𝓝 p) Alg.real` (`EvalEv.lean`); the only operator-specific work is `Alg.dual_ev`.
-/
import IbexProofs.EvalEv
import IbexModel.Deriv
import Mathlib.Analysis.Calculus.FDeriv.Mul
import Mathlib.Analysis.Calculus.FDeriv.Add
import Mathlib.Analysis.Calculus.Deriv.ZPow
import Mathlib.Analysis.Calculus.Deriv.Inv
import Mathlib.Analysis.Calculus.FDeriv.Pi
import Mathlib.Analysis.Calculus.Deriv.Pi

namespace Ibex
open Ibex List Filter Topology

noncomputable section

/-! ## 1. gradients as linear maps -/

def gcoef (g : List ℚ) (k : ℕ) : ℝ := ((g.getD k 0 : ℚ) : ℝ)

def gradMap (n : ℕ) (g : List ℚ) : (Fin n → ℝ) →L[ℝ] ℝ :=
  ∑ k : Fin n, gcoef g k • ContinuousLinearMap.proj k

theorem gradMap_apply (n : ℕ) (g : List ℚ) (v : Fin n → ℝ) :
    gradMap n g v = ∑ k : Fin n, gcoef g k * v k := by
  simp [gradMap]

theorem gcoef_lin {n : ℕ} {a b : ℚ} {x y : Dual} (hx : x.g.length = n) (hy : y.g.length = n) {k : ℕ}
    (hk : k < n) : gcoef (Dual.lin a x b y) k = (a : ℝ) * gcoef x.g k + (b : ℝ) * gcoef y.g k := by
  unfold gcoef Dual.lin
  rw [List.getD_eq_getElem?_getD, List.getD_eq_getElem?_getD, List.getD_eq_getElem?_getD,
    List.getElem?_zipWith, List.getElem?_eq_getElem (by omega : k < x.g.length),
    List.getElem?_eq_getElem (by omega : k < y.g.length)]
  simp

theorem gcoef_scale {a : ℚ} {x : Dual} {k : ℕ} : gcoef (Dual.scale a x) k = (a : ℝ) * gcoef x.g k := by
  unfold gcoef Dual.scale
  rw [List.getD_eq_getElem?_getD, List.getD_eq_getElem?_getD, List.getElem?_map]
  cases x.g[k]? <;> simp

theorem length_lin {n : ℕ} {a b : ℚ} {x y : Dual} (hx : x.g.length = n) (hy : y.g.length = n) :
    (Dual.lin a x b y).length = n := by
  simp [Dual.lin, hx, hy]

theorem length_scale {n : ℕ} {a : ℚ} {x : Dual} (hx : x.g.length = n) : (Dual.scale a x).length = n := by
  simp [Dual.scale, hx]

theorem gradMap_lin {n : ℕ} {a b : ℚ} {x y : Dual} (hx : x.g.length = n) (hy : y.g.length = n)
    (v : Fin n → ℝ) :
    gradMap n (Dual.lin a x b y) v = (a : ℝ) * gradMap n x.g v + (b : ℝ) * gradMap n y.g v := by
  simp only [gradMap_apply, Finset.mul_sum, ← Finset.sum_add_distrib]
  refine Finset.sum_congr rfl fun k _ => ?_
  rw [gcoef_lin hx hy k.2]
  ring

theorem gradMap_scale {n : ℕ} {a : ℚ} {x : Dual} (v : Fin n → ℝ) :
    gradMap n (Dual.scale a x) v = (a : ℝ) * gradMap n x.g v := by
  simp only [gradMap_apply, Finset.mul_sum]
  refine Finset.sum_congr rfl fun k _ => ?_
  rw [gcoef_scale]
  ring

theorem gradMap_zero (n : ℕ) : gradMap n (List.replicate n 0) = 0 := by
  ext v
  simp only [gradMap_apply, _root_.zero_apply]
  refine Finset.sum_eq_zero fun k _ => ?_
  simp [gcoef, List.getD_eq_getElem?_getD]

theorem gradMap_unit {n : ℕ} (k : Fin n) :
    gradMap n ((List.range n).map fun j => if j == k.1 then (1 : ℚ) else 0) = ContinuousLinearMap.proj k := by
  ext v
  rw [gradMap_apply, ContinuousLinearMap.proj_apply, Finset.sum_eq_single k]
  · simp [gcoef, List.getD_eq_getElem?_getD]
  · intro j _ hjk
    have : ¬ (j.1 = k.1) := fun e => hjk (Fin.ext e)
    simp [gcoef, List.getD_eq_getElem?_getD, this]
  · intro h; exact absurd (Finset.mem_univ k) h

/-! ## 2. the relation between a dual number and a function -/

def DRel (n : ℕ) (p : Fin n → ℝ) (d : Dual) (φ : (Fin n → ℝ) → ℝ) : Prop :=
  d.g.length = n ∧ φ p = (d.v : ℝ) ∧ HasFDerivAt φ (gradMap n d.g) p

variable {n : ℕ} {p : Fin n → ℝ}

theorem DRel.cont {d : Dual} {φ : (Fin n → ℝ) → ℝ} (h : DRel n p d φ) : ContinuousAt φ p := h.2.2.continuousAt

theorem DRel.congr {d : Dual} {φ φ' : (Fin n → ℝ) → ℝ} (h : DRel n p d φ) (e : φ' =ᶠ[𝓝 p] φ) :
    DRel n p d φ' :=
  ⟨h.1, by rw [e.eq_of_nhds, h.2.1], h.2.2.congr_of_eventuallyEq e⟩

theorem DRel.of_eventually {z : ℝ} {o : (Fin n → ℝ) → Option ℝ} {ψ : (Fin n → ℝ) → ℝ} {d : Dual}
    (hev : ∀ᶠ x in 𝓝 p, o x = some (ψ x)) (h : DRel n p d ψ) :
    ∃ ψ', evOpt (𝓝 p) z o = some ψ' ∧ DRel n p d ψ' := by
  obtain ⟨ψ', h1, h2⟩ := evOpt_of_eventually (z := z) hev
  exact ⟨ψ', h1, h.congr h2⟩

theorem DRel.const (n : ℕ) (p : Fin n → ℝ) (q : ℚ) : DRel n p (Dual.const n q) (fun _ => (q : ℝ)) := by
  refine ⟨by simp [Dual.const], rfl, ?_⟩
  show HasFDerivAt _ (gradMap n (List.replicate n 0)) p
  rw [gradMap_zero]
  exact hasFDerivAt_const _ _

/-- A value `χ` whose derivative is `α·dφ + β·dψ`.  The coefficients come twice, as the rationals
    `α β` of `Dual.lin` and as reals `α' β'`, and the derivative as a statement about arbitrary `La Lb`:
    that is the shape in which the lemmas `fderiv_lin_*` below plug in as they are (`DRel.scale`,
    `fderiv_lin_const c La : … (0 • La)` likewise). -/
theorem DRel.lin {a b : Dual} {φ ψ χ : (Fin n → ℝ) → ℝ} {α β v : ℚ} {α' β' : ℝ} (ha : DRel n p a φ)
    (hb : DRel n p b ψ) (hα : (α : ℝ) = α') (hβ : (β : ℝ) = β') (hv : χ p = (v : ℝ))
    (hd : ∀ La Lb : (Fin n → ℝ) →L[ℝ] ℝ, HasFDerivAt φ La p → HasFDerivAt ψ Lb p →
      HasFDerivAt χ (α' • La + β' • Lb) p) :
    DRel n p ⟨v, Dual.lin α a β b⟩ χ := by
  subst hα hβ
  refine ⟨length_lin ha.1 hb.1, hv, (hd _ _ ha.2.2 hb.2.2).congr_fderiv ?_⟩
  ext w
  simp only [_root_.add_apply, _root_.smul_apply, smul_eq_mul, gradMap_lin ha.1 hb.1]

theorem DRel.scale {a : Dual} {φ χ : (Fin n → ℝ) → ℝ} {α v : ℚ} {α' : ℝ} (ha : DRel n p a φ)
    (hα : (α : ℝ) = α') (hv : χ p = (v : ℝ))
    (hd : ∀ La : (Fin n → ℝ) →L[ℝ] ℝ, HasFDerivAt φ La p → HasFDerivAt χ (α' • La) p) :
    DRel n p ⟨v, Dual.scale α a⟩ χ := by
  subst hα
  refine ⟨length_scale ha.1, hv, (hd _ ha.2.2).congr_fderiv ?_⟩
  ext w
  simp only [_root_.smul_apply, smul_eq_mul, gradMap_scale]

/-! ### the calculus: the derivative of each operator as a combination of those of its arguments -/

section Calculus
variable {E : Type*} [NormedAddCommGroup E] [NormedSpace ℝ E] {φ ψ : E → ℝ} {La Lb : E →L[ℝ] ℝ} {x : E}

theorem fderiv_lin_add (hLa : HasFDerivAt φ La x) (hLb : HasFDerivAt ψ Lb x) :
    HasFDerivAt (fun y => φ y + ψ y) ((1 : ℝ) • La + (1 : ℝ) • Lb) x :=
  (hLa.add hLb).congr_fderiv (by rw [one_smul ℝ La, one_smul ℝ Lb])

theorem fderiv_lin_sub (hLa : HasFDerivAt φ La x) (hLb : HasFDerivAt ψ Lb x) :
    HasFDerivAt (fun y => φ y - ψ y) ((1 : ℝ) • La + (-1 : ℝ) • Lb) x :=
  (hLa.sub hLb).congr_fderiv (by rw [one_smul ℝ La, neg_one_smul ℝ Lb, sub_eq_add_neg])

theorem fderiv_lin_mul (hLa : HasFDerivAt φ La x) (hLb : HasFDerivAt ψ Lb x) :
    HasFDerivAt (fun y => φ y * ψ y) (ψ x • La + φ x • Lb) x :=
  (hLa.mul hLb).congr_fderiv (by rw [add_comm])

/-- the quotient, written `φ·ψ⁻¹` -/
theorem fderiv_lin_div (h0 : ψ x ≠ 0) (hLa : HasFDerivAt φ La x) (hLb : HasFDerivAt ψ Lb x) :
    HasFDerivAt (fun y => φ y * (ψ y)⁻¹) ((1 / ψ x) • La + (-(φ x / (ψ x * ψ x))) • Lb) x := by
  refine (hLa.mul ((hasDerivAt_inv h0).comp_hasFDerivAt x hLb)).congr_fderiv ?_
  ext v
  simp only [_root_.add_apply, _root_.smul_apply, smul_eq_mul, Function.comp_apply]
  field_simp
  ring

theorem fderiv_lin_neg (hLa : HasFDerivAt φ La x) : HasFDerivAt (fun y => -φ y) ((-1 : ℝ) • La) x :=
  hLa.neg.congr_fderiv (neg_one_smul ℝ La).symm

theorem fderiv_lin_sqr (hLa : HasFDerivAt φ La x) : HasFDerivAt (fun y => φ y * φ y) ((2 * φ x) • La) x :=
  (hLa.mul hLa).congr_fderiv (by rw [← add_smul, two_mul])

theorem fderiv_lin_zpow {k : ℤ} (hk : φ x ≠ 0 ∨ 1 ≤ k) (hLa : HasFDerivAt φ La x) :
    HasFDerivAt (fun y => φ y ^ k) (((k : ℝ) * φ x ^ (k - 1)) • La) x :=
  (hasDerivAt_zpow k (φ x) (hk.imp_right fun h1 => by omega)).comp_hasFDerivAt x hLa

theorem fderiv_lin_const (c : ℝ) (La : E →L[ℝ] ℝ) : HasFDerivAt (fun _ : E => c) ((0 : ℝ) • La) x :=
  (hasFDerivAt_const c x).congr_fderiv (zero_smul ℝ La).symm

end Calculus

/-! ## 3. every operator of `Alg.dual` computes the value and the derivative of the real operator -/

theorem dual_ev_un (F : Filter (Fin n → ℝ)) (op : String) (h : (Alg.ev F Alg.real).un op = none) :
    (Alg.dual n).un op = none := by
  rw [Alg.ev_un_eq_none] at h
  simp only [Alg.dual]
  split
  · cases Alg.real_un_minus.symm.trans h
  · cases Alg.real_un_sqr.symm.trans h
  · cases Alg.real_un_abs.symm.trans h
  · cases Alg.real_un_sign.symm.trans h
  · rfl

theorem Alg.dual_ev_supp (F : Filter (Fin n → ℝ)) (nd : Node) : Eval.Supp (Alg.dual n) (Alg.ev F Alg.real) nd :=
  fun op _ _ _ h => dual_ev_un F op h

/-- **Operator-level correctness of the dual numbers**: when an operation of `Alg.dual n` is defined
    on dual numbers that are the values and gradients at `p` of some functions, then the real
    operation applied to these functions is defined in a neighbourhood of `p`, and the resulting
    dual number is the value and the gradient at `p` of the resulting function. -/
theorem Alg.dual_ev (n : ℕ) (p : Fin n → ℝ) : AlgRel (DRel n p) (Alg.dual n) (Alg.ev (𝓝 p) Alg.real) where
  ofItv := by
    intro I a h
    simp only [Alg.dual, Option.map_eq_some_iff] at h
    obtain ⟨q, hq, rfl⟩ := h
    obtain ⟨b, hb, hqb⟩ := Alg.rat_real.ofItv I q hq
    refine ⟨fun _ => b, ?_, ?_⟩
    · show (Alg.real.ofItv I).map _ = _
      rw [hb]; rfl
    · rw [show b = (q : ℝ) from hqb]
      exact DRel.const n p q
  zero := by
    have := DRel.const n p 0
    simp only [Rat.cast_zero] at this
    exact this
  add := .of_total fun a φ b ψ ha hb =>
    DRel.of_eventually (ψ := fun x => φ x + ψ x) (Eventually.of_forall fun x => rfl)
      (.lin ha hb Rat.cast_one Rat.cast_one (by simp [ha.2.1, hb.2.1]) fun _ _ => fderiv_lin_add)
  sub := .of_total fun a φ b ψ ha hb =>
    DRel.of_eventually (ψ := fun x => φ x - ψ x) (Eventually.of_forall fun x => rfl)
      (.lin ha hb Rat.cast_one (by simp) (by simp [ha.2.1, hb.2.1]) fun _ _ => fderiv_lin_sub)
  mul := .of_total fun a φ b ψ ha hb =>
    DRel.of_eventually (ψ := fun x => φ x * ψ x) (Eventually.of_forall fun x => rfl)
      (.lin ha hb hb.2.1.symm ha.2.1.symm (by simp [ha.2.1, hb.2.1]) fun _ _ => fderiv_lin_mul)
  div := .of_undef fun a φ b ψ ha hb hb0 => by
    have hb0' : ψ p ≠ 0 := by rw [hb.2.1]; exact_mod_cast hb0
    refine DRel.of_eventually (ψ := fun x => φ x * (ψ x)⁻¹) ?_
      (.lin ha hb (by simp [hb.2.1]) (by simp [ha.2.1, hb.2.1, neg_div]) (by simp [ha.2.1, hb.2.1, div_eq_mul_inv])
        fun _ _ => fderiv_lin_div hb0')
    filter_upwards [hb.cont.eventually_ne hb0'] with x hx
    rw [Alg.real_div, if_neg hx, div_eq_mul_inv]
  max := by
    intro a φ b ψ x ha hb h
    simp only [Alg.dual] at h
    split at h
    · rename_i hlt
      simp only [Option.some.injEq] at h
      subst h
      have hlt' : φ p < ψ p := by rw [ha.2.1, hb.2.1]; exact_mod_cast hlt
      refine DRel.of_eventually (ψ := ψ) ?_ hb
      filter_upwards [ha.cont.eventually_lt hb.cont hlt'] with x hx
      rw [Alg.real_max, max_eq_right hx.le]
    · split at h
      · rename_i _ hlt
        simp only [Option.some.injEq] at h
        subst h
        have hlt' : ψ p < φ p := by rw [ha.2.1, hb.2.1]; exact_mod_cast hlt
        refine DRel.of_eventually (ψ := φ) ?_ ha
        filter_upwards [hb.cont.eventually_lt ha.cont hlt'] with x hx
        rw [Alg.real_max, max_eq_left hx.le]
      · exact absurd h (by simp)
  min := by
    intro a φ b ψ x ha hb h
    simp only [Alg.dual] at h
    split at h
    · rename_i hlt
      simp only [Option.some.injEq] at h
      subst h
      have hlt' : φ p < ψ p := by rw [ha.2.1, hb.2.1]; exact_mod_cast hlt
      refine DRel.of_eventually (ψ := φ) ?_ ha
      filter_upwards [ha.cont.eventually_lt hb.cont hlt'] with x hx
      rw [Alg.real_min, min_eq_left hx.le]
    · split at h
      · rename_i _ hlt
        simp only [Option.some.injEq] at h
        subst h
        have hlt' : ψ p < φ p := by rw [ha.2.1, hb.2.1]; exact_mod_cast hlt
        refine DRel.of_eventually (ψ := ψ) ?_ hb
        filter_upwards [hb.cont.eventually_lt ha.cont hlt'] with x hx
        rw [Alg.real_min, min_eq_right hx.le]
      · exact absurd h (by simp)
  un := by
    intro op f g hf hg
    simp only [Alg.dual] at hf
    split at hf
    · exact .of_un hf rfl hg (Alg.ev_un_some Alg.real_un_minus) (.of_total fun a φ ha =>
        DRel.of_eventually (ψ := fun x => -φ x) (Eventually.of_forall fun x => rfl)
          (.scale ha (by simp) (by simp [ha.2.1]) fun _ => fderiv_lin_neg))
    · exact .of_un hf rfl hg (Alg.ev_un_some Alg.real_un_sqr) (.of_total fun a φ ha =>
        DRel.of_eventually (ψ := fun x => φ x * φ x) (Eventually.of_forall fun x => rfl)
          (.scale ha (by simp [ha.2.1]) (by simp [ha.2.1]) fun _ => fderiv_lin_sqr))
    · refine .of_un hf rfl hg (Alg.ev_un_some Alg.real_un_abs) ?_
      intro a φ x ha hx
      dsimp only at hx
      split at hx
      · rename_i hpos
        cases hx
        have hpos' : (0 : ℝ) < φ p := by rw [ha.2.1]; exact_mod_cast hpos
        refine DRel.of_eventually (ψ := φ) ?_ ha
        filter_upwards [continuousAt_const.eventually_lt ha.cont hpos'] with x hx
        rw [abs_of_pos hx]
      · split at hx
        · rename_i _ hneg
          cases hx
          have hneg' : φ p < 0 := by rw [ha.2.1]; exact_mod_cast hneg
          refine DRel.of_eventually (ψ := fun x => -φ x) ?_
            (.scale ha (by simp) (by simp [ha.2.1]) fun _ => fderiv_lin_neg)
          filter_upwards [ha.cont.eventually_lt continuousAt_const hneg'] with x hx
          rw [abs_of_neg hx]
        · cases hx
    · refine .of_un hf rfl hg (Alg.ev_un_some Alg.real_un_sign) (.of_undef fun a φ ha hne => ?_)
      refine DRel.of_eventually (ψ := fun _ => ((ratSign a.v : ℚ) : ℝ)) ?_
        (.scale ha Rat.cast_zero rfl fun La _ => fderiv_lin_const _ La)
      rw [ratSign_cast, ← ha.2.1]
      rcases lt_or_gt_of_ne hne with hneg | hpos
      · have hneg' : φ p < 0 := by rw [ha.2.1]; exact_mod_cast hneg
        filter_upwards [ha.cont.eventually_lt continuousAt_const hneg'] with x hx
        rw [sign_neg hx, sign_neg hneg']
      · have hpos' : (0 : ℝ) < φ p := by rw [ha.2.1]; exact_mod_cast hpos
        filter_upwards [continuousAt_const.eventually_lt ha.cont hpos'] with x hx
        rw [sign_pos hx, sign_pos hpos']
    · cases hf
  pow := by
    intro k a φ x ha h
    simp only [Alg.dual] at h
    split at h
    · rename_i hk
      subst hk
      cases h
      exact DRel.of_eventually (ψ := fun _ => (1 : ℝ)) (Eventually.of_forall fun x => by simp [Alg.real_pow])
        (.scale ha Rat.cast_zero Rat.cast_one.symm fun La _ => fderiv_lin_const _ La)
    · split at h
      · rename_i hk
        cases h
        have hnn : ¬ k < 0 := by omega
        refine DRel.of_eventually (ψ := fun x => φ x ^ k)
          (Eventually.of_forall fun x => by simp [Alg.real_pow, hnn])
          (.scale ha ?_ ?_ fun _ => fderiv_lin_zpow (.inr (by omega)))
        · have e : k - 1 = ((k.toNat - 1 : ℕ) : ℤ) := by omega
          rw [ha.2.1, e, zpow_natCast]
          push_cast
          rfl
        · rw [ha.2.1]
          exact (ratPow_cast (n := k) (by rw [ratPow, if_pos (by omega)])).2
      · split at h
        · cases h
        · rename_i hk hne
          cases h
          have hne' : φ p ≠ 0 := by rw [ha.2.1]; exact_mod_cast hne
          refine DRel.of_eventually (ψ := fun x => φ x ^ k) ?_
            (.scale ha ?_ ?_ fun _ => fderiv_lin_zpow (.inl hne'))
          · filter_upwards [ha.cont.eventually_ne hne'] with x hx
            simp [Alg.real_pow, hx]
          · have e : k - 1 = -((((-k).toNat + 1 : ℕ)) : ℤ) := by omega
            rw [ha.2.1, e, zpow_neg, zpow_natCast, ← div_eq_mul_inv]
            push_cast
            rfl
          · rw [ha.2.1]
            exact (ratPow_cast (n := k) (by rw [ratPow, if_neg (by omega), if_neg hne])).2
  chi := by
    intro a φa b φb c φc x ha hb hc h
    simp only [Alg.dual] at h
    split at h
    · rename_i hneg
      simp only [Option.some.injEq] at h; subst h
      have hneg' : φa p < 0 := by rw [ha.2.1]; exact_mod_cast hneg
      refine DRel.of_eventually (ψ := φb) ?_ hb
      filter_upwards [ha.cont.eventually_lt continuousAt_const hneg'] with x hx
      rw [Alg.real_chi, if_pos hx.le]
    · split at h
      · rename_i _ hpos
        simp only [Option.some.injEq] at h; subst h
        have hpos' : (0 : ℝ) < φa p := by rw [ha.2.1]; exact_mod_cast hpos
        refine DRel.of_eventually (ψ := φc) ?_ hc
        filter_upwards [continuousAt_const.eventually_lt ha.cont hpos'] with x hx
        rw [Alg.real_chi, if_neg (not_le.2 hx)]
      · exact absurd h (by simp)

/-! ## 4. every DAG: the dual evaluation computes the value and the derivative of the real denotation -/

def ptR (p : List ℚ) : Fin p.length → ℝ := fun k => ((p[k.1]'k.2 : ℚ) : ℝ)

/-- the coordinate functions `x ↦ x_k`, i.e. the environment of the function algebra -/
def coordFns (n : ℕ) : List ((Fin n → ℝ) → ℝ) := List.ofFn fun (k : Fin n) (x : Fin n → ℝ) => x k

theorem coordFns_at {n : ℕ} (x : Fin n → ℝ) : (coordFns n).map (· x) = List.ofFn x := by
  unfold coordFns
  rw [List.map_ofFn]
  rfl

/-- the seeded environment of `dualEval`: variable `k` has value `p_k` and gradient `e_k` -/
theorem seed_rel (p : List ℚ) : Forall₂ (DRel p.length (ptR p)) (Deriv.seed p) (coordFns p.length) := by
  rw [List.forall₂_iff_get]
  refine ⟨by simp [Deriv.seed, coordFns], fun i h1 h2 => ?_⟩
  have hi : i < p.length := by simpa [Deriv.seed] using h1
  simp only [Deriv.seed, coordFns, List.get_eq_getElem, List.getElem_map, List.getElem_zipIdx,
    List.getElem_ofFn, Nat.zero_add]
  refine ⟨by simp, rfl, ?_⟩
  show HasFDerivAt _ (gradMap p.length ((List.range p.length).map fun j => if j == i then (1 : ℚ) else 0)) _
  rw [gradMap_unit ⟨i, hi⟩]
  exact hasFDerivAt_apply (𝕜 := ℝ) (⟨i, hi⟩ : Fin p.length) (ptR p)

/-- **Correctness of the dual evaluation, all nodes.**  If the dual-number evaluation of `dag`
    (with applied functions `funs`) at the rational point `p` is defined, with node values `dvals`,
    then there are node values `fvals` that are functions of `x : Fin n → ℝ` such that
    (1) for every `x` in a neighbourhood of `p` the evaluation of `dag` in the real semantics at `x`
        is defined and its node values are `fvals` at `x`;
    (2) every entry `d` of `dvals` and the corresponding entry `φ` of `fvals` satisfy `DRel`:
        `φ p = d.v` and `φ` has the Fréchet derivative `v ↦ Σ_k d.g[k]·v_k` at `p`. -/
theorem dual_run_correct (funs : List Dag) (dag : Dag) (p : List ℚ) {dvals : Array (Mat Dual)}
    (h : Eval.run (Alg.dual p.length) (Deriv.seed p) (Eval.buildCalls (Alg.dual p.length) funs) dag = some dvals) :
    ∃ fvals : Array (Mat ((Fin p.length → ℝ) → ℝ)),
      (∀ᶠ x in 𝓝 (ptR p), Eval.run Alg.real (List.ofFn x) (Eval.buildCalls Alg.real funs) dag
          = some (fvals.map (Mat.at x))) ∧
      dvals.size = fvals.size ∧ Eval.ArgsRel (DRel p.length (ptR p)) dvals fvals := by
  have hA := Alg.dual_ev p.length (ptR p)
  obtain ⟨fvals, hrun, hs, hv⟩ := Eval.run_rel_total hA (seed_rel p)
    (Eval.buildCalls_rel_total hA funs fun _ _ nd _ => Alg.dual_ev_supp _ nd)
    (fun nd _ => Alg.dual_ev_supp _ nd) h
  refine ⟨fvals, ?_, hs, hv⟩
  filter_upwards [Eval.run_ev (Eval.buildCalls_ev funs) hrun] with x hx
  rw [coordFns_at] at hx
  exact hx

/-- **Correctness of the dual evaluation, root value** (`Deriv.dualEval`, as used by the driver). -/
theorem dual_root_correct (funs : List Dag) (dag : Dag) (p : List ℚ) {dv : Mat Dual}
    (h : Deriv.dualEval funs dag p = some dv) :
    ∃ fv : Mat ((Fin p.length → ℝ) → ℝ),
      (∀ᶠ x in 𝓝 (ptR p), Eval.root Alg.real (List.ofFn x) (Eval.buildCalls Alg.real funs) dag = some (fv.at x)) ∧
      MatRel (DRel p.length (ptR p)) dv fv := by
  have hA := Alg.dual_ev p.length (ptR p)
  obtain ⟨fv, hroot, hv⟩ := Eval.root_rel_total hA (seed_rel p)
    (Eval.buildCalls_rel_total hA funs fun _ _ nd _ => Alg.dual_ev_supp _ nd)
    (fun nd _ => Alg.dual_ev_supp _ nd) h
  refine ⟨fv, ?_, hv⟩
  filter_upwards [Eval.root_ev (Eval.buildCalls_ev funs) hroot] with x hx
  rw [coordFns_at] at hx
  exact hx

/-! ## 5. partial derivatives -/

theorem gradMap_single {n : ℕ} (g : List ℚ) (j : Fin n) : gradMap n g (Pi.single j 1) = gcoef g j := by
  rw [gradMap_apply, Finset.sum_eq_single j]
  · simp
  · intro k _ hkj
    simp [hkj]
  · intro h; exact absurd (Finset.mem_univ j) h

/-- the `j`-th partial derivative: derivative of `t ↦ φ (p with p_j replaced by t)` at `t = p_j` -/
theorem DRel.partial {d : Dual} {φ : (Fin n → ℝ) → ℝ} (h : DRel n p d φ) (j : Fin n) :
    HasDerivAt (fun t => φ (Function.update p j t)) (gcoef d.g j) (p j) := by
  have h1 := hasDerivAt_update p j (p j)
  have h2 : HasFDerivAt φ (gradMap n d.g) (Function.update p j (p j)) := by
    rw [Function.update_eq_self]; exact h.2.2
  have := h2.comp_hasDerivAt (p j) h1
  rw [gradMap_single] at this
  exact this

theorem DRel.partial_line {d : Dual} {φ : (Fin n → ℝ) → ℝ} (h : DRel n p d φ) (j : Fin n) :
    HasDerivAt (fun t => φ (Function.update p j (p j + t))) (gcoef d.g j) 0 := by
  have h1 : HasDerivAt (fun t : ℝ => p j + t) 1 0 := by
    simpa using (hasDerivAt_id (0 : ℝ)).const_add (p j)
  have h2 : HasDerivAt (fun t => φ (Function.update p j t)) (gcoef d.g j) (p j + 0) := by
    rw [add_zero]; exact h.partial j
  have := h2.comp (0 : ℝ) h1
  rw [mul_one] at this
  exact this

/-- **One direction at a time** (the line `t ↦ p + t·e_j`): for `t` near `0` the real evaluation at
    `p + t·e_j` is defined, its node values are `fvals` at that point, and for every node and every
    entry `d` of its dual value, the entry `φ` of `fvals` satisfies `φ(p) = d.v` and
    `t ↦ φ(p + t·e_j)` has the derivative `d.g[j]` at `t = 0`. -/
theorem dual_run_correct_line (funs : List Dag) (dag : Dag) (p : List ℚ) {dvals : Array (Mat Dual)}
    (h : Eval.run (Alg.dual p.length) (Deriv.seed p) (Eval.buildCalls (Alg.dual p.length) funs) dag = some dvals)
    (j : Fin p.length) :
    ∃ fvals : Array (Mat ((Fin p.length → ℝ) → ℝ)),
      (∀ᶠ t in 𝓝 (0 : ℝ),
        Eval.run Alg.real (List.ofFn (Function.update (ptR p) j (ptR p j + t))) (Eval.buildCalls Alg.real funs) dag
          = some (fvals.map (Mat.at (Function.update (ptR p) j (ptR p j + t))))) ∧
      dvals.size = fvals.size ∧
      ∀ (i : ℕ) (v : Mat Dual), dvals[i]? = some v → ∃ z, fvals[i]? = some z ∧ v.r = z.r ∧ v.c = z.c ∧
        Forall₂ (fun (d : Dual) (φ : (Fin p.length → ℝ) → ℝ) => φ (ptR p) = (d.v : ℝ) ∧
          HasDerivAt (fun t => φ (Function.update (ptR p) j (ptR p j + t))) ((d.g.getD j 0 : ℚ) : ℝ) 0) v.d z.d := by
  obtain ⟨fvals, hev, hs, hv⟩ := dual_run_correct funs dag p h
  refine ⟨fvals, ?_, hs, fun i v hi => ?_⟩
  · have hcont : Continuous fun t : ℝ => Function.update (ptR p) j (ptR p j + t) :=
      continuous_const.update j (continuous_const.add continuous_id)
    have htend := hcont.tendsto 0
    simp only [add_zero, Function.update_eq_self] at htend
    exact htend.eventually hev
  · obtain ⟨z, hz, hr, hc, hd⟩ := hv i v hi
    exact ⟨z, hz, hr, hc, hd.imp fun d φ hrel => ⟨hrel.2.1, hrel.partial_line j⟩⟩

/-! ## 6. the real denotation as a function, entry by entry -/

/-- entry `i` (row-major) of the real value of `dag` at the point `x`; junk value `0` where the
    real evaluation is undefined (it IS defined near `p` in the theorems below) -/
def realEntry (funs : List Dag) (dag : Dag) {n : ℕ} (i : ℕ) (x : Fin n → ℝ) : ℝ :=
  ((Eval.root Alg.real (List.ofFn x) (Eval.buildCalls Alg.real funs) dag).bind (·.d[i]?)).getD 0

/-- **The dual evaluation computes the true value and the true derivative of every output
    component.**  `v = dualEval funs dag p`.  Then
    (1) the real evaluation of the DAG is defined on a neighbourhood of `p`, with the shape of `v`;
    (2) for every component `i`: the real value at `p` is `v.d[i].v`, the real denotation
        `realEntry funs dag i` is Fréchet-differentiable at `p` with derivative
        `u ↦ Σ_k v.d[i].g[k]·u_k`. -/
theorem dual_entry_correct (funs : List Dag) (dag : Dag) (p : List ℚ) {v : Mat Dual}
    (h : Deriv.dualEval funs dag p = some v) :
    (∀ᶠ x in 𝓝 (ptR p), ∃ y, Eval.root Alg.real (List.ofFn x) (Eval.buildCalls Alg.real funs) dag = some y ∧
      y.r = v.r ∧ y.c = v.c ∧ y.d.length = v.d.length) ∧
    ∀ (i : ℕ) (hi : i < v.d.length), DRel p.length (ptR p) v.d[i] (realEntry funs dag i) := by
  obtain ⟨fv, hev, hr, hc, hd⟩ := dual_root_correct funs dag p h
  constructor
  · filter_upwards [hev] with x hx
    exact ⟨_, hx, hr.symm, hc.symm, by simp [Mat.at, Mat.map, hd.length_eq]⟩
  · intro i hi
    obtain ⟨hi', hrel⟩ := forall₂_getElem hd hi
    refine hrel.congr ?_
    filter_upwards [hev] with x hx
    simp [realEntry, hx, Mat.at, Mat.map, hi']

/-! ### exact rational evaluation at `p` gives the values of the real denotation -/

theorem ptR_env (p : List ℚ) : Forall₂ RCast p (List.ofFn (ptR p)) := by
  rw [List.forall₂_iff_get]
  refine ⟨by simp, fun i h1 h2 => ?_⟩
  simp [RCast, ptR]

theorem rat_root_real (funs : List Dag) (dag : Dag) (p : List ℚ) {v : Mat ℚ}
    (h : Eval.root Alg.rat p (Eval.buildCalls Alg.rat funs) dag = some v) :
    ∃ y : Mat ℝ, Eval.root Alg.real (List.ofFn (ptR p)) (Eval.buildCalls Alg.real funs) dag = some y ∧
      MatRel RCast v y :=
  Eval.root_rel_total Alg.rat_real (ptR_env p)
    (Eval.buildCalls_rel_total Alg.rat_real funs fun _ _ nd _ => Alg.rat_real_supp nd)
    (fun nd _ => Alg.rat_real_supp nd) h

theorem realEntry_of_rat (funs : List Dag) (dag : Dag) (p : List ℚ) {v : Mat ℚ}
    (h : Eval.root Alg.rat p (Eval.buildCalls Alg.rat funs) dag = some v) {i : ℕ} {a : ℚ}
    (hi : v.d[i]? = some a) : realEntry funs dag i (ptR p) = (a : ℝ) := by
  obtain ⟨y, hy, hrel⟩ := rat_root_real funs dag p h
  obtain ⟨b, h2, hab⟩ := forall₂_getElem?_left hrel.2.2 hi
  simp [realEntry, hy, h2, hab]

end

end Ibex
