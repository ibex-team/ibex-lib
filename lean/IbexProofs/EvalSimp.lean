import Lean.Meta.Tactic.Simp.RegisterCommand

/-- equations that evaluate `Eval.run` on a DAG given as a literal, one node at a time -/
register_simp_attr dag_eval
