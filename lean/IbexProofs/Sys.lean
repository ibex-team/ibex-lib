/-
  C13 — the model of the derived systems (`IbexModel/Sys.lean`) over the reals: how the DAG surgery (negation,
  difference with a constant or a variable, renaming, longer environment) evaluates, then what normalization,
  extension, copy and merge do to the set of solutions.
-/
import IbexProofs.SysSem

namespace Ibex
namespace Eval
variable {α : Type} {A : Alg α} {env : List α} {call : Nat → List (Mat α) → Option (Mat α)}

/-! ### the evaluator on a DAG with one more node, and on a DAG with renamed nodes (any algebra) -/

theorem run_push (d : Dag) (n : Node) :
    run A env call (d.push n) = (run A env call d).bind fun vals => step A env call vals n := by
  rw [run_eq, run_eq, Array.toList_push, List.foldlM_append]
  simp [bind]

theorem root_of_back_none {d : Dag} (h : d.back? = none) : root A env call d = none := by
  rw [Array.back?_eq_none_iff] at h
  subst h
  simp [root, run]

theorem run_back {d : Dag} {vals : Array (Mat α)} (h : run A env call d = some vals) {nd : Node}
    (hb : d.back? = some nd) : vals.size = d.size ∧ ∃ v, vals.back? = some v ∧ v.r = nd.r ∧ v.c = nd.c := by
  constructor
  · rw [run_eq] at h
    have := (fold_prefix _ h).1
    simpa using this
  · have hne : d.size ≠ 0 := by
      intro h0
      have : d = #[] := Array.eq_empty_of_size_eq_zero h0
      subst this
      simp at hb
    obtain ⟨d', x, rfl⟩ := Array.eq_push_of_size_ne_zero hne
    rw [Array.back?_push] at hb
    cases hb
    rw [run_push] at h
    simp only [Option.bind_eq_some_iff] at h
    obtain ⟨vals', _, h⟩ := h
    obtain ⟨v, _, hr, hc, rfl⟩ := step_eq_some h
    exact ⟨v, Array.back?_push, hr, hc⟩

theorem root_eq_some_iff {d : Dag} {v : Mat α} :
    root A env call d = some v ↔ ∃ vals, run A env call d = some vals ∧ vals.back? = some v := by
  simp [root, Option.bind_eq_some_iff]

theorem root_push {d : Dag} {vals : Array (Mat α)} (h : run A env call d = some vals) (n : Node) :
    root A env call (d.push n) =
      (nodeVal A env call vals n).bind fun w => if w.r = n.r ∧ w.c = n.c then some w else none := by
  rw [root_eq_bind, run_push, h, Option.bind_some, step_eq]
  cases nodeVal A env call vals n with
  | none => rfl
  | some w =>
    rw [Option.bind_some, Option.bind_some]
    by_cases hd : w.r = n.r ∧ w.c = n.c
    · rw [if_pos hd, if_pos hd, Option.bind_some, Array.back?_push]
    · rw [if_neg hd, if_neg hd]; rfl

theorem run_push_some {d : Dag} {vals : Array (Mat α)} (h : run A env call d = some vals) {n : Node} {w : Mat α}
    (h1 : nodeVal A env call vals n = some w) (hr : w.r = n.r) (hc : w.c = n.c) :
    run A env call (d.push n) = some (vals.push w) := by
  rw [run_push, h, Option.bind_some, step_of_nodeVal h1 hr hc]

theorem getElem?_push_of_back {β : Type} {vals : Array β} {v : β} (hv : vals.back? = some v) (w : β) :
    (vals.push w)[vals.size - 1]? = some v ∧ (vals.push w)[vals.size]? = some w := by
  have : 0 < vals.size := by
    rcases Nat.eq_zero_or_pos vals.size with h0 | h0
    · have : vals = #[] := Array.eq_empty_of_size_eq_zero h0
      subst this; simp at hv
    · exact h0
  constructor
  · rw [Array.getElem?_push, if_neg (by omega), ← Array.back?_eq_getElem?]; exact hv
  · simp

theorem fold_congr {e₁ e₂ : List α} {call : Nat → List (Mat α) → Option (Mat α)} (g : Node → Node) :
    ∀ (ns : List Node) (acc : Array (Mat α)),
      (∀ nd ∈ ns, (g nd).r = nd.r ∧ (g nd).c = nd.c ∧
        ∀ vals, nodeVal A e₁ call vals (g nd) = nodeVal A e₂ call vals nd) →
      (ns.map g).foldlM (step A e₁ call) acc = ns.foldlM (step A e₂ call) acc := by
  intro ns
  induction ns with
  | nil => intro acc _; rfl
  | cons nd ns ih =>
    intro acc h
    obtain ⟨h1, h2, h3⟩ := h nd (by simp)
    have hs : step A e₁ call acc (g nd) = step A e₂ call acc nd := by
      unfold step; rw [h3, h1, h2]
    simp only [List.map_cons, List.foldlM_cons, hs]
    cases step A e₂ call acc nd with
    | none => rfl
    | some acc' => exact ih acc' fun x hx => h x (by simp [hx])

theorem run_congr {e₁ e₂ : List α} {call : Nat → List (Mat α) → Option (Mat α)} (g : Node → Node) (d : Dag)
    (h : ∀ nd ∈ d, (g nd).r = nd.r ∧ (g nd).c = nd.c ∧
        ∀ vals, nodeVal A e₁ call vals (g nd) = nodeVal A e₂ call vals nd) :
    run A e₁ call (d.map g) = run A e₂ call d := by
  rw [run_eq, run_eq, Array.toList_map]
  exact fold_congr g _ _ fun nd hnd => h nd (Array.mem_toList_iff.1 hnd)

end Eval

namespace Sys
open Ibex Ibex.Eval

variable {A : Alg ℝ}

/-! ### evaluation of the derived DAGs -/

/-- `List.mapM_pure` with `some` written out -/
theorem mapM_some {α β : Type} (f : α → β) (l : List α) : l.mapM (fun a => some (f a)) = some (l.map f) :=
  List.mapM_pure (m := Option)

theorem mapM_replicate {α β : Type} (f : α → Option β) (a : α) (b : β) (h : f a = some b) (k : ℕ) :
    (List.replicate k a).mapM f = some (List.replicate k b) := by
  induction k with
  | zero => rfl
  | succ k ih => simp [List.replicate_succ, List.mapM_cons, ih, h]

theorem map_zip_replicate_right {α β γ : Type} (f : α → β → γ) (l : List α) (b : β) :
    (List.zip l (List.replicate l.length b)).map (fun p => f p.1 p.2) = l.map fun a => f a b := by
  induction l with
  | nil => rfl
  | cons a l ih => simp [List.replicate_succ, ih]

theorem map_zip_replicate_left {α β γ : Type} (f : β → α → γ) (l : List α) (b : β) :
    (List.zip (List.replicate l.length b) l).map (fun p => f p.1 p.2) = l.map fun a => f b a := by
  induction l with
  | nil => rfl
  | cons a l ih => simp [List.replicate_succ, ih]

theorem unVal_minus (hA : RealLike A) (v : Mat ℝ) :
    unVal A "minus" v = some ⟨v.r, v.c, v.d.map fun x => -x⟩ := by
  rw [show unVal A "minus" v = (A.un "minus").bind fun f => v.mapM? f from rfl, hA.neg, Option.bind_some,
    Mat.mapM?, mapM_some, Option.map_some]

theorem evalR_neg (hA : RealLike A) (f : Prog) (ρ : List ℝ) :
    evalR A f.neg ρ = (evalR A f ρ).map fun v => ⟨v.r, v.c, v.d.map fun x => -x⟩ := by
  unfold evalR Prog.neg negDag
  simp only
  cases hb : f.main.back? with
  | none => simp [root_of_back_none hb]
  | some nd =>
    simp only
    cases hr : run A ρ (buildCalls A f.funs) f.main with
    | none => simp [root, run_push, hr]
    | some vals =>
      obtain ⟨hs, v, hv, hvr, hvc⟩ := run_back hr hb
      rw [root_push hr, root_eq_some_iff.2 ⟨vals, hr, hv⟩, nodeVal_un, ← hs, ← Array.back?_eq_getElem?, hv,
        Option.bind_some, unVal_minus hA]
      simp [hvr, hvc]

theorem zip?_sub (hA : RealLike A) (a b : Mat ℝ) :
    Mat.zip? A.sub a b =
      if a.r = b.r ∧ a.c = b.c then some ⟨a.r, a.c, (List.zip a.d b.d).map fun p => p.1 - p.2⟩ else none := by
  unfold Mat.zip?
  have : (fun p : ℝ × ℝ => A.sub p.1 p.2) = fun p => some (p.1 - p.2) := by
    funext p; exact hA.sub _ _
  rw [this, mapM_some]
  by_cases h : a.r = b.r ∧ a.c = b.c
  · simp [h]
  · rw [if_neg h]
    have : (a.r == b.r && a.c == b.c) = false := by simpa [Bool.and_eq_false_iff] using h
    simp [this]

theorem nodeVal_const (hA : RealLike A) (env : List ℝ) (call : Nat → List (Mat ℝ) → Option (Mat ℝ))
    (vals : Array (Mat ℝ)) (q : ℚ) (r c : ℕ) :
    nodeVal A env call vals ⟨.const (List.replicate (r * c) (Itv.point q)), r, c⟩ =
      some ⟨r, c, List.replicate (r * c) (q : ℝ)⟩ := by
  simp [nodeVal, mapM_replicate _ _ _ (hA.pt q)]

/-- `swap`: the constant first (`q - f`) -/
theorem root_push_const_sub (hA : RealLike A) (ρ : List ℝ) (funs : List Dag) {d : Dag} {nd : Node}
    (hb : d.back? = some nd) (q : ℚ) (swap : Bool) :
    root A ρ (buildCalls A funs)
        ((d.push ⟨.const (List.replicate (nd.r * nd.c) (Itv.point q)), nd.r, nd.c⟩).push
          ⟨.bin "sub" (if swap then d.size else d.size - 1) (if swap then d.size - 1 else d.size), nd.r, nd.c⟩) =
      (root A ρ (buildCalls A funs) d).map fun v =>
        ⟨v.r, v.c, v.d.map fun x => if swap then (q : ℝ) - x else x - (q : ℝ)⟩ := by
  cases hr : run A ρ (buildCalls A funs) d with
  | none => simp [root, run_push, hr]
  | some vals =>
    obtain ⟨hs, v, hv, hvr, hvc⟩ := run_back hr hb
    have h1 : root A ρ (buildCalls A funs) d = some v := root_eq_some_iff.2 ⟨vals, hr, hv⟩
    have hwf : v.d.length = nd.r * nd.c := hvr ▸ hvc ▸ root_wf _ _ _ _ h1
    rw [root_push (run_push_some hr (nodeVal_const hA _ _ _ q nd.r nd.c) rfl rfl), h1]
    obtain ⟨g1, g2⟩ := hs ▸ getElem?_push_of_back hv ⟨nd.r, nd.c, List.replicate (nd.r * nd.c) (q : ℝ)⟩
    cases swap
    · rw [if_neg Bool.false_ne_true, if_neg Bool.false_ne_true, nodeVal_bin, g1, g2, Option.bind_some,
        Option.bind_some, binVal_sub, zip?_sub hA]
      simp [hvr, hvc, ← hwf, map_zip_replicate_right]
    · rw [if_pos rfl, if_pos rfl, nodeVal_bin, g2, g1, Option.bind_some, Option.bind_some, binVal_sub, zip?_sub hA]
      simp [hvr, hvc, ← hwf, map_zip_replicate_left]

theorem evalR_subConst (hA : RealLike A) (f : Prog) (q : ℚ) (ρ : List ℝ) :
    evalR A (f.subConst q) ρ = (evalR A f ρ).map fun v => ⟨v.r, v.c, v.d.map fun x => x - (q : ℝ)⟩ := by
  unfold evalR Prog.subConst subConstDag
  simp only
  cases hb : f.main.back? with
  | none => simp [root_of_back_none hb]
  | some nd => exact root_push_const_sub hA ρ f.funs hb q false

theorem evalR_constSub (hA : RealLike A) (f : Prog) (q : ℚ) (ρ : List ℝ) :
    evalR A (f.constSub q) ρ = (evalR A f ρ).map fun v => ⟨v.r, v.c, v.d.map fun x => (q : ℝ) - x⟩ := by
  unfold evalR Prog.constSub constSubDag
  simp only
  cases hb : f.main.back? with
  | none => simp [root_of_back_none hb]
  | some nd => exact root_push_const_sub hA ρ f.funs hb q true

/-! ### change of environment -/

theorem run_append_env (call : Nat → List (Mat ℝ) → Option (Mat ℝ)) (d : Dag) (n : ℕ) (ρ ys : List ℝ)
    (hn : ρ.length = n) (hv : varsWithin n d = true) :
    run A (ρ ++ ys) call d = run A ρ call d := by
  have := run_congr (A := A) (e₁ := ρ ++ ys) (e₂ := ρ) (call := call) id d ?_
  · simpa using this
  · intro nd hnd
    refine ⟨rfl, rfl, fun vals => ?_⟩
    unfold varsWithin at hv
    rw [Array.all_eq_true_iff_forall_mem] at hv
    have := hv nd hnd
    obtain ⟨k, r, c⟩ := nd
    cases k with
    | var off =>
      simp only [decide_eq_true_eq] at this
      simp only [id, nodeVal]
      rw [List.drop_append_of_le_length (by omega), List.take_append_of_le_length (by simp; omega)]
    | _ => rfl

theorem evalR_append (f : Prog) (n : ℕ) (ρ ys : List ℝ) (hn : ρ.length = n)
    (hv : varsWithin n f.main = true) : evalR A f (ρ ++ ys) = evalR A f ρ := by
  unfold evalR root
  rw [run_append_env _ _ n _ _ hn hv]


theorem nodeVal_lastVar (call : Nat → List (Mat ℝ) → Option (Mat ℝ)) (vals : Array (Mat ℝ))
    (n : ℕ) (ρ : List ℝ) (y : ℝ) (hn : ρ.length = n) :
    nodeVal A (ρ ++ [y]) call vals ⟨.var n, 1, 1⟩ = some ⟨1, 1, [y]⟩ := by
  subst hn
  simp [nodeVal]

theorem evalR_varProg (n : ℕ) (ρ : List ℝ) (y : ℝ) (hn : ρ.length = n) :
    evalR A (varProg n) (ρ ++ [y]) = some ⟨1, 1, [y]⟩ := by
  unfold evalR varProg
  have h0 : run A (ρ ++ [y]) (buildCalls A []) #[] = some #[] := by simp [run]
  have := root_push (A := A) h0 ⟨.var n, 1, 1⟩
  simp only [nodeVal_lastVar _ _ n ρ y hn] at this
  simpa using this

/-- value of `goal(x) - y` at `(x, y)`: defined exactly when the goal is a scalar defined at `x` -/
theorem evalR_subVar (hA : RealLike A) (f : Prog) (n : ℕ) (ρ : List ℝ) (y : ℝ) (hn : ρ.length = n)
    (hv : varsWithin n f.main = true) (w : Mat ℝ) :
    evalR A (f.subVar n) (ρ ++ [y]) = some w ↔
      ∃ g, evalR A f ρ = some ⟨1, 1, [g]⟩ ∧ w = ⟨1, 1, [g - y]⟩ := by
  unfold evalR Prog.subVar subVarDag
  simp only
  cases hb : f.main.back? with
  | none => simp [root_of_back_none hb]
  | some nd =>
    simp only
    cases hr : run A ρ (buildCalls A f.funs) f.main with
    | none => simp [root, run_push, run_append_env _ _ n _ _ hn hv, hr]
    | some vals =>
      obtain ⟨hs, v, hv', hvr, hvc⟩ := run_back hr hb
      have h1 : root A ρ (buildCalls A f.funs) f.main = some v := by
        rw [root_eq_some_iff]; exact ⟨vals, hr, hv'⟩
      have hwf := root_wf _ _ _ _ h1
      have hr' : run A (ρ ++ [y]) (buildCalls A f.funs) f.main = some vals := by
        rw [run_append_env _ _ n _ _ hn hv, hr]
      rw [root_push (run_push_some hr' (nodeVal_lastVar _ _ n ρ y hn) rfl rfl), h1]
      obtain ⟨g1, g2⟩ := hs ▸ getElem?_push_of_back hv' ⟨1, 1, [y]⟩
      rw [nodeVal_bin, g1, g2, Option.bind_some, Option.bind_some, binVal_sub, zip?_sub hA]
      obtain ⟨vr, vc, vd⟩ := v
      obtain ⟨k, r, c⟩ := nd
      simp only at hvr hvc hwf ⊢
      subst hvr hvc
      by_cases hd : vr = 1 ∧ vc = 1
      · obtain ⟨rfl, rfl⟩ := hd
        obtain ⟨g, rfl⟩ := List.length_eq_one_iff.1 hwf
        simp [eq_comm]
      · rw [if_neg hd]
        constructor
        · intro h; exact absurd h (by simp)
        · rintro ⟨g, hg, _⟩
          simp only [Option.some.injEq, Mat.mk.injEq] at hg
          exact absurd ⟨hg.1, hg.2.1⟩ hd


/-! ### renaming -/

theorem env₂_cons (b : Block) (bs : List Block) (p : List ℝ) :
    env₂ (b :: bs) p = (p.drop b.moff).take b.size ++ env₂ bs p := by
  simp [env₂]

/-- consecutive blocks: the block is found by its offset, and its slice of the merged point is
    what the second system reads at this offset -/
theorem blocks_spec (n : ℕ) (p : List ℝ) (hp : p.length = n) :
    ∀ (bs : List Block) (o : ℕ), blocksOK n o bs = true → ∀ b ∈ bs,
      o ≤ b.off ∧ bs.find? (fun b' => b'.off == b.off) = some b ∧
      ((env₂ bs p).drop (b.off - o)).take b.size = (p.drop b.moff).take b.size := by
  intro bs
  induction bs with
  | nil => intro o _ b hb; simp at hb
  | cons b0 bs ih =>
    intro o h b hb
    simp only [blocksOK, Bool.and_eq_true, beq_iff_eq, decide_eq_true_eq] at h
    obtain ⟨⟨⟨h1, h2⟩, h3⟩, h4⟩ := h
    have hlen : ((p.drop b0.moff).take b0.size).length = b0.size := by
      simp only [List.length_take, List.length_drop]; omega
    rw [env₂_cons]
    rcases List.mem_cons.1 hb with rfl | hb
    · refine ⟨by omega, by simp, ?_⟩
      rw [h1, Nat.sub_self, List.drop_zero, List.take_append_of_le_length (by omega),
        List.take_of_length_le (by omega)]
    · obtain ⟨g1, g2, g3⟩ := ih (o + b0.size) h4 b hb
      refine ⟨by omega, ?_, ?_⟩
      · rw [List.find?_cons]
        have : (b0.off == b.off) = false := by
          rw [beq_eq_false_iff_ne]; omega
        rw [this]; exact g2
      · rw [List.drop_append, List.drop_of_length_le (by omega), List.nil_append, hlen,
          show b.off - o - b0.size = b.off - (o + b0.size) by omega]
        exact g3

theorem renameDag_eq (σ : ℕ → ℕ) (d : Dag) :
    renameDag σ d = d.map fun nd => match nd.k with
      | .var off => ⟨.var (σ off), nd.r, nd.c⟩
      | _ => nd := rfl

theorem evalR_rename (bs : List Block) (n : ℕ) (f : Prog) (p : List ℝ) (hp : p.length = n)
    (hb : blocksOK n 0 bs = true) (hv : varsAreBlocks bs f.main = true) :
    evalR A (f.rename (blockMap bs)) p = evalR A f (env₂ bs p) := by
  unfold evalR root Prog.rename
  simp only
  rw [renameDag_eq, run_congr]
  intro nd hnd
  unfold varsAreBlocks at hv
  rw [Array.all_eq_true_iff_forall_mem] at hv
  have := hv nd hnd
  obtain ⟨k, r, c⟩ := nd
  cases k with
  | var off =>
    refine ⟨rfl, rfl, fun vals => ?_⟩
    simp only [List.any_eq_true, Bool.and_eq_true, beq_iff_eq] at this
    obtain ⟨b, hbm, ho, hsz⟩ := this
    obtain ⟨_, g2, g3⟩ := blocks_spec n p hp bs 0 hb b hbm
    simp only [nodeVal]
    have hm : blockMap bs off = b.moff := by
      unfold blockMap; rw [← ho, g2]
    rw [hm, ← hsz, ← ho, ← g3, Nat.sub_zero]
  | _ => exact ⟨rfl, rfl, fun _ => rfl⟩


/-! ### satisfaction of constraints and of lists of constraints -/

theorem satEps_zero (c : Ctr) (ρ : List ℝ) (h : c.op = .eq) : c.SatEps A 0 ρ ↔ c.Sat A ρ := by
  unfold Ctr.SatEps Ctr.Sat
  rw [h]
  simp only [Cmp.holds, abs_nonpos_iff]

theorem satAll_cons (c : Ctr) (cs : List Ctr) (ρ : List ℝ) :
    SatAll A (c :: cs) ρ ↔ c.Sat A ρ ∧ SatAll A cs ρ :=
  List.forall_mem_cons

theorem satAll_nil (ρ : List ℝ) : SatAll A [] ρ := fun _ h => nomatch h

theorem satAll_append (cs cs' : List Ctr) (ρ : List ℝ) :
    SatAll A (cs ++ cs') ρ ↔ SatAll A cs ρ ∧ SatAll A cs' ρ :=
  List.forall_mem_append

theorem satP_congr {f : Prog} {P Q : ℝ → Prop} {ρ : List ℝ} (h : ∀ x, P x ↔ Q x) :
    SatP A f P ρ ↔ SatP A f Q ρ := by
  simp only [SatP, h]

theorem satP_and {f : Prog} {P Q : ℝ → Prop} {ρ : List ℝ} :
    SatP A f P ρ ∧ SatP A f Q ρ ↔ SatP A f (fun x => P x ∧ Q x) ρ := by
  constructor
  · rintro ⟨⟨v, hv, hP⟩, w, hw, hQ⟩
    cases hv.symm.trans hw
    exact ⟨v, hv, fun x hx => ⟨hP x hx, hQ x hx⟩⟩
  · rintro ⟨v, hv, h⟩
    exact ⟨⟨v, hv, fun x hx => (h x hx).1⟩, v, hv, fun x hx => (h x hx).2⟩

theorem satP_map {f f' : Prog} {ρ : List ℝ} {h : ℝ → ℝ}
    (he : evalR A f' ρ = (evalR A f ρ).map fun v => ⟨v.r, v.c, v.d.map h⟩) (P : ℝ → Prop) :
    SatP A f' P ρ ↔ SatP A f (fun x => P (h x)) ρ := by
  unfold SatP
  rw [he]
  cases evalR A f ρ with
  | none => simp only [Option.map_none, reduceCtorEq, false_and, exists_false]
  | some v => simp only [Option.map_some, Option.some.injEq, exists_eq_left', List.forall_mem_map]

/-! ### the four theorems -/

theorem normalize1_iff (hA : RealLike A) (eps : ℚ) (heps : 0 ≤ eps) (c : Ctr) (ρ : List ℝ) :
    SatAll A (normalize1 eps c) ρ ↔
      (c.op ≠ .eq → c.Sat A ρ) ∧ (c.op = .eq → c.SatEps A (eps : ℝ) ρ) := by
  obtain ⟨f, op⟩ := c
  have one : ∀ c : Ctr, SatAll A [c] ρ ↔ c.Sat A ρ := fun c => by rw [satAll_cons, and_iff_left (satAll_nil ρ)]
  cases op <;> simp only [normalize1, ne_eq, reduceCtorEq, not_false_eq_true, not_true_eq_false, forall_const,
    false_implies, and_true, true_and]
  · exact one _
  · exact one _
  ·
    by_cases he : 0 < eps
    · rw [if_pos he, satAll_cons, one]
      rw [Ctr.sat_iff, Ctr.sat_iff, Ctr.satEps_iff, satP_map (evalR_subConst hA f eps ρ),
        satP_map (evalR_constSub hA f (-eps) ρ), satP_and]
      refine satP_congr fun x => ?_
      simp only [Cmp.holds, abs_le, Rat.cast_neg]
      constructor
      · rintro ⟨h1, h2⟩; constructor <;> linarith
      · rintro ⟨h1, h2⟩; constructor <;> linarith
    · have h0 : eps = 0 := le_antisymm (not_lt.1 he) heps
      subst h0
      rw [if_neg he, one, Rat.cast_zero]
      exact (satEps_zero _ ρ rfl).symm
  · rw [one, Ctr.sat_iff, Ctr.sat_iff, satP_map (evalR_neg hA f ρ)]
    exact satP_congr fun x => neg_nonpos
  · rw [one, Ctr.sat_iff, Ctr.sat_iff, satP_map (evalR_neg hA f ρ)]
    exact satP_congr fun x => neg_lt_zero

/-- **Normalization.** The normalized constraints hold at a point exactly when the original
    inequalities hold there and every entry of every original equality is within `eps` of 0. -/
theorem normalized_iff (hA : RealLike A) (eps : ℚ) (heps : 0 ≤ eps) (cs : List Ctr) (ρ : List ℝ) :
    SatAll A (normalize eps cs) ρ ↔
      (∀ c ∈ cs, c.op ≠ .eq → c.Sat A ρ) ∧ (∀ c ∈ cs, c.op = .eq → c.SatEps A (eps : ℝ) ρ) := by
  calc SatAll A (normalize eps cs) ρ ↔ ∀ c ∈ cs, SatAll A (normalize1 eps c) ρ := List.forall_mem_flatMap
    _ ↔ ∀ c ∈ cs, (c.op ≠ .eq → c.Sat A ρ) ∧ (c.op = .eq → c.SatEps A (eps : ℝ) ρ) :=
      forall₂_congr fun c _ => normalize1_iff hA eps heps c ρ
    _ ↔ _ := forall₂_and

theorem normalized_zero_iff (hA : RealLike A) (cs : List Ctr) (ρ : List ℝ) :
    SatAll A (normalize 0 cs) ρ ↔ SatAll A cs ρ := by
  rw [normalized_iff hA 0 le_rfl]
  simp only [Rat.cast_zero]
  unfold SatAll
  constructor
  · rintro ⟨h1, h2⟩ c hc
    by_cases he : c.op = .eq
    · exact (satEps_zero c ρ he).1 (h2 c hc he)
    · exact h1 c hc he
  · intro h
    exact ⟨fun c hc _ => h c hc, fun c hc he => (satEps_zero c ρ he).2 (h c hc)⟩


/-- the nodes added by the derivations read no variable -/
theorem varsWithin_push {n : ℕ} {d : Dag} (h : varsWithin n d = true) {nd : Node} (hk : ∀ off, nd.k ≠ .var off) :
    varsWithin n (d.push nd) = true := by
  unfold varsWithin at h ⊢
  rw [Array.all_push, h, Bool.true_and]
  split
  · rename_i off e; exact absurd e (hk off)
  · rfl

theorem varsWithin_neg (n : ℕ) (d : Dag) (h : varsWithin n d = true) : varsWithin n (negDag d) = true := by
  unfold negDag
  cases d.back? with
  | none => exact h
  | some nd => exact varsWithin_push h fun _ => NodeK.noConfusion

theorem varsWithin_subConst (n : ℕ) (d : Dag) (q : ℚ) (h : varsWithin n d = true) :
    varsWithin n (subConstDag d q) = true := by
  unfold subConstDag
  cases d.back? with
  | none => exact h
  | some nd => exact varsWithin_push (varsWithin_push h fun _ => NodeK.noConfusion) fun _ => NodeK.noConfusion

theorem varsWithin_constSub (n : ℕ) (d : Dag) (q : ℚ) (h : varsWithin n d = true) :
    varsWithin n (constSubDag d q) = true := by
  unfold constSubDag
  cases d.back? with
  | none => exact h
  | some nd => exact varsWithin_push (varsWithin_push h fun _ => NodeK.noConfusion) fun _ => NodeK.noConfusion

theorem varsWithin_normalize (n : ℕ) (eps : ℚ) (cs : List Ctr)
    (hv : ∀ c ∈ cs, varsWithin n c.f.main = true) :
    ∀ c ∈ normalize eps cs, varsWithin n c.f.main = true := by
  intro c' hc'
  unfold normalize at hc'
  obtain ⟨c, hc, hc'⟩ := List.mem_flatMap.1 hc'
  have h := hv c hc
  unfold normalize1 at hc'
  split at hc'
  · simp at hc'; subst hc'; exact h
  · simp at hc'; subst hc'; exact h
  · simp at hc'; subst hc'; exact varsWithin_neg n _ h
  · simp at hc'; subst hc'; exact varsWithin_neg n _ h
  · split at hc'
    · simp at hc'
      rcases hc' with rfl | rfl
      · exact varsWithin_subConst n _ _ h
      · exact varsWithin_constSub n _ _ h
    · simp at hc'; subst hc'; exact h

theorem sat_append (c : Ctr) (n : ℕ) (ρ ys : List ℝ) (hn : ρ.length = n)
    (hv : varsWithin n c.f.main = true) : c.Sat A (ρ ++ ys) ↔ c.Sat A ρ := by
  unfold Ctr.Sat
  rw [evalR_append c.f n ρ ys hn hv]

/-- **Extension.** `(x, y)` satisfies the extended constraints exactly when `x` satisfies the
    normalized ones and `y` is the value of the goal at `x`. -/
theorem extended_iff (hA : RealLike A) (n : ℕ) (goal : Prog) (eps : ℚ) (cs : List Ctr)
    (ρ : List ℝ) (y : ℝ) (hn : ρ.length = n) (hg : varsWithin n goal.main = true)
    (hv : ∀ c ∈ cs, varsWithin n c.f.main = true) :
    SatAll A (extend n goal eps cs) (ρ ++ [y]) ↔
      SatAll A (normalize eps cs) ρ ∧ evalR A goal ρ = some ⟨1, 1, [y]⟩ := by
  unfold extend
  rw [satAll_cons, and_comm]
  have h1 : SatAll A (normalize eps cs) (ρ ++ [y]) ↔ SatAll A (normalize eps cs) ρ :=
    forall₂_congr fun c hc => sat_append c n ρ [y] hn (varsWithin_normalize n eps cs hv c hc)
  have h2 : Ctr.Sat A ⟨goal.subVar n, .eq⟩ (ρ ++ [y]) ↔ evalR A goal ρ = some ⟨1, 1, [y]⟩ := by
    unfold Ctr.Sat
    simp only [evalR_subVar hA goal n ρ y hn hg, Cmp.holds]
    constructor
    · rintro ⟨v, ⟨g, hg', rfl⟩, hx⟩
      have : g - y = 0 := hx _ (by simp)
      have : g = y := by linarith
      rw [hg', this]
    · intro h
      exact ⟨⟨1, 1, [y - y]⟩, ⟨y, h, rfl⟩, by simp⟩
  rw [h1, h2]

/-- **Copies**: exactly the constraints selected by the mode … -/
theorem mem_copyCtrs (m : CopyMode) (cs : List Ctr) (c : Ctr) :
    c ∈ copyCtrs m cs ↔ c ∈ cs ∧ m.keeps c.op = true := by
  simp [copyCtrs, List.mem_filter]

/-- … in the original order -/
theorem copyCtrs_sublist (m : CopyMode) (cs : List Ctr) : (copyCtrs m cs).Sublist cs :=
  List.filter_sublist

theorem copy_keeps (m : CopyMode) (cs : List Ctr) (ρ : List ℝ) :
    SatAll A (copyCtrs m cs) ρ ↔ ∀ c ∈ cs, m.keeps c.op = true → c.Sat A ρ := by
  unfold SatAll
  simp only [mem_copyCtrs, and_imp]

theorem copy_all (cs : List Ctr) : copyCtrs .copy cs = cs := by
  simp [copyCtrs, CopyMode.keeps]

/-- **Merge.** A point of the merged system satisfies the merged constraints exactly when its
    restriction to the variables of the first system satisfies the first system and the point
    of the second system read through the variable names satisfies the second one. -/
theorem merge_keeps (bs : List Block) (n₁ n : ℕ) (cs₁ cs₂ : List Ctr) (p : List ℝ)
    (hp : p.length = n) (hn : n₁ ≤ n) (h₁ : ∀ c ∈ cs₁, varsWithin n₁ c.f.main = true)
    (hb : blocksOK n 0 bs = true) (h₂ : ∀ c ∈ cs₂, varsAreBlocks bs c.f.main = true) :
    SatAll A (mergeCtrs bs cs₁ cs₂) p ↔ SatAll A cs₁ (p.take n₁) ∧ SatAll A cs₂ (env₂ bs p) := by
  unfold mergeCtrs
  rw [satAll_append]
  have hl : (p.take n₁).length = n₁ := by rw [List.length_take]; omega
  have g1 : SatAll A cs₁ p ↔ SatAll A cs₁ (p.take n₁) :=
    forall₂_congr fun c hc => by
      have := sat_append (A := A) c n₁ _ (p.drop n₁) hl (h₁ c hc)
      rwa [List.take_append_drop] at this
  have g2 : SatAll A (cs₂.map (Ctr.rename (blockMap bs))) p ↔ SatAll A cs₂ (env₂ bs p) :=
    List.forall_mem_map.trans <| forall₂_congr fun c hc => by
      unfold Ctr.Sat Ctr.rename
      rw [evalR_rename bs n c.f p hp hb (h₂ c hc)]
  rw [g1, g2]

end Sys
end Ibex
