/-
  Soundness of the backward-operator checkers of `IbexModel.Bwd`.

  For every checker `opOk` the lemma `op_sound` says that an accepted output (x₁',x₂',flag)
  * is contracting            : x' ⊆ x,
  * loses no consistent tuple : v₁ ∈ x₁, v₂ ∈ x₂, op(v₁,v₂) ∈ y  ⇒  v₁ ∈ x₁' ∧ v₂ ∈ x₂',
  * has an honest flag        : flag = false ⇒ there is no consistent tuple,
  over real numbers, for all intervals (any extended bounds).  Every checker tests `proj ⊆ x'` for
  a projection `proj` computed by the model, so what is proved per operator is that a consistent
  tuple is a member of `proj` (`mem_projX`): for add, sub, mul, div, sqrt by the enclosure
  theorems of the exact operators (`ArithG.lean` at `Rnd.exact`), for abs, max, min, sign, floor,
  ceil and powers directly on the bounds.
-/
import IbexProofs.Arith2
import IbexProofs.SetAlg
import Mathlib.Data.Sign.Basic
import Mathlib.Analysis.Real.Sqrt

namespace Ibex.Bwd
open Ibex

/-! ### generic facts -/

theorem X_sound : Rnd.Sound X := Rnd.exact_sound

theorem toE_z : (z : Ext).toE = 0 := Ext.toE_zero

theorem containsExt_z {I : Itv} : Itv.containsExt I z = true ↔ (0 : ℝ) ∈ I := by
  have := Itv.containsExt_fin (I := I) (q := 0)
  simpa [z] using this

theorem mem_nonneg {v : ℝ} : v ∈ nonneg ↔ 0 ≤ v := by
  simp [nonneg, Itv.mem_mk]

theorem argOk_sound {x x' proj : Itv} (h : argOk x x' proj = true) :
    (∀ v : ℝ, v ∈ x' → v ∈ x) ∧ (∀ v : ℝ, v ∈ proj → v ∈ x') := by
  simp only [argOk, Bool.and_eq_true] at h
  exact ⟨fun v hv => Itv.mem_of_subset h.1 hv, fun v hv => Itv.mem_of_subset h.2 hv⟩

theorem flagOk_sound {flag : Bool} {proj : Itv} (h : flagOk flag proj = true) (hf : flag = false)
    (v : ℝ) : ¬ v ∈ proj := by
  subst hf
  cases proj with
  | empty => exact Itv.not_mem_empty v
  | mk a b => simp [flagOk, Itv.isEmpty] at h

/-- the shape shared by all binary checkers; `C v₁ v₂` is "the tuple satisfies the relation" -/
theorem binary_sound {x1 x2 x1' x2' p1 p2 pf : Itv} {flag : Bool} {C : ℝ → ℝ → Prop}
    (h : (argOk x1 x1' p1 && argOk x2 x2' p2 && flagOk flag pf) = true)
    (hp1 : ∀ v1 v2 : ℝ, v1 ∈ x1 → v2 ∈ x2 → C v1 v2 → v1 ∈ p1)
    (hp2 : ∀ v1 v2 : ℝ, v1 ∈ x1 → v2 ∈ x2 → C v1 v2 → v2 ∈ p2)
    (hpf : ∀ v1 v2 : ℝ, v1 ∈ x1 → v2 ∈ x2 → C v1 v2 → ∃ w : ℝ, w ∈ pf) :
    (∀ v : ℝ, v ∈ x1' → v ∈ x1) ∧ (∀ v : ℝ, v ∈ x2' → v ∈ x2) ∧
    (∀ v1 v2 : ℝ, v1 ∈ x1 → v2 ∈ x2 → C v1 v2 → v1 ∈ x1' ∧ v2 ∈ x2') ∧
    (flag = false → ¬ ∃ v1 v2 : ℝ, v1 ∈ x1 ∧ v2 ∈ x2 ∧ C v1 v2) := by
  simp only [Bool.and_eq_true] at h
  obtain ⟨⟨h1, h2⟩, h3⟩ := h
  have a1 := argOk_sound h1
  have a2 := argOk_sound h2
  refine ⟨a1.1, a2.1, ?_, ?_⟩
  · intro v1 v2 m1 m2 c
    exact ⟨a1.2 _ (hp1 v1 v2 m1 m2 c), a2.2 _ (hp2 v1 v2 m1 m2 c)⟩
  · rintro hf ⟨v1, v2, m1, m2, c⟩
    obtain ⟨w, hw⟩ := hpf v1 v2 m1 m2 c
    exact flagOk_sound h3 hf w hw

theorem unary_sound {x x' p : Itv} {flag : Bool} {C : ℝ → Prop}
    (h : (argOk x x' p && flagOk flag p) = true)
    (hp : ∀ v : ℝ, v ∈ x → C v → v ∈ p) :
    (∀ v : ℝ, v ∈ x' → v ∈ x) ∧ (∀ v : ℝ, v ∈ x → C v → v ∈ x') ∧
    (flag = false → ¬ ∃ v : ℝ, v ∈ x ∧ C v) := by
  simp only [Bool.and_eq_true] at h
  obtain ⟨h1, h3⟩ := h
  have a1 := argOk_sound h1
  refine ⟨a1.1, fun v m c => a1.2 _ (hp v m c), ?_⟩
  rintro hf ⟨v, m, c⟩
  exact flagOk_sound h3 hf v (hp v m c)

/-! ### addition, subtraction -/

theorem mem_projAdd1 {y x1 x2 : Itv} {v1 v2 : ℝ} (h1 : v1 ∈ x1) (h2 : v2 ∈ x2) (h : v1 + v2 ∈ y) :
    v1 ∈ projAdd1 y x1 x2 := by
  refine Itv.mem_inter.2 ⟨h1, ?_⟩
  have := Itv.subG_encl X_sound h h2
  rwa [add_sub_cancel_right] at this

theorem add_sound {y x1 x2 x1' x2' : Itv} {flag : Bool} (h : addOk y x1 x2 x1' x2' flag = true) :
    (∀ v : ℝ, v ∈ x1' → v ∈ x1) ∧ (∀ v : ℝ, v ∈ x2' → v ∈ x2) ∧
    (∀ v1 v2 : ℝ, v1 ∈ x1 → v2 ∈ x2 → v1 + v2 ∈ y → v1 ∈ x1' ∧ v2 ∈ x2') ∧
    (flag = false → ¬ ∃ v1 v2 : ℝ, v1 ∈ x1 ∧ v2 ∈ x2 ∧ v1 + v2 ∈ y) :=
  binary_sound (C := fun v1 v2 => v1 + v2 ∈ y) h
    (fun _ _ m1 m2 c => mem_projAdd1 m1 m2 c)
    (fun v1 v2 m1 m2 c => mem_projAdd1 m2 m1 (by rwa [add_comm] at c))
    (fun _ _ m1 m2 c => ⟨_, mem_projAdd1 m1 m2 c⟩)

theorem mem_projSub1 {y x1 x2 : Itv} {v1 v2 : ℝ} (h1 : v1 ∈ x1) (h2 : v2 ∈ x2) (h : v1 - v2 ∈ y) :
    v1 ∈ projSub1 y x1 x2 := by
  refine Itv.mem_inter.2 ⟨h1, ?_⟩
  have := Itv.addG_encl X_sound h h2
  rwa [sub_add_cancel] at this

theorem mem_projSub2 {y x1 x2 : Itv} {v1 v2 : ℝ} (h1 : v1 ∈ x1) (h2 : v2 ∈ x2) (h : v1 - v2 ∈ y) :
    v2 ∈ projSub2 y x1 x2 := by
  refine Itv.mem_inter.2 ⟨h2, ?_⟩
  have := Itv.subG_encl X_sound h1 h
  rwa [sub_sub_cancel] at this

theorem sub_sound {y x1 x2 x1' x2' : Itv} {flag : Bool} (h : subOk y x1 x2 x1' x2' flag = true) :
    (∀ v : ℝ, v ∈ x1' → v ∈ x1) ∧ (∀ v : ℝ, v ∈ x2' → v ∈ x2) ∧
    (∀ v1 v2 : ℝ, v1 ∈ x1 → v2 ∈ x2 → v1 - v2 ∈ y → v1 ∈ x1' ∧ v2 ∈ x2') ∧
    (flag = false → ¬ ∃ v1 v2 : ℝ, v1 ∈ x1 ∧ v2 ∈ x2 ∧ v1 - v2 ∈ y) :=
  binary_sound (C := fun v1 v2 => v1 - v2 ∈ y) h
    (fun _ _ m1 m2 c => mem_projSub1 m1 m2 c)
    (fun _ _ m1 m2 c => mem_projSub2 m1 m2 c)
    (fun _ _ m1 m2 c => ⟨_, mem_projSub1 m1 m2 c⟩)

/-! ### multiplication, division -/

theorem mem_foldl_hull {v : ℝ} : ∀ (l : List Itv) (acc : Itv),
    (v ∈ acc ∨ ∃ p ∈ l, v ∈ p) → v ∈ l.foldl Itv.hull acc
  | [], acc, h => by
    rcases h with h | ⟨p, hp, _⟩
    · exact h
    · cases hp
  | q :: l, acc, h => by
    rw [List.foldl_cons]
    apply mem_foldl_hull l
    rcases h with h | ⟨p, hp, hv⟩
    · exact Or.inl (Itv.mem_hull_left h)
    · rcases List.mem_cons.1 hp with rfl | hp
      · exact Or.inl (Itv.mem_hull_right hv)
      · exact Or.inr ⟨p, hp, hv⟩

theorem mem_hullL {v : ℝ} {l : List Itv} {p : Itv} (hp : p ∈ l) (hv : v ∈ p) : v ∈ hullL l :=
  mem_foldl_hull l _ (Or.inr ⟨p, hp, hv⟩)

/-- `Bwd.divRel` (no rounding) and `HC4.divRel` (binary64 rounding) for any rounding pair -/
def divRelG (r : Rnd) (y x : Itv) : List Itv :=
  match y, x with
  | .mk _ _, .mk c d =>
    if Itv.containsExt y z && Itv.containsExt x z then [Itv.all]
    else if Ext.lt z c || Ext.lt d z then [Itv.divG r y x]
    else
      (if Ext.lt z d then [Itv.divG r y (.mk z d)] else []) ++
      (if Ext.lt c z then [Itv.divG r y (.mk c z)] else [])
  | _, _ => []

theorem divRel_eq : divRel = divRelG X := by rfl

theorem divRelG_cover {r : Rnd} (hr : r.Sound) {y x : Itv} {v w : ℝ} (hw : w ∈ x) (hvw : v * w ∈ y) :
    ∃ p ∈ divRelG r y x, v ∈ p := by
  cases y with
  | empty => exact absurd hvw (Itv.not_mem_empty _)
  | mk a b =>
  cases x with
  | empty => exact absurd hw (Itv.not_mem_empty _)
  | mk c d =>
  simp only [divRelG]
  by_cases h1 : (Itv.containsExt (Itv.mk a b) z && Itv.containsExt (Itv.mk c d) z) = true
  · rw [if_pos h1]
    exact ⟨Itv.all, by simp, Itv.mem_all v⟩
  rw [if_neg h1]
  -- `w = 0` would put 0 in both `x` and `y`; so `v = (v * w) / w`, in the quotient by any piece that has `w`
  have hw0 : w ≠ 0 := by
    rintro rfl
    rw [mul_zero] at hvw
    exact h1 (by simp [containsExt_z.2 hvw, containsExt_z.2 hw])
  have quot : ∀ {x' : Itv}, w ∈ x' → v ∈ Itv.divG r (Itv.mk a b) x' := by
    intro x' hw'
    have := Itv.divG_encl hr hvw hw' hw0
    rwa [mul_div_cancel_right₀ v hw0] at this
  by_cases h2 : (Ext.lt z c || Ext.lt d z) = true
  · rw [if_pos h2]
    exact ⟨_, by simp, quot hw⟩
  rw [if_neg h2]
  rcases lt_or_gt_of_ne hw0 with hneg | hpos
  · have hc : Ext.lt c z = true := by
      rw [Ext.lt_iff, toE_z]
      exact lt_of_le_of_lt hw.1 (by exact_mod_cast hneg)
    have hm : w ∈ Itv.mk c z := ⟨hw.1, by rw [toE_z]; exact_mod_cast le_of_lt hneg⟩
    exact ⟨_, by simp [hc], quot hm⟩
  · have hd : Ext.lt z d = true := by
      rw [Ext.lt_iff, toE_z]
      exact lt_of_lt_of_le (by exact_mod_cast hpos) hw.2
    have hm : w ∈ Itv.mk z d := ⟨by rw [toE_z]; exact_mod_cast le_of_lt hpos, hw.2⟩
    exact ⟨_, by simp [hd], quot hm⟩

theorem divRel_cover {y x : Itv} {v w : ℝ} (hw : w ∈ x) (hvw : v * w ∈ y) :
    ∃ p ∈ divRel y x, v ∈ p :=
  divRel_eq ▸ divRelG_cover X_sound hw hvw

theorem mem_meetPiece {y x1 p : Itv} {v w : ℝ} (hv : v ∈ x1) (hp : v ∈ p) (hvw : v * w ∈ y) :
    v ∈ meetPiece y x1 p := by
  have hq : v ∈ Itv.inter x1 p := Itv.mem_inter.2 ⟨hv, hp⟩
  unfold meetPiece
  dsimp only
  split_ifs with h
  · exfalso
    simp only [Bool.and_eq_true, beq_iff_eq, Bool.not_eq_true'] at h
    obtain ⟨e1, e2⟩ := h
    rw [e1, Itv.mem_point_zero] at hq
    subst hq
    rw [zero_mul] at hvw
    rw [containsExt_z.2 hvw] at e2
    exact Bool.noConfusion e2
  · exact hq

theorem mem_projMul1 {y x1 x2 : Itv} {v1 v2 : ℝ} (h1 : v1 ∈ x1) (h2 : v2 ∈ x2) (h : v1 * v2 ∈ y) :
    v1 ∈ projMul1 y x1 x2 := by
  obtain ⟨p, hp, hv⟩ := divRel_cover h2 h
  exact mem_hullL (List.mem_map.2 ⟨p, hp, rfl⟩) (mem_meetPiece h1 hv h)

theorem mul_sound {y x1 x2 x1' x2' : Itv} {flag : Bool} (h : mulOk y x1 x2 x1' x2' flag = true) :
    (∀ v : ℝ, v ∈ x1' → v ∈ x1) ∧ (∀ v : ℝ, v ∈ x2' → v ∈ x2) ∧
    (∀ v1 v2 : ℝ, v1 ∈ x1 → v2 ∈ x2 → v1 * v2 ∈ y → v1 ∈ x1' ∧ v2 ∈ x2') ∧
    (flag = false → ¬ ∃ v1 v2 : ℝ, v1 ∈ x1 ∧ v2 ∈ x2 ∧ v1 * v2 ∈ y) :=
  binary_sound (C := fun v1 v2 => v1 * v2 ∈ y) h
    (fun _ _ m1 m2 c => mem_projMul1 m1 m2 c)
    (fun v1 v2 m1 m2 c => mem_projMul1 m2 m1 (by rwa [mul_comm] at c))
    (fun _ _ m1 m2 c => ⟨_, mem_projMul1 m1 m2 c⟩)

theorem mem_projDiv1 {y x1 x2 : Itv} {v1 v2 : ℝ} (h1 : v1 ∈ x1) (h2 : v2 ∈ x2) (h0 : v2 ≠ 0)
    (h : v1 / v2 ∈ y) : v1 ∈ projDiv1 y x1 x2 := by
  unfold projDiv1
  split_ifs with hz
  · exfalso
    rw [beq_iff_eq] at hz
    rw [hz, Itv.mem_point_zero] at h2
    exact h0 h2
  · refine Itv.mem_inter.2 ⟨h1, ?_⟩
    have := Itv.mulG_encl X_sound h h2
    rwa [div_mul_cancel₀ v1 h0] at this

theorem mem_projDiv2 {y x1 x2 : Itv} {v1 v2 : ℝ} (h1 : v1 ∈ x1) (h2 : v2 ∈ x2) (h0 : v2 ≠ 0)
    (h : v1 / v2 ∈ y) : v2 ∈ projDiv2 y x1 x2 := by
  have hprod : v2 * (v1 / v2) ∈ x1 := by rwa [mul_div_cancel₀ v1 h0]
  obtain ⟨p, hp, hv⟩ := divRel_cover h hprod
  have hm : v2 ∈ hullL ((divRel x1 y).map (meetPiece x1 x2)) :=
    mem_hullL (List.mem_map.2 ⟨p, hp, rfl⟩) (mem_meetPiece h2 hv hprod)
  unfold projDiv2
  dsimp only
  split_ifs with hz
  · exfalso
    rw [beq_iff_eq] at hz
    rw [hz, Itv.mem_point_zero] at hm
    exact h0 hm
  · exact hm

theorem div_sound {y x1 x2 x1' x2' : Itv} {flag : Bool} (h : divOk y x1 x2 x1' x2' flag = true) :
    (∀ v : ℝ, v ∈ x1' → v ∈ x1) ∧ (∀ v : ℝ, v ∈ x2' → v ∈ x2) ∧
    (∀ v1 v2 : ℝ, v1 ∈ x1 → v2 ∈ x2 → (v2 ≠ 0 ∧ v1 / v2 ∈ y) → v1 ∈ x1' ∧ v2 ∈ x2') ∧
    (flag = false → ¬ ∃ v1 v2 : ℝ, v1 ∈ x1 ∧ v2 ∈ x2 ∧ (v2 ≠ 0 ∧ v1 / v2 ∈ y)) :=
  binary_sound (C := fun v1 v2 => v2 ≠ 0 ∧ v1 / v2 ∈ y) h
    (fun _ _ m1 m2 c => mem_projDiv1 m1 m2 c.1 c.2)
    (fun _ _ m1 m2 c => mem_projDiv2 m1 m2 c.1 c.2)
    (fun _ _ m1 m2 c => ⟨_, mem_projDiv2 m1 m2 c.1 c.2⟩)

/-! ### square root, absolute value -/

theorem mem_projSqrt {y x : Itv} {v : ℝ} (hv : v ∈ x) (h0 : 0 ≤ v) (h : Real.sqrt v ∈ y) :
    v ∈ projSqrt y x := by
  refine Itv.mem_inter.2 ⟨hv, ?_⟩
  have hs : Real.sqrt v ∈ Itv.inter y nonneg :=
    Itv.mem_inter.2 ⟨h, mem_nonneg.2 (Real.sqrt_nonneg v)⟩
  have := Itv.sqrG_encl X_sound hs
  rwa [Real.mul_self_sqrt h0] at this

theorem sqrt_sound {y x x' : Itv} {flag : Bool} (h : sqrtOk y x x' flag = true) :
    (∀ v : ℝ, v ∈ x' → v ∈ x) ∧
    (∀ v : ℝ, v ∈ x → (0 ≤ v ∧ Real.sqrt v ∈ y) → v ∈ x') ∧
    (flag = false → ¬ ∃ v : ℝ, v ∈ x ∧ (0 ≤ v ∧ Real.sqrt v ∈ y)) :=
  unary_sound (C := fun v => 0 ≤ v ∧ Real.sqrt v ∈ y) h (fun _ m c => mem_projSqrt m c.1 c.2)

theorem mem_projAbs {y x : Itv} {v : ℝ} (hv : v ∈ x) (h : |v| ∈ y) : v ∈ projAbs y x := by
  have hyp : |v| ∈ Itv.inter y nonneg := Itv.mem_inter.2 ⟨h, mem_nonneg.2 (abs_nonneg v)⟩
  unfold projAbs
  dsimp only
  rcases le_total 0 v with h0 | h0
  · rw [abs_of_nonneg h0] at hyp
    exact Itv.mem_hull_left (Itv.mem_inter.2 ⟨hv, hyp⟩)
  · rw [abs_of_nonpos h0] at hyp
    exact Itv.mem_hull_right (Itv.mem_inter.2 ⟨hv, Itv.mem_neg.2 hyp⟩)

theorem abs_sound {y x x' : Itv} {flag : Bool} (h : absOk y x x' flag = true) :
    (∀ v : ℝ, v ∈ x' → v ∈ x) ∧ (∀ v : ℝ, v ∈ x → |v| ∈ y → v ∈ x') ∧
    (flag = false → ¬ ∃ v : ℝ, v ∈ x ∧ |v| ∈ y) :=
  unary_sound (C := fun v => |v| ∈ y) h (fun _ m c => mem_projAbs m c)

/-! ### max, min -/

theorem mem_projMax1 {y x1 x2 : Itv} {v1 v2 : ℝ} (h1 : v1 ∈ x1) (h2 : v2 ∈ x2)
    (h : Max.max v1 v2 ∈ y) : v1 ∈ projMax1 y x1 x2 := by
  cases y with
  | empty => exact absurd h (Itv.not_mem_empty _)
  | mk yl yh =>
  obtain ⟨hl, hh⟩ := h
  have hv1h : (v1 : EReal) ≤ yh.toE := le_trans (EReal.coe_le_coe_iff.2 (le_max_left _ _)) hh
  have hv2h : (v2 : EReal) ≤ yh.toE := le_trans (EReal.coe_le_coe_iff.2 (le_max_right _ _)) hh
  have hm2 : v2 ∈ Itv.inter x2 (.mk .ninf yh) := Itv.mem_inter.2 ⟨h2, ⟨by simp, hv2h⟩⟩
  simp only [projMax1]
  generalize Itv.inter x2 (.mk .ninf yh) = x2c at hm2
  cases x2c with
  | empty => exact absurd hm2 (Itv.not_mem_empty _)
  | mk l x2h =>
  dsimp only
  split_ifs with hle
  · exact Itv.mem_inter.2 ⟨h1, ⟨by simp, hv1h⟩⟩
  · refine Itv.mem_inter.2 ⟨h1, ⟨?_, hv1h⟩⟩
    rw [Ext.le_iff, not_le] at hle
    have hlt : (v2 : EReal) < yl.toE := lt_of_le_of_lt hm2.2 hle
    rcases le_total v1 v2 with h12 | h12
    · rw [max_eq_right h12] at hl
      exact absurd hl (not_le.2 hlt)
    · rwa [max_eq_left h12] at hl

theorem max_sound {y x1 x2 x1' x2' : Itv} {flag : Bool} (h : maxOk y x1 x2 x1' x2' flag = true) :
    (∀ v : ℝ, v ∈ x1' → v ∈ x1) ∧ (∀ v : ℝ, v ∈ x2' → v ∈ x2) ∧
    (∀ v1 v2 : ℝ, v1 ∈ x1 → v2 ∈ x2 → Max.max v1 v2 ∈ y → v1 ∈ x1' ∧ v2 ∈ x2') ∧
    (flag = false → ¬ ∃ v1 v2 : ℝ, v1 ∈ x1 ∧ v2 ∈ x2 ∧ Max.max v1 v2 ∈ y) :=
  binary_sound (C := fun v1 v2 => Max.max v1 v2 ∈ y) h
    (fun _ _ m1 m2 c => mem_projMax1 m1 m2 c)
    (fun v1 v2 m1 m2 c => mem_projMax1 m2 m1 (by rwa [max_comm] at c))
    (fun _ _ m1 m2 c => ⟨_, mem_projMax1 m1 m2 c⟩)

theorem mem_projMin1 {y x1 x2 : Itv} {v1 v2 : ℝ} (h1 : v1 ∈ x1) (h2 : v2 ∈ x2)
    (h : Min.min v1 v2 ∈ y) : v1 ∈ projMin1 y x1 x2 := by
  unfold projMin1
  rw [Itv.mem_neg]
  refine mem_projMax1 (v2 := -v2) (Itv.mem_neg.2 (by rwa [neg_neg])) (Itv.mem_neg.2 (by rwa [neg_neg])) ?_
  rw [Itv.mem_neg, max_neg_neg, neg_neg]
  exact h

theorem min_sound {y x1 x2 x1' x2' : Itv} {flag : Bool} (h : minOk y x1 x2 x1' x2' flag = true) :
    (∀ v : ℝ, v ∈ x1' → v ∈ x1) ∧ (∀ v : ℝ, v ∈ x2' → v ∈ x2) ∧
    (∀ v1 v2 : ℝ, v1 ∈ x1 → v2 ∈ x2 → Min.min v1 v2 ∈ y → v1 ∈ x1' ∧ v2 ∈ x2') ∧
    (flag = false → ¬ ∃ v1 v2 : ℝ, v1 ∈ x1 ∧ v2 ∈ x2 ∧ Min.min v1 v2 ∈ y) :=
  binary_sound (C := fun v1 v2 => Min.min v1 v2 ∈ y) h
    (fun _ _ m1 m2 c => mem_projMin1 m1 m2 c)
    (fun v1 v2 m1 m2 c => mem_projMin1 m2 m1 (by rwa [min_comm] at c))
    (fun _ _ m1 m2 c => ⟨_, mem_projMin1 m1 m2 c⟩)

/-! ### sign -/

theorem mem_projSign {y x : Itv} {v : ℝ} (hv : v ∈ x) (h : (SignType.sign v : ℝ) ∈ y) :
    v ∈ projSign y x := by
  cases x with
  | empty => exact absurd hv (Itv.not_mem_empty _)
  | mk a b =>
  simp only [projSign]
  rcases lt_trichotomy v 0 with hneg | rfl | hpos
  · apply Itv.mem_hull_right
    apply Itv.mem_hull_right
    have hy : Itv.containsExt y (.fin (-1)) = true :=
      Itv.containsExt_fin.2 (by simpa [sign_neg hneg] using h)
    have ha : Ext.lt a z = true := by
      rw [Ext.lt_iff, toE_z]
      exact lt_of_le_of_lt hv.1 (by exact_mod_cast hneg)
    rw [if_pos (by simp [hy, ha])]
    refine ⟨hv.1, ?_⟩
    rw [Ext.toE_min, toE_z]
    exact le_min hv.2 (by exact_mod_cast le_of_lt hneg)
  · apply Itv.mem_hull_right
    apply Itv.mem_hull_left
    have hy : Itv.containsExt y z = true := containsExt_z.2 (by simpa using h)
    rw [if_pos hy]
    exact Itv.mem_inter.2 ⟨hv, Itv.mem_point_zero.2 rfl⟩
  · apply Itv.mem_hull_left
    have hy : Itv.containsExt y (.fin 1) = true :=
      Itv.containsExt_fin.2 (by simpa [sign_pos hpos] using h)
    have hb : Ext.lt z b = true := by
      rw [Ext.lt_iff, toE_z]
      exact lt_of_lt_of_le (by exact_mod_cast hpos) hv.2
    rw [if_pos (by simp [hy, hb])]
    refine ⟨?_, hv.2⟩
    rw [Ext.toE_max, toE_z]
    exact max_le hv.1 (by exact_mod_cast le_of_lt hpos)

theorem sign_sound {y x x' : Itv} {flag : Bool} (h : signOk y x x' flag = true) :
    (∀ v : ℝ, v ∈ x' → v ∈ x) ∧ (∀ v : ℝ, v ∈ x → (SignType.sign v : ℝ) ∈ y → v ∈ x') ∧
    (flag = false → ¬ ∃ v : ℝ, v ∈ x ∧ (SignType.sign v : ℝ) ∈ y) :=
  unary_sound (C := fun v => (SignType.sign v : ℝ) ∈ y) h (fun _ m c => mem_projSign m c)

/-! ### floor, ceil -/

theorem mem_projFloor {y x : Itv} {v : ℝ} (hv : v ∈ x) (h : ((⌊v⌋ : ℤ) : ℝ) ∈ y) :
    v ∈ projFloor y x := by
  cases x with
  | empty => exact absurd hv (Itv.not_mem_empty _)
  | mk a b =>
  have hi := Itv.integer_encl h ⟨_, rfl⟩
  simp only [projFloor]
  generalize Itv.integer y = I at hi
  cases I with
  | empty => exact absurd hi (Itv.not_mem_empty _)
  | mk l u =>
  obtain ⟨hl, hu⟩ := hi
  have hlv : l.toE ≤ (v : EReal) := le_trans hl (EReal.coe_le_coe_iff.2 (Int.floor_le v))
  have key : ∀ u1 : Ext, (v : EReal) < u1.toE →
      v ∈ (if (Ext.le l b && Ext.lt a u1) = true then Itv.mk (Ext.max a l) (Ext.min b u1)
        else Itv.empty) := by
    intro u1 hu1
    have c1 : Ext.le l b = true := (Ext.le_iff _ _).2 (le_trans hlv hv.2)
    have c2 : Ext.lt a u1 = true := (Ext.lt_iff _ _).2 (lt_of_le_of_lt hv.1 hu1)
    rw [if_pos (by simp [c1, c2])]
    refine ⟨?_, ?_⟩
    · rw [Ext.toE_max]; exact max_le hv.1 hlv
    · rw [Ext.toE_min]; exact le_min hv.2 (le_of_lt hu1)
  cases u with
  | ninf => simp at hu
  | pinf => exact key .pinf (by simp)
  | fin q =>
    refine key (.fin (q + 1)) ?_
    simp only [Ext.toE_fin, EReal.coe_le_coe_iff, EReal.coe_lt_coe_iff] at hu ⊢
    push_cast
    linarith [Int.lt_floor_add_one v]

theorem floor_sound {y x x' : Itv} {flag : Bool} (h : floorOk y x x' flag = true) :
    (∀ v : ℝ, v ∈ x' → v ∈ x) ∧ (∀ v : ℝ, v ∈ x → ((⌊v⌋ : ℤ) : ℝ) ∈ y → v ∈ x') ∧
    (flag = false → ¬ ∃ v : ℝ, v ∈ x ∧ ((⌊v⌋ : ℤ) : ℝ) ∈ y) :=
  unary_sound (C := fun v => ((⌊v⌋ : ℤ) : ℝ) ∈ y) h (fun _ m c => mem_projFloor m c)

theorem mem_projCeil {y x : Itv} {v : ℝ} (hv : v ∈ x) (h : ((⌈v⌉ : ℤ) : ℝ) ∈ y) :
    v ∈ projCeil y x := by
  unfold projCeil
  rw [Itv.mem_neg]
  refine mem_projFloor (Itv.mem_neg.2 (by rwa [neg_neg])) ?_
  rw [Itv.mem_neg, Int.floor_neg]
  push_cast
  rwa [neg_neg]

theorem ceil_sound {y x x' : Itv} {flag : Bool} (h : ceilOk y x x' flag = true) :
    (∀ v : ℝ, v ∈ x' → v ∈ x) ∧ (∀ v : ℝ, v ∈ x → ((⌈v⌉ : ℤ) : ℝ) ∈ y → v ∈ x') ∧
    (flag = false → ¬ ∃ v : ℝ, v ∈ x ∧ ((⌈v⌉ : ℤ) : ℝ) ∈ y) :=
  unary_sound (C := fun v => ((⌈v⌉ : ℤ) : ℝ) ∈ y) h (fun _ m c => mem_projCeil m c)

/-! ### powers

  No real n-th root is needed: the Boolean conditions compare exact n-th powers, and a consistent
  `v` is placed with respect to the bounds of `x'` by monotonicity of `t ↦ tⁿ` on `[0,∞)` (even
  `n`, the negative half being handled through `-v`, `neg x`, `neg x'`) or on `ℝ` (odd `n`). -/

theorem extPow_fin (n : ℕ) (q : Rat) : (extPow n (.fin q)).toE = ((((q : ℝ) ^ n : ℝ)) : EReal) := by
  simp [extPow]

/-- `extPow` is the unrounded `Itv.powExt`: the direct monotonicity bounds are those of `ArithG` -/
theorem extPow_eq (n : ℕ) : extPow n = Itv.powExt Ext.fin n := by rfl

theorem extPow_le_of_nonneg (n : ℕ) {e : Ext} {v : ℝ} (he : 0 ≤ e.toE) (hev : e.toE ≤ (v : EReal)) :
    (extPow n e).toE ≤ ((v ^ n : ℝ) : EReal) :=
  extPow_eq n ▸ powExt_dn_le_of_nonneg (fun _ => le_rfl) n e v he hev

theorem le_extPow_of_nonneg (n : ℕ) {e : Ext} {v : ℝ} (hv : 0 ≤ v) (hve : (v : EReal) ≤ e.toE) :
    ((v ^ n : ℝ) : EReal) ≤ (extPow n e).toE :=
  extPow_eq n ▸ le_powExt_up_of_nonneg (fun _ => le_rfl) n e v hv hve

/-- `hr`: `t ↦ tⁿ` reflects `≤` below `v` (on `[0,∞)` for `n ≠ 0`, everywhere for odd `n`) -/
theorem le_of_extPow_le {n : ℕ} {e : Ext} {v : ℝ} (hr : ∀ q : ℚ, (q : ℝ) ^ n ≤ v ^ n → (q : ℝ) ≤ v)
    (h : (extPow n e).toE ≤ ((v ^ n : ℝ) : EReal)) : e.toE ≤ (v : EReal) := by
  cases e with
  | ninf => simp
  | pinf => exact absurd h (not_le.2 (EReal.coe_lt_top _))
  | fin q =>
    rw [extPow_fin, EReal.coe_le_coe_iff] at h
    simp only [Ext.toE_fin, EReal.coe_le_coe_iff]
    exact hr q h

theorem le_of_le_extPow {n : ℕ} (hn : n ≠ 0) {e : Ext} {v : ℝ} (he : 0 ≤ e.toE)
    (h : ((v ^ n : ℝ) : EReal) ≤ (extPow n e).toE) : (v : EReal) ≤ e.toE := by
  cases e with
  | ninf => simp at he
  | pinf => simp
  | fin q =>
    rw [extPow_fin, EReal.coe_le_coe_iff] at h
    have hq : (0 : ℝ) ≤ q := by simpa using he
    simp only [Ext.toE_fin, EReal.coe_le_coe_iff]
    exact le_of_pow_le_pow_left₀ hn hq h

/-- a consistent `v ≥ 0` of `x` makes the "piece ∩ x non-empty" test succeed -/
theorem rootPiece_cond {n : ℕ} {a b xl xh : Ext} {v : ℝ} (hv0 : 0 ≤ v) (hv : v ∈ Itv.mk xl xh)
    (ha : a.toE ≤ ((v ^ n : ℝ) : EReal)) (hb : ((v ^ n : ℝ) : EReal) ≤ b.toE) :
    (leRoot n xl b && rootLe n a xh) = true := by
  have hv0' : (0 : EReal) ≤ (v : EReal) := by exact_mod_cast hv0
  have c1 : leRoot n xl b = true := by
    unfold leRoot
    rw [Bool.or_eq_true]
    by_cases h : xl.toE ≤ 0
    · left; rw [Ext.le_iff, toE_z]; exact h
    · right
      exact (Ext.le_iff _ _).2 (le_trans (extPow_le_of_nonneg n (not_le.1 h).le hv.1) hb)
  have c2 : rootLe n a xh = true := by
    unfold rootLe
    rw [Bool.and_eq_true]
    exact ⟨(Ext.le_iff _ _).2 (by rw [toE_z]; exact le_trans hv0' hv.2),
      (Ext.le_iff _ _).2 (le_trans ha (le_extPow_of_nonneg n hv0 hv.2))⟩
  rw [c1, c2]; rfl

theorem keepsRootPiece_sound {n : ℕ} (hn : n ≠ 0) {a b : Ext} {x x' : Itv} {v : ℝ} (hv0 : 0 ≤ v)
    (hv : v ∈ x) (ha : a.toE ≤ ((v ^ n : ℝ) : EReal)) (hb : ((v ^ n : ℝ) : EReal) ≤ b.toE) :
    rootPieceEmpty n a b x = false ∧ (keepsRootPiece n a b x x' = true → v ∈ x') := by
  cases x with
  | empty => exact absurd hv (Itv.not_mem_empty _)
  | mk xl xh =>
  have hv0' : (0 : EReal) ≤ (v : EReal) := by exact_mod_cast hv0
  have hc := rootPiece_cond hv0 hv ha hb
  refine ⟨by simp only [rootPieceEmpty, hc]; rfl, ?_⟩
  intro hk
  simp only [keepsRootPiece] at hk
  rw [if_pos hc] at hk
  cases x' with
  | empty => exact absurd hk (by simp)
  | mk l' h' =>
    simp only [Bool.and_eq_true, Bool.or_eq_true] at hk
    obtain ⟨hlo, hhi⟩ := hk
    refine ⟨?_, ?_⟩
    · rcases hlo with h | h
      · exact le_trans ((Ext.le_iff _ _).1 h) hv.1
      · unfold leRoot at h
        rw [Bool.or_eq_true] at h
        rcases h with h | h
        · rw [Ext.le_iff, toE_z] at h; exact le_trans h hv0'
        · rw [Ext.le_iff] at h; exact le_of_extPow_le (fun _ => le_of_pow_le_pow_left₀ hn hv0) (le_trans h ha)
    · rcases hhi with h | h
      · exact le_trans hv.2 ((Ext.le_iff _ _).1 h)
      · unfold rootLe at h
        rw [Bool.and_eq_true, Ext.le_iff, Ext.le_iff, toE_z] at h
        exact le_of_le_extPow hn h.1 (le_trans hb h.2)

theorem extPow_odd_le {n : ℕ} (ho : n % 2 = 1) {e : Ext} {v : ℝ} (h : e.toE ≤ (v : EReal)) :
    (extPow n e).toE ≤ ((v ^ n : ℝ) : EReal) :=
  extPow_eq n ▸ powExt_dn_le_of_odd (fun _ => le_rfl) ho e v h

theorem le_extPow_odd {n : ℕ} {e : Ext} {v : ℝ} (ho : n % 2 = 1) (h : (v : EReal) ≤ e.toE) :
    ((v ^ n : ℝ) : EReal) ≤ (extPow n e).toE :=
  extPow_eq n ▸ le_powExt_up_of_odd (fun _ => le_rfl) ho e v h

theorem le_of_le_extPow_odd {n : ℕ} (ho : n % 2 = 1) {e : Ext} {v : ℝ}
    (h : ((v ^ n : ℝ) : EReal) ≤ (extPow n e).toE) : (v : EReal) ≤ e.toE := by
  cases e with
  | ninf =>
    have e : extPow n .ninf = .ninf := by simp [extPow, ho]
    rw [e] at h
    exact absurd h (not_le.2 (EReal.bot_lt_coe _))
  | pinf => simp
  | fin q =>
    rw [extPow_fin, EReal.coe_le_coe_iff] at h
    simp only [Ext.toE_fin, EReal.coe_le_coe_iff]
    exact (Nat.odd_iff.2 ho).pow_le_pow.1 h

/-- a consistent `v` refutes "no consistent value" and is kept by an accepted `x'` -/
theorem powKeeps_sound {n : ℕ} (hn : n ≠ 0) {y x x' : Itv} {v : ℝ} (hv : v ∈ x) (hy : v ^ n ∈ y) :
    (powKeeps n y x x').2 = false ∧ ((powKeeps n y x x').1 = true → v ∈ x') := by
  unfold powKeeps
  by_cases he : n % 2 = 0
  · rw [if_pos he]
    have hev : Even n := Nat.even_iff.2 he
    have hm : v ^ n ∈ Itv.inter y nonneg :=
      Itv.mem_inter.2 ⟨hy, mem_nonneg.2 (hev.pow_nonneg v)⟩
    generalize Itv.inter y nonneg = I at hm
    cases I with
    | empty => exact absurd hm (Itv.not_mem_empty _)
    | mk a b =>
    obtain ⟨ha, hb⟩ := hm
    dsimp only
    rcases le_total 0 v with h0 | h0
    · obtain ⟨e1, e2⟩ := keepsRootPiece_sound (x' := x') hn h0 hv ha hb
      refine ⟨by rw [e1, Bool.false_and], fun hk => e2 ?_⟩
      rw [Bool.and_eq_true] at hk
      exact hk.1
    · have hnv : -v ∈ Itv.neg x := Itv.mem_neg.2 (by rwa [neg_neg])
      have hp : (-v) ^ n = v ^ n := hev.neg_pow v
      obtain ⟨e1, e2⟩ := keepsRootPiece_sound (x := Itv.neg x) (x' := Itv.neg x') (v := -v) hn
        (neg_nonneg.2 h0) hnv (by rwa [hp]) (by rwa [hp])
      refine ⟨by rw [e1, Bool.and_false], fun hk => ?_⟩
      rw [Bool.and_eq_true] at hk
      have := e2 hk.2
      rwa [Itv.mem_neg, neg_neg] at this
  · rw [if_neg he]
    have ho : n % 2 = 1 := by omega
    cases y with
    | empty => exact absurd hy (Itv.not_mem_empty _)
    | mk yl yh =>
    cases x with
    | empty => exact absurd hv (Itv.not_mem_empty _)
    | mk xl xh =>
    dsimp only
    have hne : (Ext.le (extPow n xl) yh && Ext.le yl (extPow n xh)) = true := by
      rw [Bool.and_eq_true, Ext.le_iff, Ext.le_iff]
      exact ⟨le_trans (extPow_odd_le ho hv.1) hy.2, le_trans hy.1 (le_extPow_odd ho hv.2)⟩
    rw [if_pos hne]
    cases x' with
    | empty => exact ⟨rfl, fun hk => absurd hk (by simp)⟩
    | mk l' h' =>
      refine ⟨rfl, fun hk => ?_⟩
      dsimp only at hk
      simp only [Bool.and_eq_true, Bool.or_eq_true, Ext.le_iff] at hk
      obtain ⟨hlo, hhi⟩ := hk
      refine ⟨?_, ?_⟩
      · rcases hlo with h | h
        · exact le_trans h hv.1
        · exact le_of_extPow_le (fun _ => (Nat.odd_iff.2 ho).pow_le_pow.1) (le_trans h hy.1)
      · rcases hhi with h | h
        · exact le_trans hv.2 h
        · exact le_of_le_extPow_odd ho (le_trans hy.2 h)

theorem pow_sound {n : ℕ} (hn : 1 ≤ n) {y x x' : Itv} {flag : Bool}
    (h : powOk n y x x' flag = true) :
    (∀ v : ℝ, v ∈ x' → v ∈ x) ∧ (∀ v : ℝ, v ∈ x → v ^ n ∈ y → v ∈ x') ∧
    (flag = false → ¬ ∃ v : ℝ, v ∈ x ∧ v ^ n ∈ y) := by
  have hn0 : n ≠ 0 := by omega
  simp only [powOk, Bool.and_eq_true, Bool.or_eq_true] at h
  obtain ⟨⟨hsub, hk⟩, hf⟩ := h
  refine ⟨fun v hv => Itv.mem_of_subset hsub hv, fun v hv hy => (powKeeps_sound hn0 hv hy).2 hk, ?_⟩
  rintro rfl ⟨v, hv, hy⟩
  rcases hf with hf | hf
  · exact Bool.noConfusion hf
  · rw [(powKeeps_sound (x' := x') hn0 hv hy).1] at hf
    exact Bool.noConfusion hf

/-! ### point-sample rule -/

/-- a sample `q` whose image enclosure `fv` is non-empty and inside `y` is kept by `x'` -/
theorem sampleOk_sound {y fv x' : Itv} {q : Rat} (h : sampleOk y fv (.fin q) x' = true)
    (hsub : Itv.subset fv y = true) (hne : fv ≠ .empty) : (q : ℝ) ∈ x' := by
  have he : fv.isEmpty = false := by
    cases fv with
    | empty => exact absurd rfl hne
    | mk a b => rfl
  simp only [sampleOk, hsub, he, Bool.not_false, Bool.and_self, Bool.not_true, Bool.false_or] at h
  exact Itv.containsExt_fin.1 h

/-- semantic form: if the image `f q` is known to lie in `fv ⊆ y` (so `q` is consistent: `f q ∈ y`),
    an accepted `x'` contains `q` -/
theorem sampleOk_sound' {y fv x' : Itv} {q : Rat} {fq : ℝ} (h : sampleOk y fv (.fin q) x' = true)
    (hsub : Itv.subset fv y = true) (hfq : fq ∈ fv) : fq ∈ y ∧ (q : ℝ) ∈ x' := by
  refine ⟨Itv.mem_of_subset hsub hfq, sampleOk_sound h hsub ?_⟩
  rintro rfl
  exact Itv.not_mem_empty _ hfq

end Ibex.Bwd
