/-
  An accepted node certificate (`Eval.certOk`) proves that the implementation's node domains
  enclose the real values of the nodes at every point of the box (property C02).  Importing this
  module gives the whole theory of the evaluator (`EvalRel`, `EvalNat`, `EvalLit`, `EvalReal`).
-/
import IbexProofs.EvalReal
import IbexProofs.EvalLit

namespace Ibex
open Ibex List

/-! ## soundness of the node certificate `Eval.certOk` -/

namespace Eval

theorem _root_.Ibex.MatMem.of_matSubset {v : Mat ℝ} {m z : Mat Itv} (hm : MatMem v m) (hs : matSubset m z = true) :
    MatMem v z := by
  unfold matSubset at hs
  simp only [Bool.and_eq_true, beq_iff_eq] at hs
  obtain ⟨⟨⟨hr, hc⟩, hl⟩, hall⟩ := hs
  exact ⟨hm.1.trans hr, hm.2.1.trans hc, (forall₂_of_zip_all (R := fun X x => x ∈ X) (S := fun X x => x ∈ X)
    (fun _ _ _ hs hx => Itv.mem_of_subset hs hx) hm.2.2.flip hl hall).flip⟩

theorem certOk_size {funs : List Dag} {dag : Dag} {box : List Itv} {doms : Array (Mat Itv)}
    (h : certOk funs dag box doms = true) : doms.size = dag.size := by
  unfold certOk at h
  simp only [Bool.and_eq_true, beq_iff_eq] at h
  exact h.1

theorem certOk_node {funs : List Dag} {dag : Dag} {box : List Itv} {doms : Array (Mat Itv)}
    (h : certOk funs dag box doms = true) {i : Nat} {n : Node} (hn : dag[i]? = some n) {m : Mat Itv}
    (hm : nodeVal Alg.itv box (buildCalls Alg.itv funs) doms n = some m) :
    ∃ z, doms[i]? = some z ∧ matSubset m z = true := by
  unfold certOk certBad at h
  simp only [Bool.and_eq_true, List.isEmpty_iff, List.filterMap_eq_nil_iff] at h
  have hmem : (n, i) ∈ dag.toList.zipIdx := by
    rw [List.mk_mem_zipIdx_iff_getElem?, Array.getElem?_toList]
    exact hn
  have := h.2 _ hmem
  simp only [hm] at this
  cases hz : doms[i]? with
  | none => rw [hz] at this; simp at this
  | some z =>
    rw [hz] at this
    simp only at this
    refine ⟨z, rfl, ?_⟩
    by_contra hne
    rw [if_neg hne] at this
    exact absurd this (by simp)

variable {AR : Alg ℝ} {p : List ℝ} {box : List Itv} {rcall : Nat → List (Mat ℝ) → Option (Mat ℝ)}
  {dag : Dag} {doms : Array (Mat Itv)}

/-- **Soundness of the certificate, general form**: `AR` is any real semantics of the operators that
    the model's interval operators enclose (`Alg.real`, `Alg.realWith`), `rcall` any real semantics
    of the applied functions enclosed by the model's interval evaluation of these functions.
    The nodes that the certificate cannot check are exactly the `Unchecked` ones: they are assumed
    (`hyp`).  The assumption may use that the real arguments `v1` of the node belong to the
    implementation's argument domains (operator-level enclosure, as validated against an oracle),
    or refer to the actual value `rvals[i]`. -/
theorem cert_sound_gen {funs : List Dag} (hAR : AlgRel RMem AR Alg.itv)
    (hcall : CallRel RMem rcall (buildCalls Alg.itv funs))
    (h : certOk funs dag box doms = true) (hp : EnvMem p box) {rvals : Array (Mat ℝ)}
    (hrun : run AR p rcall dag = some rvals)
    (hyp : ∀ (i : Nat) n v1 x, dag[i]? = some n → Unchecked Alg.itv (buildCalls Alg.itv funs) doms n →
      ArgsRel RMem v1 doms → nodeVal AR p rcall v1 n = some x → rvals[i]? = some x →
      ∀ z, doms[i]? = some z → MatMem x z) :
    ∀ (i : Nat) v z, rvals[i]? = some v → doms[i]? = some z → MatMem v z := by
  rw [run_eq] at hrun
  have key : ArgsRel RMem rvals doms := by
    refine fold_inv hrun (P := fun _ w => ArgsRel RMem w doms) (fun j v hj => by simp at hj)
      fun i n w x hn hsz hw hx hfin => ?_
    rw [Array.getElem?_toList] at hn
    replace hsz : w.size = i := by simpa using hsz
    replace hfin : rvals[i]? = some x := by simpa using hfin
    -- the domain of node `i` exists since the certificate has one domain per node
    have hi : i < doms.size := by
      rw [certOk_size h]
      by_contra hge
      rw [Array.getElem?_eq_none (by omega)] at hn
      cases hn
    have hz := Array.getElem?_eq_getElem hi
    have hxz : ∃ z, doms[i]? = some z ∧ MatMem x z := by
      rcases nodeVal_rel hAR hp hcall hw n hx with ⟨y, hy, hxy⟩ | hu
      · obtain ⟨z, hz, hsub⟩ := certOk_node h hn hy
        exact ⟨z, hz, MatMem.of_matSubset hxy hsub⟩
      · exact ⟨_, hz, hyp i n w x hn hu hw hx hfin _ hz⟩
    intro j v hj
    rw [Array.getElem?_push] at hj
    split at hj
    · rename_i e
      cases hj
      rw [e, hsz]
      exact hxz
    · exact hw j v hj
  intro i v z hv hz
  obtain ⟨z', hz', hvz⟩ := key i v hv
  cases hz.symm.trans hz'
  exact hvz

end Eval

end Ibex

