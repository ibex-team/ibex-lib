/-
  The real semantics of the operators (`Alg.real`, `Alg.realWith`) and two instances of naturality
  on ℝ: `x ∈ X` — every interval operator of the model encloses the real one — and `x = (q : ℝ)` —
  the exact rational operators are the real ones.
-/
import IbexProofs.EvalNat
import IbexProofs.Arith2
import IbexProofs.SetAlg
import Mathlib.Analysis.SpecialFunctions.Exp
import Mathlib.Analysis.SpecialFunctions.Log.Basic
import Mathlib.Analysis.SpecialFunctions.Trigonometric.Basic
import Mathlib.Analysis.SpecialFunctions.Trigonometric.Inverse
import Mathlib.Analysis.SpecialFunctions.Trigonometric.Arctan
import Mathlib.Analysis.SpecialFunctions.Arsinh
import Mathlib.Analysis.SpecialFunctions.Arcosh
import Mathlib.Analysis.SpecialFunctions.Artanh

namespace Ibex
open Ibex List

/-! ## the real-number algebra -/

/-- a degenerate interval constant `[q,q]` denotes the real `q`; a thick constant has no point value -/
noncomputable def realOfItv : Itv → Option ℝ
  | .mk (.fin a) (.fin b) => if a = b then some (a : ℝ) else none
  | _ => none

theorem realOfItv_eq_ratOfItv (I : Itv) : realOfItv I = (ratOfItv I).map (Rat.cast : ℚ → ℝ) := by
  unfold realOfItv ratOfItv
  split
  · simp only [beq_iff_eq]
    split_ifs <;> rfl
  · split
    · rename_i h
      exact absurd rfl (h _ _)
    · rfl

open Classical in
/-- The real semantics of the operators (the specification).  It mirrors `Alg.rat` on ℝ, with the
    real square root where `Alg.rat` has the exact one of perfect squares (`ratSqrt?`), and adds the
    elementary functions, each defined on its natural domain.  Thick interval
    constants are undefined (an expression containing one has no point value). -/
noncomputable def Alg.real : Alg ℝ where
  ofItv := realOfItv
  zero := 0
  add a b := some (a + b)
  sub a b := some (a - b)
  mul a b := some (a * b)
  div a b := if b = 0 then none else some (a / b)
  max a b := some (Max.max a b)
  min a b := some (Min.min a b)
  un op := match op with
    | "minus" => some fun a => some (-a)
    | "sqr" => some fun a => some (a * a)
    | "abs" => some fun a => some |a|
    | "sign" => some fun a => some (SignType.sign a : ℝ)
    | "floor" => some fun a => some ((⌊a⌋ : ℤ) : ℝ)
    | "ceil" => some fun a => some ((⌈a⌉ : ℤ) : ℝ)
    | "sqrt" => some fun a => if 0 ≤ a then some (Real.sqrt a) else none
    | "exp" => some fun a => some (Real.exp a)
    | "log" => some fun a => if 0 < a then some (Real.log a) else none
    | "cos" => some fun a => some (Real.cos a)
    | "sin" => some fun a => some (Real.sin a)
    | "tan" => some fun a => if Real.cos a = 0 then none else some (Real.tan a)
    | "cosh" => some fun a => some (Real.cosh a)
    | "sinh" => some fun a => some (Real.sinh a)
    | "tanh" => some fun a => some (Real.tanh a)
    | "acos" => some fun a => if -1 ≤ a ∧ a ≤ 1 then some (Real.arccos a) else none
    | "asin" => some fun a => if -1 ≤ a ∧ a ≤ 1 then some (Real.arcsin a) else none
    | "atan" => some fun a => some (Real.arctan a)
    | "acosh" => some fun a => if 1 ≤ a then some (Real.arcosh a) else none
    | "asinh" => some fun a => some (Real.arsinh a)
    | "atanh" => some fun a => if -1 < a ∧ a < 1 then some (Real.artanh a) else none
    | _ => none
  pow a n := if n < 0 ∧ a = 0 then none else some (a ^ n)
  chi a b c := some (if a ≤ 0 then b else c)

section
variable (x y z : ℝ)

@[dag_eval] theorem realOfItv_point (q : ℚ) : realOfItv (Itv.point q) = some (q : ℝ) := by
  simp [realOfItv, Itv.point]

@[dag_eval] theorem Alg.real_ofItv : Alg.real.ofItv = realOfItv := rfl
@[dag_eval] theorem Alg.real_zero : Alg.real.zero = 0 := rfl
@[dag_eval] theorem Alg.real_add : Alg.real.add x y = some (x + y) := rfl
@[dag_eval] theorem Alg.real_sub : Alg.real.sub x y = some (x - y) := rfl
@[dag_eval] theorem Alg.real_mul : Alg.real.mul x y = some (x * y) := rfl
@[dag_eval] theorem Alg.real_div : Alg.real.div x y = if y = 0 then none else some (x / y) := rfl
@[dag_eval] theorem Alg.real_max : Alg.real.max x y = some (Max.max x y) := rfl
@[dag_eval] theorem Alg.real_min : Alg.real.min x y = some (Min.min x y) := rfl
@[dag_eval] theorem Alg.real_pow (n : ℤ) :
    Alg.real.pow x n = if n < 0 ∧ x = 0 then none else some (x ^ n) := rfl
@[dag_eval] theorem Alg.real_chi : Alg.real.chi x y z = some (if x ≤ 0 then y else z) := rfl

@[dag_eval] theorem Alg.real_un_minus : Alg.real.un "minus" = some fun a => some (-a) := rfl
@[dag_eval] theorem Alg.real_un_sqr : Alg.real.un "sqr" = some fun a => some (a * a) := rfl
@[dag_eval] theorem Alg.real_un_abs : Alg.real.un "abs" = some fun a => some |a| := rfl
@[dag_eval] theorem Alg.real_un_sign : Alg.real.un "sign" = some fun a => some (SignType.sign a : ℝ) := rfl
@[dag_eval] theorem Alg.real_un_floor : Alg.real.un "floor" = some fun a => some ((⌊a⌋ : ℤ) : ℝ) := rfl
@[dag_eval] theorem Alg.real_un_ceil : Alg.real.un "ceil" = some fun a => some ((⌈a⌉ : ℤ) : ℝ) := rfl
@[dag_eval] theorem Alg.real_un_sqrt :
    Alg.real.un "sqrt" = some fun a => if 0 ≤ a then some (Real.sqrt a) else none := rfl
@[dag_eval] theorem Alg.real_un_exp : Alg.real.un "exp" = some fun a => some (Real.exp a) := rfl
-- the other names (`log`, `cos`, …) have no equation here; each would be `rfl` as well

attribute [dag_eval] Rat.cast_zero Rat.cast_one Rat.cast_ofNat zpow_ofNat

end

def MatMem (v : Mat ℝ) (z : Mat Itv) : Prop :=
  v.r = z.r ∧ v.c = z.c ∧ List.Forall₂ (· ∈ ·) v.d z.d

def EnvMem (p : List ℝ) (box : List Itv) : Prop := List.Forall₂ (· ∈ ·) p box

abbrev RMem : ℝ → Itv → Prop := fun x X => x ∈ X

theorem MatMem_iff {v : Mat ℝ} {z : Mat Itv} : MatMem v z ↔ MatRel RMem v z := Iff.rfl

theorem MatMem_scalar {x : ℝ} {X : Itv} : MatMem (Mat.scalar x) (Mat.scalar X) ↔ x ∈ X :=
  ⟨fun h => by obtain ⟨_, _, _ | ⟨h, _⟩⟩ := h; exact h, fun h => ⟨rfl, rfl, .cons h .nil⟩⟩

theorem mem_itvNonEmpty {x : ℝ} {X : Itv} (h : x ∈ X) : ∃ Y, itvNonEmpty X = some Y ∧ x ∈ Y := by
  cases X with
  | empty => exact absurd h (Itv.not_mem_empty x)
  | mk a b => exact ⟨_, rfl, h⟩

theorem Rel1.encl {F : Itv → Itv} {f : ℝ → ℝ} (hF : ∀ {x : ℝ} {X : Itv}, x ∈ X → f x ∈ F X) :
    Rel1 RMem RMem (fun x => some (f x)) (fun X => itvNonEmpty (F X)) :=
  .of_total fun _ _ hx => mem_itvNonEmpty (hF hx)

theorem Rel2.encl {F : Itv → Itv → Itv} {f : ℝ → ℝ → ℝ}
    (hF : ∀ {x y : ℝ} {X Y : Itv}, x ∈ X → y ∈ Y → f x y ∈ F X Y) :
    Rel2 RMem RMem (fun x y => some (f x y)) (fun X Y => itvNonEmpty (F X Y)) :=
  .of_total fun _ _ _ _ hx hy => mem_itvNonEmpty (hF hx hy)

/-- Real semantics in which a thick interval constant `I` denotes the real `ch I` (any selection of
    a member); `Alg.real` is the case where only degenerate constants have a value. -/
noncomputable def Alg.realWith (ch : Itv → Option ℝ) : Alg ℝ := { Alg.real with ofItv := ch }

theorem realOfItv_mem {I : Itv} {x : ℝ} (h : realOfItv I = some x) : x ∈ I := by
  unfold realOfItv at h
  split at h
  · split at h
    · rename_i e
      subst e
      cases h
      exact ⟨le_refl _, le_refl _⟩
    · cases h
  · cases h

/-- **Operator-level enclosure**: every interval operator of the model (`Alg.itv`) encloses the
    real operator, and is defined (non-empty) whenever the real operator is defined at a point of
    its arguments.  The constants may denote any member of their interval. -/
theorem Alg.realWith_itv {ch : Itv → Option ℝ} (hch : ∀ I x, ch I = some x → x ∈ I) :
    AlgRel RMem (Alg.realWith ch) Alg.itv where
  ofItv := fun I a h => mem_itvNonEmpty (hch I a h)
  zero := by
    show (0 : ℝ) ∈ Itv.point 0
    simp [Itv.point, Itv.mem_mk]
  add := .encl Itv.add_encl
  sub := .encl Itv.sub_encl
  mul := .encl Itv.mul_encl
  div := .of_undef fun _ _ _ _ hx hy hy0 => mem_itvNonEmpty (Itv.div_encl hx hy hy0)
  max := .encl Itv.max_encl
  min := .encl Itv.min_encl
  un := by
    intro op f g hf hg
    simp only [Alg.itv] at hg
    split at hg
    · exact .of_un hf Alg.real_un_minus hg rfl (.encl Itv.neg_encl)
    · exact .of_un hf Alg.real_un_sqr hg rfl (.encl Itv.sqr_encl)
    · exact .of_un hf Alg.real_un_abs hg rfl (.encl Itv.abs_encl)
    · exact .of_un hf Alg.real_un_sign hg rfl (.encl Itv.sign_encl)
    · exact .of_un hf Alg.real_un_sqrt hg rfl (.of_dom fun _ _ hx h0 => mem_itvNonEmpty (Itv.sqrt_encl hx h0))
    · exact .of_un hf Alg.real_un_floor hg rfl (.encl Itv.floor_encl)
    · exact .of_un hf Alg.real_un_ceil hg rfl (.encl Itv.ceil_encl)
    · cases hg
  pow := fun n => .of_undef fun _ _ hx h0 =>
    mem_itvNonEmpty (Itv.powInt_encl n hx fun hn hx0 => h0 ⟨hn, hx0⟩)
  chi := by
    intro x X y Y z Z s hx hy hz h
    cases h
    show ∃ W, Alg.itv.chi X Y Z = some W ∧ (if x ≤ 0 then y else z) ∈ W
    cases X with
    | empty => exact absurd hx (Itv.not_mem_empty x)
    | mk al ah =>
      simp only [Alg.itv]
      obtain ⟨h1, h2⟩ := hx
      split
      · rename_i hle
        rw [Ext.le_iff, Ext.toE_zero] at hle
        have : x ≤ 0 := by exact_mod_cast le_trans h2 hle
        rw [if_pos this]
        exact mem_itvNonEmpty hy
      · split
        · rename_i _ hlt
          rw [Ext.lt_iff, Ext.toE_zero] at hlt
          have : ¬ x ≤ 0 := not_le.2 (by exact_mod_cast lt_of_lt_of_le hlt h1)
          rw [if_neg this]
          exact mem_itvNonEmpty hz
        · split
          · exact mem_itvNonEmpty (Itv.mem_hull_left hy)
          · exact mem_itvNonEmpty (Itv.mem_hull_right hz)

theorem Alg.real_itv : AlgRel RMem Alg.real Alg.itv :=
  Alg.realWith_itv fun _ _ => realOfItv_mem

/-! ## the exact rational evaluation is the real semantics -/

abbrev RCast : ℚ → ℝ → Prop := fun q x => x = (q : ℝ)

theorem ratSqrt?_spec {q s : ℚ} (h : ratSqrt? q = some s) : 0 ≤ (q : ℝ) ∧ Real.sqrt (q : ℝ) = (s : ℝ) := by
  unfold ratSqrt? at h
  split at h
  · exact absurd h (by simp)
  · rename_i hq
    simp only at h
    split at h
    · rename_i hsq
      simp only [Option.some.injEq] at h
      simp only [Bool.and_eq_true, beq_iff_eq] at hsq
      have hq0 : 0 ≤ q := not_lt.1 hq
      have hq0R : 0 ≤ (q : ℝ) := by exact_mod_cast hq0
      refine ⟨hq0R, ?_⟩
      have hnum : (q.num.toNat : ℤ) = q.num := Int.toNat_of_nonneg (Rat.num_nonneg.2 hq0)
      have hden : (0 : ℝ) < (Nat.sqrt q.den : ℝ) := by
        have : 0 < Nat.sqrt q.den := by
          rcases Nat.eq_zero_or_pos (Nat.sqrt q.den) with h0 | h0
          · have := hsq.2; rw [h0] at this; exact absurd this.symm (by simp [q.den_ne_zero])
          · exact h0
        exact_mod_cast this
      have hs0 : 0 ≤ (s : ℝ) := by
        rw [← h]; push_cast; positivity
      rw [Real.sqrt_eq_iff_mul_self_eq hq0R hs0, ← h]
      push_cast
      have e1 : ((Nat.sqrt q.num.toNat : ℝ)) * (Nat.sqrt q.num.toNat : ℝ) = (q.num : ℝ) := by
        have : ((Nat.sqrt q.num.toNat * Nat.sqrt q.num.toNat : ℕ) : ℤ) = q.num := by rw [hsq.1]; exact hnum
        exact_mod_cast this
      have e2 : ((Nat.sqrt q.den : ℝ)) * (Nat.sqrt q.den : ℝ) = (q.den : ℝ) := by exact_mod_cast hsq.2
      have hqd : (q : ℝ) = (q.num : ℝ) / (q.den : ℝ) := by
        exact Rat.cast_def (K := ℝ) q
      rw [hqd, div_mul_div_comm, e1, e2]
    · exact absurd h (by simp)

theorem ratSign_cast (q : ℚ) : ((ratSign q : ℚ) : ℝ) = (SignType.sign (q : ℝ) : ℝ) := by
  unfold ratSign
  rcases lt_trichotomy q 0 with h | h | h
  · have h' : (q : ℝ) < 0 := by exact_mod_cast h
    rw [if_neg (not_lt.2 h.le), if_pos h, sign_neg h']
    simp
  · subst h
    simp
  · have h' : (0 : ℝ) < (q : ℝ) := by exact_mod_cast h
    rw [if_pos h, sign_pos h']
    simp

theorem ratPow_cast {q s : ℚ} {n : ℤ} (h : ratPow q n = some s) :
    ¬ (n < 0 ∧ (q : ℝ) = 0) ∧ (q : ℝ) ^ n = (s : ℝ) := by
  unfold ratPow at h
  split at h
  · rename_i hn
    cases h
    refine ⟨fun hh => absurd hh.1 (not_lt.2 hn), ?_⟩
    conv_lhs => rw [← Int.toNat_of_nonneg hn]
    rw [zpow_natCast]
    simp
  · rename_i hn
    split at h
    · cases h
    · rename_i h0
      cases h
      refine ⟨fun hh => Rat.cast_ne_zero.2 h0 hh.2, ?_⟩
      have hneg : n = -(((-n).toNat : ℕ) : ℤ) := by
        rw [Int.toNat_of_nonneg (by omega)]; omega
      conv_lhs => rw [hneg]
      rw [zpow_neg, zpow_natCast]
      simp

/-- **`Alg.rat` agrees with `Alg.real` under the cast ℚ → ℝ**, for every operation that `Alg.rat`
    supports: whenever the rational operation is defined, so is the real one, with the same value. -/
theorem Alg.rat_real : AlgRel RCast Alg.rat Alg.real where
  ofItv := fun I a (h : ratOfItv I = some a) =>
    ⟨_, (realOfItv_eq_ratOfItv I).trans (congrArg _ h), rfl⟩
  zero := Rat.cast_zero.symm
  add := .of_total fun | a, _, a', _, rfl, rfl => ⟨_, rfl, (Rat.cast_add a a').symm⟩
  sub := .of_total fun | a, _, a', _, rfl, rfl => ⟨_, rfl, (Rat.cast_sub a a').symm⟩
  mul := .of_total fun | a, _, a', _, rfl, rfl => ⟨_, rfl, (Rat.cast_mul a a').symm⟩
  div := .of_undef fun
    | a, _, a', _, rfl, rfl, h0 => ⟨_, if_neg (Rat.cast_ne_zero.2 h0), (Rat.cast_div a a').symm⟩
  max := .of_total fun
    | a, _, a', _, rfl, rfl => ⟨_, rfl, by
      show Max.max (a : ℝ) (a' : ℝ) = _
      rw [← max_def, Rat.cast_max]⟩
  min := .of_total fun
    | a, _, a', _, rfl, rfl => ⟨_, rfl, by
      show Min.min (a : ℝ) (a' : ℝ) = _
      rw [← min_def, Rat.cast_min]⟩
  un := by
    intro op f g hf hg
    simp only [Alg.rat] at hf
    split at hf
    · exact .of_un hf rfl hg Alg.real_un_minus
        (.of_total fun | a, _, rfl => ⟨_, rfl, (Rat.cast_neg a).symm⟩)
    · exact .of_un hf rfl hg Alg.real_un_sqr
        (.of_total fun | a, _, rfl => ⟨_, rfl, (Rat.cast_mul a a).symm⟩)
    · refine .of_un hf rfl hg Alg.real_un_abs (.of_total fun | a, _, rfl => ⟨_, rfl, ?_⟩)
      show |(a : ℝ)| = _
      split_ifs with hlt
      · rw [abs_of_neg (by exact_mod_cast hlt)]; simp
      · rw [abs_of_nonneg (by exact_mod_cast not_lt.1 hlt)]
    · exact .of_un hf rfl hg Alg.real_un_sign
        (.of_total fun | a, _, rfl => ⟨_, rfl, (ratSign_cast a).symm⟩)
    · refine .of_un hf rfl hg Alg.real_un_floor (.of_total fun | a, _, rfl => ⟨_, rfl, ?_⟩)
      show ((⌊(a : ℝ)⌋ : ℤ) : ℝ) = ((a.floor : ℚ) : ℝ)
      rw [Rat.floor_cast, rat_floor_eq]
      simp
    · refine .of_un hf rfl hg Alg.real_un_ceil (.of_total fun | a, _, rfl => ⟨_, rfl, ?_⟩)
      show ((⌈(a : ℝ)⌉ : ℤ) : ℝ) = ((a.ceil : ℚ) : ℝ)
      rw [Rat.ceil_cast, rat_ceil_eq]
      simp
    · refine .of_un hf rfl hg Alg.real_un_sqrt ?_
      rintro a _ x rfl hx
      obtain ⟨h0, hs⟩ := ratSqrt?_spec hx
      exact ⟨_, if_pos h0, hs⟩
    · cases hf
  pow := by
    rintro n a _ x rfl h
    obtain ⟨h0, hx⟩ := ratPow_cast h
    exact ⟨(a : ℝ) ^ n, if_neg h0, hx⟩
  chi := by
    rintro a _ b _ c _ x rfl rfl rfl h
    cases h
    refine ⟨_, rfl, ?_⟩
    show (if (a : ℝ) ≤ 0 then (b : ℝ) else (c : ℝ)) = _
    have : ((a : ℝ) ≤ 0) ↔ a ≤ 0 := by exact_mod_cast Iff.rfl
    split_ifs <;> simp_all

theorem Alg.rat_real_un (op : String) (h : Alg.real.un op = none) : Alg.rat.un op = none := by
  simp only [Alg.rat]
  split
  · cases Alg.real_un_minus.symm.trans h
  · cases Alg.real_un_sqr.symm.trans h
  · cases Alg.real_un_abs.symm.trans h
  · cases Alg.real_un_sign.symm.trans h
  · cases Alg.real_un_floor.symm.trans h
  · cases Alg.real_un_ceil.symm.trans h
  · cases Alg.real_un_sqrt.symm.trans h
  · rfl

theorem Alg.rat_real_supp (n : Node) : Eval.Supp Alg.rat Alg.real n :=
  fun op _ _ _ h => Alg.rat_real_un op h

end Ibex
