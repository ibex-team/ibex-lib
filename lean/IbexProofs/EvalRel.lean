/-
  Relations between the entries of two types, lifted to options (`Rel1`, `Rel2`: an operation is
  followed by another), lists (`Forall₂`) and matrices (`MatRel`), with the facts on lists and on the
  structural matrix operations that the naturality of the evaluator needs.
-/
import IbexModel.Expr
import IbexProofs.EvalSimp
import Mathlib.Data.List.Forall2

namespace Ibex
open Ibex List

/-! ## lists -/

section Rel
variable {α β γ δ : Type}

theorem mapM_eq_some_iff {ι : Type} {f : ι → Option γ} :
    ∀ {l : List ι} {o : List γ}, l.mapM f = some o ↔ Forall₂ (fun a b => f a = some b) l o
  | [], o => by cases o <;> simp
  | a :: l, o => by
    simp only [List.mapM_cons, bind, pure, Option.bind_eq_some_iff, Option.some.injEq]
    constructor
    · rintro ⟨b, hb, bs, hbs, rfl⟩
      exact .cons hb (mapM_eq_some_iff.1 hbs)
    · rintro (_ | ⟨hb, hbs⟩)
      exact ⟨_, hb, _, mapM_eq_some_iff.2 hbs, rfl⟩

theorem forall₂_zipWith {ι κ ε ζ : Type} {R : α → β → Prop} {S : ι → κ → Prop} {T : ε → ζ → Prop}
    {f : α → ι → ε} {g : β → κ → ζ} (hfg : ∀ a b c d, R a b → S c d → T (f a c) (g b d)) :
    ∀ {l1 : List α} {l2 : List β}, Forall₂ R l1 l2 → ∀ {m1 : List ι} {m2 : List κ}, Forall₂ S m1 m2 →
      Forall₂ T (List.zipWith f l1 m1) (List.zipWith g l2 m2) := by
  intro l1 l2 h
  induction h with
  | nil => intro m1 m2 _; simp
  | cons hab _ ih =>
    intro m1 m2 hm
    cases hm with
    | nil => simp
    | cons hcd hm' => exact .cons (hfg _ _ _ _ hab hcd) (ih hm')

theorem forall₂_zip_pair {R : α → β → Prop} {a1 : List α} {a2 : List β} (ha : Forall₂ R a1 a2)
    {b1 : List α} {b2 : List β} (hb : Forall₂ R b1 b2) :
    Forall₂ (fun p q => R p.1 q.1 ∧ R p.2 q.2) (List.zip a1 b1) (List.zip a2 b2) :=
  forall₂_zipWith (fun _ _ _ _ h h' => ⟨h, h'⟩) ha hb

theorem forall₂_getElem? {R : α → β → Prop} {l1 : List α} {l2 : List β} (h : Forall₂ R l1 l2) (i : Nat) :
    (l1[i]? = none ∧ l2[i]? = none) ∨ ∃ a b, l1[i]? = some a ∧ l2[i]? = some b ∧ R a b := by
  induction h generalizing i with
  | nil => exact .inl ⟨rfl, rfl⟩
  | cons hab _ ih =>
    cases i with
    | zero => exact .inr ⟨_, _, rfl, rfl, hab⟩
    | succ i => exact ih i

theorem forall₂_getElem?_left {R : α → β → Prop} {l1 : List α} {l2 : List β}
    (h : Forall₂ R l1 l2) {i : Nat} {a : α} (ha : l1[i]? = some a) : ∃ b, l2[i]? = some b ∧ R a b := by
  rcases forall₂_getElem? h i with ⟨hn, _⟩ | ⟨a', b, ha', hb, hab⟩
  · exact nomatch ha.symm.trans hn
  · exact ⟨b, hb, Option.some.inj (ha'.symm.trans ha) ▸ hab⟩

theorem forall₂_getElem?_right {R : α → β → Prop} {l1 : List α} {l2 : List β}
    (h : Forall₂ R l1 l2) {i : Nat} {b : β} (hb : l2[i]? = some b) : ∃ a, l1[i]? = some a ∧ R a b :=
  forall₂_getElem?_left h.flip hb

theorem forall₂_getElem {R : α → β → Prop} {l1 : List α} {l2 : List β} (h : Forall₂ R l1 l2)
    {i : Nat} (h1 : i < l1.length) : ∃ h2 : i < l2.length, R l1[i] l2[i] :=
  ⟨h.length_eq ▸ h1, h.get h1 _⟩

theorem forall₂_filterMap_idx {R : α → β → Prop} {l1 : List α} {l2 : List β} (h : Forall₂ R l1 l2)
    (φ : Nat → Nat) (is : List Nat) :
    Forall₂ R (is.filterMap fun i => l1[φ i]?) (is.filterMap fun i => l2[φ i]?) := by
  induction is with
  | nil => simp
  | cons i is ih =>
    rcases forall₂_getElem? h (φ i) with ⟨h1, h2⟩ | ⟨a, b, h1, h2, hab⟩
    · simpa only [List.filterMap_cons, h1, h2] using ih
    · simpa only [List.filterMap_cons, h1, h2] using Forall₂.cons hab ih

theorem forall₂_flatMap_same {ι : Type} {R : α → β → Prop} {f : ι → List α} {g : ι → List β}
    (hfg : ∀ i, Forall₂ R (f i) (g i)) (l : List ι) : Forall₂ R (l.flatMap f) (l.flatMap g) :=
  rel_flatMap (R := Eq) (List.forall₂_refl l) fun i _ e => e ▸ hfg i

theorem forall₂_of_zip_all {ι : Type} {R : α → β → Prop} {S : ι → β → Prop} {t : α → ι → Bool}
    (hRS : ∀ a c b, t a c = true → R a b → S c b) :
    ∀ {l₁ : List α} {l₂ : List β} {l₃ : List ι}, Forall₂ R l₁ l₂ → l₁.length = l₃.length →
      ((List.zip l₁ l₃).all fun p => t p.1 p.2) = true → Forall₂ S l₃ l₂
  | _, _, [], .nil, _, _ => .nil
  | _, _, _ :: _, .nil, hl, _ => by simp at hl
  | _, _, [], .cons _ _, hl, _ => by simp at hl
  | _, _, c :: l₃, .cons hab h, hl, hs => by
    simp only [List.zip_cons_cons, List.all_cons, Bool.and_eq_true] at hs
    exact .cons (hRS _ _ _ hs.1 hab) (forall₂_of_zip_all hRS h (by simpa using hl) hs.2)

theorem forall₂_all {R : α → β → Prop} {l₁ : List α} {l₂ : List β} (h : Forall₂ R l₁ l₂)
    {P : α → Prop} {Q : β → Prop} (hPQ : ∀ a b, P a → R a b → Q b) (hP : ∀ a ∈ l₁, P a) : ∀ b ∈ l₂, Q b := by
  induction h with
  | nil => intro x hx; simp at hx
  | cons hab _ ih =>
    intro x hx
    rcases List.mem_cons.1 hx with rfl | hx
    · exact hPQ _ _ (hP _ (by simp)) hab
    · exact ih (fun Z hZ => hP Z (by simp [hZ])) x hx

theorem zip_all {α β : Type} {f : α × β → Bool} {l : List α} {z : List β} (h : (List.zip l z).all f = true)
    {k : ℕ} {a : α} {b : β} (ha : l[k]? = some a) (hb : z[k]? = some b) : f (a, b) = true := by
  rw [List.all_eq_true] at h
  apply h
  rw [List.mem_iff_getElem?]
  exact ⟨k, by rw [List.getElem?_zip_eq_some]; exact ⟨ha, hb⟩⟩

theorem getElem?_flatten_uniform {α : Type} {n : ℕ} :
    ∀ (l : List (List α)), (∀ x ∈ l, x.length = n) → ∀ (i j : ℕ), j < n →
      l.flatten[i * n + j]? = (l[i]?).bind (·[j]?) := by
  intro l
  induction l with
  | nil => intro _ i j _; simp
  | cons x l ih =>
    intro hl i j hj
    have hx : x.length = n := hl x (by simp)
    cases i with
    | zero =>
      simp only [List.flatten_cons, Nat.zero_mul, Nat.zero_add, List.getElem?_cons_zero, Option.bind_some]
      rw [List.getElem?_append_left (by omega)]
    | succ i =>
      simp only [List.flatten_cons, List.getElem?_cons_succ]
      rw [List.getElem?_append_right (by rw [hx, Nat.succ_mul]; omega)]
      have : (i + 1) * n + j - x.length = i * n + j := by rw [hx, Nat.succ_mul]; omega
      rw [this]
      exact ih (fun y hy => hl y (by simp [hy])) i j hj

theorem forall₂_map_eq {ι κ μ : Type} {P : ι → κ → Prop} {f : ι → μ} {g : κ → μ}
    (hfg : ∀ a b, P a b → f a = g b) {l1 : List ι} {l2 : List κ} (h : Forall₂ P l1 l2) :
    l1.map f = l2.map g := by
  rw [← forall₂_eq_eq_eq, forall₂_map_left_iff, forall₂_map_right_iff]
  exact h.imp hfg

theorem forall₂_all_eq {ι κ : Type} {P : ι → κ → Prop} {f : ι → Bool} {g : κ → Bool}
    (hfg : ∀ a b, P a b → f a = g b) {l1 : List ι} {l2 : List κ} (h : Forall₂ P l1 l2) :
    l1.all f = l2.all g := by
  have := congrArg (List.all · id) (forall₂_map_eq hfg h)
  rwa [List.all_map, List.all_map] at this

/-! ## relations between entries, lifted to options, lists and matrices -/

def MatRel (R : α → β → Prop) (v : Mat α) (z : Mat β) : Prop :=
  v.r = z.r ∧ v.c = z.c ∧ Forall₂ R v.d z.d

/-- `g` follows `f`: on related arguments, when `f` is defined so is `g`, with related results -/
def Rel1 (R : α → β → Prop) (S : γ → δ → Prop) (f : α → Option γ) (g : β → Option δ) : Prop :=
  ∀ a b x, R a b → f a = some x → ∃ y, g b = some y ∧ S x y

def Rel2 (R : α → β → Prop) (S : γ → δ → Prop) (f : α → α → Option γ) (g : β → β → Option δ) : Prop :=
  ∀ a b a' b' x, R a b → R a' b' → f a a' = some x → ∃ y, g b b' = some y ∧ S x y

/-! How an operation given by a formula is followed: these unpack `f a = some x` once, so that a
    field of `AlgRel` is the enclosure lemma of the operator. -/

section
variable {R : α → β → Prop} {S : γ → δ → Prop}

theorem Rel1.of_total {f : α → γ} {g : β → Option δ} (h : ∀ a b, R a b → ∃ y, g b = some y ∧ S (f a) y) :
    Rel1 R S (fun a => some (f a)) g := by
  intro a b x hab hx
  cases hx
  exact h a b hab

/-- The `Decidable` instance is an implicit argument here and in `of_undef`, found by unification:
    `Alg.real` is defined under `open Classical`, and instance search would come back with another
    instance than the one in its body. -/
theorem Rel1.of_dom {c : α → Prop} {inst : DecidablePred c} {f : α → γ} {g : β → Option δ}
    (h : ∀ a b, R a b → c a → ∃ y, g b = some y ∧ S (f a) y) :
    Rel1 R S (fun a => if c a then some (f a) else none) g := by
  intro a b x hab hx
  dsimp only at hx
  split at hx
  · cases hx
    exact h a b hab ‹_›
  · cases hx

theorem Rel1.of_undef {c : α → Prop} {inst : DecidablePred c} {f : α → γ} {g : β → Option δ}
    (h : ∀ a b, R a b → ¬ c a → ∃ y, g b = some y ∧ S (f a) y) :
    Rel1 R S (fun a => if c a then none else some (f a)) g := by
  intro a b x hab hx
  dsimp only at hx
  split at hx
  · cases hx
  · cases hx
    exact h a b hab ‹_›

theorem Rel2.of_total {f : α → α → γ} {g : β → β → Option δ}
    (h : ∀ a b a' b', R a b → R a' b' → ∃ y, g b b' = some y ∧ S (f a a') y) :
    Rel2 R S (fun a a' => some (f a a')) g := by
  intro a b a' b' x hab hab' hx
  cases hx
  exact h a b a' b' hab hab'

theorem Rel2.of_undef {c : α → α → Prop} {inst : ∀ a a', Decidable (c a a')} {f : α → α → γ}
    {g : β → β → Option δ}
    (h : ∀ a b a' b', R a b → R a' b' → ¬ c a a' → ∃ y, g b b' = some y ∧ S (f a a') y) :
    Rel2 R S (fun a a' => if c a a' then none else some (f a a')) g := by
  intro a b a' b' x hab hab' hx
  dsimp only at hx
  split at hx
  · cases hx
  · cases hx
    exact h a b a' b' hab hab' ‹_›

theorem Rel1.to_total {f : α → Option γ} {g : β → δ} (h : ∀ a b x, R a b → f a = some x → S x (g b)) :
    Rel1 R S f (fun b => some (g b)) :=
  fun a b x hab hx => ⟨_, rfl, h a b x hab hx⟩

theorem Rel2.to_total {f : α → α → Option γ} {g : β → β → δ}
    (h : ∀ a b a' b' x, R a b → R a' b' → f a a' = some x → S x (g b b')) :
    Rel2 R S f (fun b b' => some (g b b')) :=
  fun a b a' b' x hab hab' hx => ⟨_, rfl, h a b a' b' x hab hab' hx⟩

theorem Rel1.refl (f : α → Option γ) : Rel1 Eq Eq f f :=
  fun _ _ x e h => e ▸ ⟨x, h, rfl⟩

theorem Rel2.refl (f : α → α → Option γ) : Rel2 Eq Eq f f :=
  fun _ _ _ _ x e e' h => e ▸ e' ▸ ⟨x, h, rfl⟩

/-- A field `un` of `AlgRel` at one operator name.  `hf`, `hg` are the hypotheses of the field;
    `ef`, `eg` say what the two tables hold at that name: an equation such as `Alg.real_un_sqr`, or
    `rfl` for the table on whose `match` the proof has split. -/
theorem Rel1.of_un {o : Option (α → Option γ)} {o' : Option (β → Option δ)} {f f' : α → Option γ}
    {g g' : β → Option δ} (hf : o = some f) (ef : o = some f') (hg : o' = some g) (eg : o' = some g')
    (h : Rel1 R S f' g') : Rel1 R S f g := by
  cases hf.symm.trans ef
  cases hg.symm.trans eg
  exact h

end

/-- `Option.bind` is followed when its two parts are: the shape of a node whose arguments are
    looked up first -/
theorem bind_rel {ι κ : Type} {P : ι → κ → Prop} {S : γ → δ → Prop} {o : Option ι} {o' : Option κ}
    {f : ι → Option γ} {g : κ → Option δ} (ho : ∀ a, o = some a → ∃ b, o' = some b ∧ P a b)
    (hfg : Rel1 P S f g) {x : γ} (hx : o.bind f = some x) : ∃ y, o'.bind g = some y ∧ S x y := by
  obtain ⟨a, ha, hx⟩ := Option.bind_eq_some_iff.1 hx
  obtain ⟨b, hb, hab⟩ := ho a ha
  obtain ⟨y, hy, hxy⟩ := hfg a b x hab hx
  exact ⟨y, by rw [hb, Option.bind_some, hy], hxy⟩

theorem mapM_rel {R : α → β → Prop} {S : γ → δ → Prop} {f : α → Option γ} {g : β → Option δ}
    (hfg : Rel1 R S f g) :
    ∀ {l1 : List α} {l2 : List β} {o1 : List γ}, Forall₂ R l1 l2 → l1.mapM f = some o1 →
      ∃ o2, l2.mapM g = some o2 ∧ Forall₂ S o1 o2 := by
  intro l1 l2 o1 h
  induction h generalizing o1 with
  | nil => intro h; simp at h; subst h; exact ⟨[], by simp, .nil⟩
  | cons hab _ ih =>
    intro h
    simp only [List.mapM_cons, bind, pure, Option.bind_eq_some_iff] at h
    obtain ⟨x, hx, xs, hxs, h⟩ := h
    obtain ⟨y, hy, hxy⟩ := hfg _ _ _ hab hx
    obtain ⟨ys, hys, hxys⟩ := ih hxs
    refine ⟨y :: ys, ?_, ?_⟩
    · simp [List.mapM_cons, hy, hys]
    · simp at h; subst h; exact .cons hxy hxys

theorem mapM_rel_same {ι : Type} {S : γ → δ → Prop} {f : ι → Option γ} {g : ι → Option δ}
    (hfg : ∀ i x, f i = some x → ∃ y, g i = some y ∧ S x y) {l : List ι} {o1 : List γ}
    (h : l.mapM f = some o1) : ∃ o2, l.mapM g = some o2 ∧ Forall₂ S o1 o2 := by
  refine mapM_rel (R := Eq) ?_ (List.forall₂_refl _) h
  rintro a b x rfl hx
  exact hfg _ _ hx

theorem foldlM_rel {R : α → β → Prop} {f : α → α → Option α} {g : β → β → Option β}
    (hfg : Rel2 R R f g) :
    ∀ {l1 : List α} {l2 : List β} {a : α} {b : β} {x : α}, Forall₂ R l1 l2 → R a b →
      l1.foldlM f a = some x → ∃ y, l2.foldlM g b = some y ∧ R x y := by
  intro l1 l2 a b x h
  induction h generalizing a b x with
  | nil => intro hab h; simp at h; subst h; exact ⟨b, by simp, hab⟩
  | cons hcd _ ih =>
    intro hab h
    simp only [List.foldlM_cons, bind, Option.bind_eq_some_iff] at h
    obtain ⟨a', ha', h⟩ := h
    obtain ⟨b', hb', hab'⟩ := hfg _ _ _ _ _ hab hcd ha'
    obtain ⟨y, hy, hxy⟩ := ih hab' h
    exact ⟨y, by simp [List.foldlM_cons, hb', hy], hxy⟩

/-! ### structural matrix operations only move entries around -/

variable {R : α → β → Prop}

theorem MatRel.eq {a b : Mat α} (h : MatRel Eq a b) : a = b := by
  obtain ⟨ra, ca, da⟩ := a
  obtain ⟨rb, cb, db⟩ := b
  obtain ⟨hr, hc, hd⟩ := h
  rw [forall₂_eq_eq_eq] at hd
  simp only at hr hc hd
  rw [hr, hc, hd]

theorem MatRel.row {a : Mat α} {b : Mat β} (h : MatRel R a b) (i : Nat) : Forall₂ R (a.row i) (b.row i) := by
  obtain ⟨_, hc, hd⟩ := h
  unfold Mat.row
  rw [hc]
  exact forall₂_take _ (forall₂_drop _ hd)

theorem MatRel.col {a : Mat α} {b : Mat β} (h : MatRel R a b) (j : Nat) : Forall₂ R (a.col j) (b.col j) := by
  obtain ⟨hr, hc, hd⟩ := h
  unfold Mat.col
  rw [hr, hc]
  exact forall₂_filterMap_idx hd (fun i => i * b.c + j) _

theorem MatRel.transpose {a : Mat α} {b : Mat β} (h : MatRel R a b) : MatRel R a.transpose b.transpose := by
  obtain ⟨hr, hc, hd⟩ := h
  refine ⟨hc, hr, ?_⟩
  unfold Mat.transpose
  simp only
  rw [hr, hc]
  exact forall₂_flatMap_same (fun j => forall₂_filterMap_idx hd (fun i => i * b.c + j) _) _

theorem MatRel.sub? {a : Mat α} {b : Mat β} (h : MatRel R a b) {r1 r2 c1 c2 : Nat} {x : Mat α}
    (hx : a.sub? r1 r2 c1 c2 = some x) : ∃ y, b.sub? r1 r2 c1 c2 = some y ∧ MatRel R x y := by
  have hr := h.1
  have hc := h.2.1
  unfold Mat.sub? at hx ⊢
  rw [← hr, ← hc]
  split at hx
  · rename_i hcond
    rw [if_pos hcond]
    simp only [Option.some.injEq] at hx
    subst hx
    refine ⟨_, rfl, rfl, rfl, ?_⟩
    exact forall₂_flatMap_same (fun i => forall₂_take _ (forall₂_drop _ (h.row _))) _
  · exact absurd hx (by simp)

theorem Mat.mapM?_rel {S : γ → δ → Prop} {f : α → Option γ} {g : β → Option δ} (hfg : Rel1 R S f g)
    {a : Mat α} {b : Mat β} (h : MatRel R a b) {x : Mat γ} (hx : a.mapM? f = some x) :
    ∃ y, b.mapM? g = some y ∧ MatRel S x y := by
  obtain ⟨hr, hc, hd⟩ := h
  unfold Mat.mapM? at hx ⊢
  simp only [Option.map_eq_some_iff] at hx
  obtain ⟨d, hd1, rfl⟩ := hx
  obtain ⟨d', hd2, hdd⟩ := mapM_rel hfg hd hd1
  exact ⟨_, by rw [hd2]; rfl, hr, hc, hdd⟩

theorem Mat.zip?_rel {S : γ → δ → Prop} {f : α → α → Option γ} {g : β → β → Option δ} (hfg : Rel2 R S f g)
    {a a' : Mat α} {b b' : Mat β} (h : MatRel R a b) (h' : MatRel R a' b') {x : Mat γ}
    (hx : Mat.zip? f a a' = some x) : ∃ y, Mat.zip? g b b' = some y ∧ MatRel S x y := by
  obtain ⟨hr, hc, hd⟩ := h
  obtain ⟨hr', hc', hd'⟩ := h'
  unfold Mat.zip? at hx ⊢
  rw [← hr, ← hc, ← hr', ← hc']
  split at hx
  · rename_i hcond
    rw [if_pos hcond]
    obtain ⟨d, hd1, rfl⟩ := Option.map_eq_some_iff.1 hx
    obtain ⟨d2, hd2, hdd⟩ := mapM_rel (R := fun (p : α × α) (q : β × β) => R p.1 q.1 ∧ R p.2 q.2)
      (f := fun p => f p.1 p.2) (g := fun q => g q.1 q.2)
      (fun _ _ _ hpq hx => hfg _ _ _ _ _ hpq.1 hpq.2 hx) (forall₂_zip_pair hd hd') hd1
    exact ⟨_, congrArg _ hd2, rfl, rfl, hdd⟩
  · cases hx

/-! ### scalars -/

namespace Mat

@[dag_eval] theorem scalar_r (x : α) : (Mat.scalar x).r = 1 := rfl
@[dag_eval] theorem scalar_c (x : α) : (Mat.scalar x).c = 1 := rfl
@[dag_eval] theorem scalar_d (x : α) : (Mat.scalar x).d = [x] := rfl
@[dag_eval] theorem isScalar_scalar (x : α) : (Mat.scalar x).isScalar = true := rfl

@[dag_eval] theorem mapM?_scalar (f : α → Option β) (x : α) :
    (Mat.scalar x).mapM? f = (f x).map Mat.scalar := by
  cases h : f x <;> simp [Mat.mapM?, Mat.scalar, h]

@[dag_eval] theorem zip?_scalar (f : α → α → Option β) (x y : α) :
    Mat.zip? f (Mat.scalar x) (Mat.scalar y) = (f x y).map Mat.scalar := by
  cases h : f x y <;> simp [Mat.zip?, Mat.scalar, h]

end Mat

end Rel

end Ibex
