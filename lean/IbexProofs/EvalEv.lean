/-
  Families of evaluations.  For an algebra `B` on `β`, an index type `T` and a filter `F` on `T`
  (typically `𝓝 p`), `Alg.ev F B` is the algebra of *functions* `T → β` whose operations are the
  operations of `B` applied pointwise, defined when they are defined `F`-eventually.  It is an algebra
  like any other, so naturality (`EvalNat.lean`) applies to relations between values and functions
  ("the dual number `d` is the value and the derivative of `φ`"); and one evaluation in `Alg.ev F B` is,
  `F`-eventually, the family of the evaluations in `B` (`Eval.run_ev`).
-/
import IbexProofs.EvalCert
import Mathlib.Order.Filter.Basic

namespace Ibex
open Ibex List Filter

section Ev
variable {T β : Type}

open Classical in
/-- a family of optional values that is eventually defined is a function (junk value `z` elsewhere) -/
noncomputable def evOpt (F : Filter T) (z : β) (o : T → Option β) : Option (T → β) :=
  if ∀ᶠ t in F, (o t).isSome = true then some (fun t => (o t).getD z) else none

theorem evOpt_some {F : Filter T} {z : β} {o : T → Option β} {ψ : T → β} (h : evOpt F z o = some ψ) :
    ∀ᶠ t in F, o t = some (ψ t) := by
  unfold evOpt at h
  split at h
  · rename_i hev
    simp only [Option.some.injEq] at h
    subst h
    filter_upwards [hev] with t ht
    obtain ⟨y, hy⟩ := Option.isSome_iff_exists.1 ht
    simp [hy]
  · exact absurd h (by simp)

theorem evOpt_of_eventually {F : Filter T} {z : β} {o : T → Option β} {ψ : T → β}
    (h : ∀ᶠ t in F, o t = some (ψ t)) : ∃ ψ', evOpt F z o = some ψ' ∧ ψ' =ᶠ[F] ψ := by
  have hev : ∀ᶠ t in F, (o t).isSome = true := by
    filter_upwards [h] with t ht
    simp [ht]
  refine ⟨fun t => (o t).getD z, by unfold evOpt; rw [if_pos hev], ?_⟩
  filter_upwards [h] with t ht
  simp [ht]

noncomputable def Alg.ev (F : Filter T) (B : Alg β) : Alg (T → β) where
  ofItv I := (B.ofItv I).map fun b _ => b
  zero := fun _ => B.zero
  add φ ψ := evOpt F B.zero fun t => B.add (φ t) (ψ t)
  sub φ ψ := evOpt F B.zero fun t => B.sub (φ t) (ψ t)
  mul φ ψ := evOpt F B.zero fun t => B.mul (φ t) (ψ t)
  div φ ψ := evOpt F B.zero fun t => B.div (φ t) (ψ t)
  max φ ψ := evOpt F B.zero fun t => B.max (φ t) (ψ t)
  min φ ψ := evOpt F B.zero fun t => B.min (φ t) (ψ t)
  un op := (B.un op).map fun f φ => evOpt F B.zero fun t => f (φ t)
  pow φ n := evOpt F B.zero fun t => B.pow (φ t) n
  chi a b c := evOpt F B.zero fun t => B.chi (a t) (b t) (c t)

theorem Alg.ev_un_some {F : Filter T} {B : Alg β} {op : String} {f : β → Option β} (h : B.un op = some f) :
    (Alg.ev F B).un op = some fun φ => evOpt F B.zero fun t => f (φ t) :=
  congrArg (Option.map _) h

theorem Alg.ev_un_eq_none {F : Filter T} {B : Alg β} {op : String} :
    (Alg.ev F B).un op = none ↔ B.un op = none :=
  Option.map_eq_none_iff

def Mat.at (t : T) (m : Mat (T → β)) : Mat β := m.map (· t)

theorem Mat.at_r (t : T) (m : Mat (T → β)) : (m.at t).r = m.r := rfl
theorem Mat.at_c (t : T) (m : Mat (T → β)) : (m.at t).c = m.c := rfl
theorem Mat.at_isScalar (t : T) (m : Mat (T → β)) : (m.at t).isScalar = m.isScalar := rfl

/-! ### structural operations commute with `map f`

`m.map f` is the matrix related to `m` by the graph of `f` (`matRel_graph`), so each lemma below is
`MatRel.row`, `.col`, `.transpose`, `.sub?` or `vecVal_rel` at that relation, read back as an equation
(`matRel_graph_eq`).  They are used at `f = (· t)`: taking the value at `t`. -/

theorem forall₂_graph {γ δ : Type} (f : γ → δ) (l : List γ) : Forall₂ (fun x y => y = f x) l (l.map f) :=
  forall₂_map_right_iff.2 (forall₂_same.2 fun _ _ => rfl)

theorem forall₂_graph_eq {γ δ : Type} {f : γ → δ} {l : List γ} {l' : List δ}
    (h : Forall₂ (fun x y => y = f x) l l') : l' = l.map f := by
  rw [← forall₂_eq_eq_eq, forall₂_map_right_iff]
  exact h.flip

theorem matRel_graph {γ δ : Type} (f : γ → δ) (m : Mat γ) : MatRel (fun x y => y = f x) m (m.map f) :=
  ⟨rfl, rfl, forall₂_graph f m.d⟩

theorem matRel_graph_eq {γ δ : Type} {f : γ → δ} {m : Mat γ} {m' : Mat δ}
    (h : MatRel (fun x y => y = f x) m m') : m' = m.map f := by
  obtain ⟨r, c, d⟩ := m'
  obtain ⟨hr, hc, hd⟩ := h
  simp only at hr hc hd
  subst hr; subst hc
  rw [forall₂_graph_eq hd]
  rfl

theorem Mat.row_map {γ δ : Type} (f : γ → δ) (m : Mat γ) (i : Nat) : (m.map f).row i = (m.row i).map f :=
  forall₂_graph_eq ((matRel_graph f m).row i)

theorem Mat.col_map {γ δ : Type} (f : γ → δ) (m : Mat γ) (j : Nat) : (m.map f).col j = (m.col j).map f :=
  forall₂_graph_eq ((matRel_graph f m).col j)

theorem Mat.transpose_map {γ δ : Type} (f : γ → δ) (m : Mat γ) : (m.map f).transpose = m.transpose.map f :=
  matRel_graph_eq (matRel_graph f m).transpose

theorem Mat.sub?_map {γ δ : Type} (f : γ → δ) {m x : Mat γ} {r1 r2 c1 c2 : Nat}
    (h : m.sub? r1 r2 c1 c2 = some x) : (m.map f).sub? r1 r2 c1 c2 = some (x.map f) := by
  obtain ⟨y, hy, hxy⟩ := (matRel_graph f m).sub? h
  rw [hy, matRel_graph_eq hxy]

theorem forall₂_matRel_graph {γ δ : Type} (f : γ → δ) (ps : List (Mat γ)) :
    Forall₂ (MatRel (fun x y => y = f x)) ps (ps.map (Mat.map f)) :=
  forall₂_map_right_iff.2 (forall₂_same.2 fun m _ => matRel_graph f m)

theorem Eval.vecVal_map {γ δ : Type} (f : γ → δ) {row : Bool} {ps : List (Mat γ)} {x : Mat γ}
    (h : Eval.vecVal row ps = some x) : Eval.vecVal row (ps.map (Mat.map f)) = some (x.map f) := by
  obtain ⟨y, hy, hxy⟩ := Eval.vecVal_rel (forall₂_matRel_graph f ps) h
  rw [hy, matRel_graph_eq hxy]

/-! ### monadic list operations -/

variable {F : Filter T}

theorem mapM_ev {γ γ' δ δ' : Type} {f : γ → Option γ'} {g : T → δ → Option δ'} {a : T → γ → δ}
    {a' : T → γ' → δ'} (h : ∀ x y, f x = some y → ∀ᶠ t in F, g t (a t x) = some (a' t y)) :
    ∀ {l : List γ} {o : List γ'}, l.mapM f = some o →
      ∀ᶠ t in F, (l.map (a t)).mapM (g t) = some (o.map (a' t)) := by
  intro l
  induction l with
  | nil =>
    intro o ho
    simp at ho
    subst ho
    exact Eventually.of_forall fun t => by simp
  | cons x l ih =>
    intro o ho
    simp only [List.mapM_cons, Bind.bind, Pure.pure, Option.bind_eq_some_iff] at ho
    obtain ⟨y, hy, ys, hys, ho⟩ := ho
    simp at ho
    subst ho
    filter_upwards [h _ _ hy, ih hys] with t h1 h2
    simp [List.mapM_cons, h1, h2]

theorem foldlM_ev {γ δ : Type} {f : γ → γ → Option γ} {g : δ → δ → Option δ} {a : T → γ → δ}
    (h : ∀ x y z, f x y = some z → ∀ᶠ t in F, g (a t x) (a t y) = some (a t z)) :
    ∀ {l : List γ} {x0 r : γ}, l.foldlM f x0 = some r →
      ∀ᶠ t in F, (l.map (a t)).foldlM g (a t x0) = some (a t r) := by
  intro l
  induction l with
  | nil =>
    intro x0 r hr
    simp at hr
    subst hr
    exact Eventually.of_forall fun t => by simp
  | cons y l ih =>
    intro x0 r hr
    simp only [List.foldlM_cons, Bind.bind, Option.bind_eq_some_iff] at hr
    obtain ⟨z, hz, hr⟩ := hr
    filter_upwards [h _ _ _ hz, ih hr] with t h1 h2
    simp [List.foldlM_cons, h1, h2]

theorem Mat.mapM?_ev {γ γ' δ δ' : Type} {f : γ → Option γ'} {g : T → δ → Option δ'} {a : T → γ → δ}
    {a' : T → γ' → δ'} (h : ∀ x y, f x = some y → ∀ᶠ t in F, g t (a t x) = some (a' t y))
    {m : Mat γ} {x : Mat γ'} (hx : m.mapM? f = some x) :
    ∀ᶠ t in F, (m.map (a t)).mapM? (g t) = some (x.map (a' t)) := by
  unfold Mat.mapM? at hx
  simp only [Option.map_eq_some_iff] at hx
  obtain ⟨d, hd, rfl⟩ := hx
  filter_upwards [mapM_ev h hd] with t ht
  simp [Mat.mapM?, Mat.map, ht]

theorem Mat.zip?_ev {γ γ' δ δ' : Type} {f : γ → γ → Option γ'} {g : δ → δ → Option δ'} {a : T → γ → δ}
    {a' : T → γ' → δ'} (h : ∀ x y z, f x y = some z → ∀ᶠ t in F, g (a t x) (a t y) = some (a' t z))
    {m m' : Mat γ} {x : Mat γ'} (hx : Mat.zip? f m m' = some x) :
    ∀ᶠ t in F, Mat.zip? g (m.map (a t)) (m'.map (a t)) = some (x.map (a' t)) := by
  unfold Mat.zip? at hx
  split at hx
  · rename_i hcond
    simp only [Option.map_eq_some_iff] at hx
    obtain ⟨d, hd, rfl⟩ := hx
    have := mapM_ev (F := F) (f := fun (p : γ × γ) => f p.1 p.2) (g := fun _ (p : δ × δ) => g p.1 p.2)
      (a := fun t (p : γ × γ) => (a t p.1, a t p.2)) (a' := a') (fun p y hy => h _ _ _ hy) hd
    filter_upwards [this] with t ht
    have hz : List.zip (m.d.map (a t)) (m'.d.map (a t)) =
        (List.zip m.d m'.d).map (fun (p : γ × γ) => (a t p.1, a t p.2)) := by
      rw [List.zip_map]; rfl
    simp only [Mat.zip?, Mat.map, hcond, if_true, hz, ht, Option.map_some]
  · exact absurd hx (by simp)

/-! ### the operators of the evaluator -/

variable {B : Alg β}

namespace Eval

theorem dot_ev {u v : List (T → β)} {x : T → β} (hx : dot (Alg.ev F B) u v = some x) :
    ∀ᶠ t in F, dot B (u.map (· t)) (v.map (· t)) = some (x t) := by
  unfold dot at hx
  simp only [Bind.bind, Option.bind_eq_some_iff] at hx
  obtain ⟨ps, hps, hx⟩ := hx
  have h1 := mapM_ev (F := F) (f := fun (p : (T → β) × (T → β)) => (Alg.ev F B).mul p.1 p.2)
    (g := fun _ (p : β × β) => B.mul p.1 p.2) (a := fun t p => (p.1 t, p.2 t)) (a' := fun t φ => φ t)
    (fun p y hy => evOpt_some hy) hps
  have hz : ∀ t, List.zip (u.map (· t)) (v.map (· t)) =
      (List.zip u v).map (fun (p : (T → β) × (T → β)) => (p.1 t, p.2 t)) := by
    intro t; rw [List.zip_map]; rfl
  cases ps with
  | nil =>
    simp only [Option.some.injEq] at hx
    subst hx
    filter_upwards [h1] with t h1
    simp only [dot, Bind.bind, hz, h1, Option.bind_some, List.map_nil]
    rfl
  | cons p rest =>
    simp only at hx
    have h2 := foldlM_ev (F := F) (f := fun acc y => (Alg.ev F B).add acc y) (g := fun acc y => B.add acc y)
      (a := fun t φ => φ t) (fun x y z hz => evOpt_some hz) hx
    filter_upwards [h1, h2] with t h1 h2
    simp only [dot, Bind.bind, hz, h1, Option.bind_some, List.map_cons, h2]

theorem matMul_ev {a b x : Mat (T → β)} (hx : matMul (Alg.ev F B) a b = some x) :
    ∀ᶠ t in F, matMul B (a.at t) (b.at t) = some (x.at t) := by
  unfold matMul at hx
  split at hx
  · exact absurd hx (by simp)
  · rename_i hcond
    simp only [Bind.bind, Pure.pure, Option.bind_eq_some_iff, Option.some.injEq] at hx
    obtain ⟨d, hd, rfl⟩ := hx
    have h1 := mapM_ev (F := F) (f := fun (ij : Nat × Nat) => dot (Alg.ev F B) (a.row ij.1) (b.col ij.2))
      (g := fun t (ij : Nat × Nat) => dot B ((a.at t).row ij.1) ((b.at t).col ij.2))
      (a := fun _ ij => ij) (a' := fun t φ => φ t)
      (fun ij y hy => by
        filter_upwards [dot_ev hy] with t ht
        simp only [Mat.at, Mat.row_map, Mat.col_map]
        exact ht) hd
    filter_upwards [h1] with t h1
    simp only [List.map_id'] at h1
    have e1 : (a.at t).c = a.c := rfl
    have e2 : (b.at t).r = b.r := rfl
    have e3 : (a.at t).r = a.r := rfl
    have e4 : (b.at t).c = b.c := rfl
    simp only [matMul, e1, e2, e3, e4, hcond, Bind.bind, Pure.pure, h1, Option.bind_some]
    rfl

theorem mulVal_ev {a b x : Mat (T → β)} (hx : mulVal (Alg.ev F B) a b = some x) :
    ∀ᶠ t in F, mulVal B (a.at t) (b.at t) = some (x.at t) := by
  unfold mulVal at hx
  have es : ∀ t, (a.at t).isScalar = a.isScalar := fun _ => rfl
  split at hx
  · rename_i hs
    split at hx
    · rename_i s hs1
      have := Mat.mapM?_ev (F := F) (f := fun u => (Alg.ev F B).mul s u) (g := fun t u => B.mul (s t) u)
        (a := fun t φ => φ t) (a' := fun t φ => φ t) (fun u y hy => evOpt_some hy) hx
      filter_upwards [this] with t ht
      have hd : (a.at t).d = [s t] := by simp [Mat.at, Mat.map, hs1]
      simp only [mulVal, es, hs, if_true, hd]
      exact ht
    · exact absurd hx (by simp)
  · rename_i hs
    filter_upwards [matMul_ev hx] with t ht
    simp only [mulVal, es, hs]
    exact ht

theorem binVal_ev (op : String) {a b x : Mat (T → β)} (hx : binVal (Alg.ev F B) op a b = some x) :
    ∀ᶠ t in F, binVal B op (a.at t) (b.at t) = some (x.at t) := by
  have esa : ∀ t, (a.at t).isScalar = a.isScalar := fun _ => rfl
  have esb : ∀ t, (b.at t).isScalar = b.isScalar := fun _ => rfl
  unfold binVal at hx
  split at hx
  · filter_upwards [Mat.zip?_ev (F := F) (g := B.add) (a := fun t φ => φ t) (a' := fun t φ => φ t)
      (fun x y z hz => evOpt_some hz) hx] with t ht
    simp only [binVal]
    exact ht
  · filter_upwards [Mat.zip?_ev (F := F) (g := B.sub) (a := fun t φ => φ t) (a' := fun t φ => φ t)
      (fun x y z hz => evOpt_some hz) hx] with t ht
    simp only [binVal]
    exact ht
  · filter_upwards [mulVal_ev hx] with t ht
    simp only [binVal]
    exact ht
  · split at hx
    · rename_i hs
      filter_upwards [Mat.zip?_ev (F := F) (g := B.div) (a := fun t φ => φ t) (a' := fun t φ => φ t)
        (fun x y z hz => evOpt_some hz) hx] with t ht
      simp only [binVal, esa, esb, hs, if_true]
      exact ht
    · exact absurd hx (by simp)
  · split at hx
    · rename_i hs
      filter_upwards [Mat.zip?_ev (F := F) (g := B.max) (a := fun t φ => φ t) (a' := fun t φ => φ t)
        (fun x y z hz => evOpt_some hz) hx] with t ht
      simp only [binVal, esa, esb, hs, if_true]
      exact ht
    · exact absurd hx (by simp)
  · split at hx
    · rename_i hs
      filter_upwards [Mat.zip?_ev (F := F) (g := B.min) (a := fun t φ => φ t) (a' := fun t φ => φ t)
        (fun x y z hz => evOpt_some hz) hx] with t ht
      simp only [binVal, esa, esb, hs, if_true]
      exact ht
    · exact absurd hx (by simp)
  · exact absurd hx (by simp)

theorem ev_un {op : String} {f : (T → β) → Option (T → β)} (hf : (Alg.ev F B).un op = some f) :
    ∃ g, B.un op = some g ∧ ∀ φ ψ, f φ = some ψ → ∀ᶠ t in F, g (φ t) = some (ψ t) := by
  simp only [Alg.ev, Option.map_eq_some_iff] at hf
  obtain ⟨g, hg, rfl⟩ := hf
  exact ⟨g, hg, fun φ ψ h => evOpt_some h⟩

theorem unVal_ev (op : String) {a x : Mat (T → β)} (hx : unVal (Alg.ev F B) op a = some x) :
    ∀ᶠ t in F, unVal B op (a.at t) = some (x.at t) := by
  have esa : ∀ t, (a.at t).isScalar = a.isScalar := fun _ => rfl
  unfold unVal at hx
  split at hx
  · simp only [Option.some.injEq] at hx
    subst hx
    exact Eventually.of_forall fun t => by simp only [unVal, Mat.at, Mat.transpose_map]
  · simp only [Option.bind_eq_some_iff] at hx
    obtain ⟨f, hf, hx⟩ := hx
    obtain ⟨g, hg, hfg⟩ := ev_un hf
    filter_upwards [Mat.mapM?_ev (F := F) (g := fun _ => g) (a := fun t φ => φ t) (a' := fun t φ => φ t)
      hfg hx] with t ht
    simp only [unVal, hg, Option.bind_some]
    exact ht
  · rename_i hnt hnm
    split at hx
    · rename_i hs
      simp only [Option.bind_eq_some_iff] at hx
      obtain ⟨f, hf, hx⟩ := hx
      obtain ⟨g, hg, hfg⟩ := ev_un hf
      filter_upwards [Mat.mapM?_ev (F := F) (g := fun _ => g) (a := fun t φ => φ t) (a' := fun t φ => φ t)
        hfg hx] with t ht
      unfold unVal
      split
      · exact absurd rfl hnt
      · exact absurd rfl hnm
      · simp only [esa, hs, if_true, hg, Option.bind_some]
        exact ht
    · exact absurd hx (by simp)

def CallEv (F : Filter T) (cE : Nat → List (Mat (T → β)) → Option (Mat (T → β)))
    (cB : Nat → List (Mat β) → Option (Mat β)) : Prop :=
  ∀ f as x, cE f as = some x → ∀ᶠ t in F, cB f (as.map (Mat.at t)) = some (x.at t)

theorem getElem?_map_at {vals : Array (Mat (T → β))} (a : Nat) (v : Mat (T → β)) (hv : vals[a]? = some v)
    (t : T) : (vals.map (Mat.at t))[a]? = some (v.at t) := by
  rw [Array.getElem?_map, hv]; rfl

theorem args_at {vals : Array (Mat (T → β))} (t : T) {as : List Nat} {ms : List (Mat (T → β))}
    (h : as.mapM (fun i => vals[i]?) = some ms) :
    as.mapM (fun i => (vals.map (Mat.at t))[i]?) = some (ms.map (Mat.at t)) := by
  induction as generalizing ms with
  | nil => simp at h; subst h; simp
  | cons i as ih =>
    simp only [List.mapM_cons, Bind.bind, Pure.pure, Option.bind_eq_some_iff] at h
    obtain ⟨y, hy, ys, hys, h⟩ := h
    simp at h
    subst h
    simp only [List.mapM_cons, Bind.bind, Pure.pure, getElem?_map_at i y hy t, Option.bind_some, ih hys,
      List.map_cons]

/-- `Option.bind` in the function algebra is eventually the family of the binds, when the first
    part is so at every index and the second eventually: the shape of a node whose arguments are
    looked up first -/
theorem bind_ev {ι ι' γ γ' : Type} {o : Option ι} {f : ι → Option γ} {o' : T → Option ι'}
    {g : T → ι' → Option γ'} {a : T → ι → ι'} {a' : T → γ → γ'}
    (ho : ∀ i, o = some i → ∀ t, o' t = some (a t i))
    (hfg : ∀ i x, f i = some x → ∀ᶠ t in F, g t (a t i) = some (a' t x)) {x : γ}
    (hx : o.bind f = some x) : ∀ᶠ t in F, (o' t).bind (g t) = some (a' t x) := by
  obtain ⟨i, hi, hx⟩ := Option.bind_eq_some_iff.1 hx
  filter_upwards [hfg i x hx] with t ht
  rw [ho i hi t]
  exact ht

theorem nodeVal_ev {envφ : List (T → β)} {cE : Nat → List (Mat (T → β)) → Option (Mat (T → β))}
    {cB : Nat → List (Mat β) → Option (Mat β)} (hc : CallEv F cE cB)
    {vals : Array (Mat (T → β))} (n : Node) {x : Mat (T → β)}
    (hx : nodeVal (Alg.ev F B) envφ cE vals n = some x) :
    ∀ᶠ t in F, nodeVal B (envφ.map (· t)) cB (vals.map (Mat.at t)) n = some (x.at t) := by
  obtain ⟨k, r, c⟩ := n
  cases k with
  | var off =>
    simp only [nodeVal] at hx
    split at hx
    · rename_i hl
      cases hx
      refine Eventually.of_forall fun t => ?_
      simp only [nodeVal, ← List.map_drop, ← List.map_take, List.length_map, hl, if_true]
      rfl
    · cases hx
  | const vs =>
    obtain ⟨d, hd, hx⟩ := Option.bind_eq_some_iff.1 hx
    split at hx
    · rename_i hl
      cases hx
      have := mapM_ev (F := F) (f := (Alg.ev F B).ofItv) (g := fun _ => B.ofItv) (a := fun _ I => I)
        (a' := fun t φ => φ t) (fun I y hy => by
          obtain ⟨b, hb, rfl⟩ := Option.map_eq_some_iff.1 hy
          exact Eventually.of_forall fun t => hb) hd
      filter_upwards [this] with t ht
      simp only [List.map_id'] at ht
      simp only [nodeVal, ht, Option.bind_some, List.length_map, hl, if_true]
      rfl
    · cases hx
  | un op a =>
    exact bind_ev (a := Mat.at) (a' := Mat.at) (getElem?_map_at a) (fun va x hx => unVal_ev op hx) hx
  | bin op a b =>
    exact bind_ev (a := Mat.at) (a' := Mat.at) (getElem?_map_at a) (fun va x hx =>
      bind_ev (a := Mat.at) (a' := Mat.at) (getElem?_map_at b) (fun vb x hx => binVal_ev op hx) hx) hx
  | pow a k =>
    refine bind_ev (a := Mat.at) (a' := Mat.at) (getElem?_map_at a) (fun va x hx => ?_) hx
    split at hx
    · rename_i hs
      filter_upwards [Mat.mapM?_ev (F := F) (g := fun _ u => B.pow u k) (a := fun t φ => φ t)
        (a' := fun t φ => φ t) (fun u y hy => evOpt_some hy) hx] with t ht
      rw [if_pos ((Mat.at_isScalar t va).trans hs)]
      exact ht
    · cases hx
  | idx a r1 r2 c1 c2 =>
    exact bind_ev (a := Mat.at) (a' := Mat.at) (getElem?_map_at a)
      (fun va x hx => .of_forall fun t => Mat.sub?_map _ hx) hx
  | vec row as =>
    exact bind_ev (a := fun t => List.map (Mat.at t)) (a' := Mat.at) (fun ms hms t => args_at t hms)
      (fun ms x hx => .of_forall fun t => vecVal_map _ hx) hx
  | chi a b c' =>
    refine bind_ev (a := Mat.at) (a' := Mat.at) (getElem?_map_at a) (fun va x hx =>
      bind_ev (a := Mat.at) (a' := Mat.at) (getElem?_map_at b) (fun vb x hx =>
        bind_ev (a := Mat.at) (a' := Mat.at) (getElem?_map_at c') (fun vc x hx => ?_) hx) hx) hx
    split at hx
    · rename_i x1 y1 z1 e1 e2 e3
      obtain ⟨s, hs, rfl⟩ := Option.map_eq_some_iff.1 hx
      filter_upwards [evOpt_some hs] with t ht
      have d1 : (va.at t).d = [x1 t] := by simp [Mat.at, Mat.map, e1]
      have d2 : (vb.at t).d = [y1 t] := by simp [Mat.at, Mat.map, e2]
      have d3 : (vc.at t).d = [z1 t] := by simp [Mat.at, Mat.map, e3]
      simp only [d1, d2, d3, ht, Option.map_some]
      rfl
    · cases hx
  | apply f as =>
    exact bind_ev (a := fun t => List.map (Mat.at t)) (a' := Mat.at) (fun ms hms t => args_at t hms)
      (fun ms x hx => hc _ _ _ hx) hx

theorem fold_ev {envφ : List (T → β)} {cE : Nat → List (Mat (T → β)) → Option (Mat (T → β))}
    {cB : Nat → List (Mat β) → Option (Mat β)} (hc : CallEv F cE cB) :
    ∀ (ns : List Node) {v r : Array (Mat (T → β))}, ns.foldlM (step (Alg.ev F B) envφ cE) v = some r →
      ∀ᶠ t in F, ns.foldlM (step B (envφ.map (· t)) cB) (v.map (Mat.at t)) = some (r.map (Mat.at t)) := by
  intro ns
  induction ns with
  | nil =>
    intro v r h
    simp at h
    subst h
    exact Eventually.of_forall fun t => by simp
  | cons n ns ih =>
    intro v r h
    simp only [List.foldlM_cons, Bind.bind, Option.bind_eq_some_iff] at h
    obtain ⟨w, hw, h⟩ := h
    obtain ⟨x, hx, hxr, hxc, rfl⟩ := step_eq_some hw
    filter_upwards [nodeVal_ev hc n hx, ih h] with t h1 h2
    have hstep := step_of_nodeVal h1 ((Mat.at_r t x).trans hxr) ((Mat.at_c t x).trans hxc)
    simp only [List.foldlM_cons, Bind.bind, hstep, Option.bind_some]
    rw [Array.map_push] at h2
    exact h2

theorem run_ev {envφ : List (T → β)} {cE : Nat → List (Mat (T → β)) → Option (Mat (T → β))}
    {cB : Nat → List (Mat β) → Option (Mat β)} (hc : CallEv F cE cB) {dag : Dag}
    {r : Array (Mat (T → β))} (h : run (Alg.ev F B) envφ cE dag = some r) :
    ∀ᶠ t in F, run B (envφ.map (· t)) cB dag = some (r.map (Mat.at t)) := by
  rw [run_eq] at h
  filter_upwards [fold_ev hc _ h] with t ht
  rw [run_eq]
  simpa using ht

theorem root_ev {envφ : List (T → β)} {cE : Nat → List (Mat (T → β)) → Option (Mat (T → β))}
    {cB : Nat → List (Mat β) → Option (Mat β)} (hc : CallEv F cE cB) {dag : Dag}
    {x : Mat (T → β)} (h : root (Alg.ev F B) envφ cE dag = some x) :
    ∀ᶠ t in F, root B (envφ.map (· t)) cB dag = some (x.at t) := by
  unfold root at h
  simp only [Option.bind_eq_some_iff] at h
  obtain ⟨r, hr, h⟩ := h
  filter_upwards [run_ev hc hr] with t ht
  simp only [root, ht, Option.bind_some]
  rw [Array.back?_eq_getElem?] at h ⊢
  simp only [Array.size_map, Array.getElem?_map, h, Option.map_some]

theorem buildCalls_ev (funs : List Dag) : CallEv F (buildCalls (Alg.ev F B) funs) (buildCalls B funs) := by
  refine buildCalls_induction funs (fun f as x hx => nomatch hx) fun d _ k t1 t2 ih => ?_
  intro f as x hx
  dsimp only at hx ⊢
  by_cases hf : (f == k) = true
  · rw [if_pos hf] at hx
    filter_upwards [root_ev ih hx] with t ht
    rw [if_pos hf]
    have : (as.map (Mat.at t)).flatMap (·.d) = (as.flatMap (·.d)).map (· t) := by
      simp only [List.flatMap_map, List.map_flatMap]
      rfl
    rw [this]
    exact ht
  · rw [if_neg hf] at hx
    filter_upwards [ih _ _ _ hx] with t ht
    rw [if_neg hf]
    exact ht

end Eval

end Ev
end Ibex
