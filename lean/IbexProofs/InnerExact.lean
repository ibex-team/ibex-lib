/-
  C14 — the exact range of `+ − * sqr /` over BOUNDED intervals is the hull of the corner values
  computed without rounding (`Rnd.exact`): every value between the bounds is attained
  (intermediate value theorem on the box, the bounds being values at corners).  Together with the
  enclosure lemmas of `ArithG.lean` this gives `z ∈ hull ↔ z is a value`, i.e. the operators
  `Itv.addG Rnd.exact …` used by the checkers ARE the exact ranges.  (For unbounded intervals the
  range need not be closed — e.g. `[1,2]/[1,+∞) = (0,2]` — and the forward checker works with
  explicit witnesses instead, see `Inner.lean`.)
-/
import IbexProofs.Inner

namespace Ibex
namespace Inner
open Ibex

/-- the bounded interval `[a, b]` (non-empty when `a ≤ b`) -/
def bnd (a b : ℚ) : Itv := .mk (.fin a) (.fin b)

theorem mem_bnd {a b : ℚ} {x : ℝ} : x ∈ bnd a b ↔ (a : ℝ) ≤ x ∧ x ≤ (b : ℝ) := by
  simp [bnd, Itv.mem_mk]

theorem left_mem_bnd {a b : ℚ} (h : a ≤ b) : ((a : ℝ)) ∈ bnd a b :=
  mem_bnd.2 ⟨le_refl _, by exact_mod_cast h⟩
theorem right_mem_bnd {a b : ℚ} (h : a ≤ b) : ((b : ℝ)) ∈ bnd a b :=
  mem_bnd.2 ⟨by exact_mod_cast h, le_refl _⟩

/-- an operator other than the division takes on `X × Y` every value between its values at two
    points (for the theorems below: the two corners that give the bounds) -/
theorem range_ivt {op : Op2} (hop : op ≠ .divp) {X Y : Itv} {z : ℝ}
    (hlow : ∃ x y : ℝ, x ∈ X ∧ y ∈ Y ∧ op.evalR x y ≤ z) (hupp : ∃ x y : ℝ, x ∈ X ∧ y ∈ Y ∧ z ≤ op.evalR x y) :
    ∃ x y : ℝ, x ∈ X ∧ y ∈ Y ∧ op.evalR x y = z := by
  obtain ⟨x₁, y₁, hx₁, hy₁, h1⟩ := hlow
  obtain ⟨x₂, y₂, hx₂, hy₂, h2⟩ := hupp
  obtain ⟨p, hp, hv⟩ := reg_ivt (op := op) (p1 := (x₁, y₁)) (p2 := (x₂, y₂))
    ⟨hx₁, hy₁, fun e => absurd e hop⟩ ⟨hx₂, hy₂, fun e => absurd e hop⟩ h1 h2
  exact ⟨p.1, p.2, hp.1, hp.2.1, hv⟩

theorem range_exact_add {a b c d : ℚ} (hab : a ≤ b) (hcd : c ≤ d) (z : ℝ) :
    z ∈ Itv.addG Rnd.exact (bnd a b) (bnd c d) ↔ ∃ x y : ℝ, x ∈ bnd a b ∧ y ∈ bnd c d ∧ x + y = z := by
  constructor
  · intro hz
    have hz' : ((a + c : ℚ) : ℝ) ≤ z ∧ z ≤ ((b + d : ℚ) : ℝ) := mem_bnd.1 hz
    push_cast at hz'
    exact range_ivt (op := .add) (by simp) ⟨a, c, left_mem_bnd hab, left_mem_bnd hcd, hz'.1⟩
      ⟨b, d, right_mem_bnd hab, right_mem_bnd hcd, hz'.2⟩
  · rintro ⟨x, y, hx, hy, rfl⟩
    exact Itv.addG_encl Rnd.exact_sound hx hy

theorem range_exact_sub {a b c d : ℚ} (hab : a ≤ b) (hcd : c ≤ d) (z : ℝ) :
    z ∈ Itv.subG Rnd.exact (bnd a b) (bnd c d) ↔ ∃ x y : ℝ, x ∈ bnd a b ∧ y ∈ bnd c d ∧ x - y = z := by
  constructor
  · intro hz
    have hz' : ((a + -d : ℚ) : ℝ) ≤ z ∧ z ≤ ((b + -c : ℚ) : ℝ) := mem_bnd.1 hz
    push_cast at hz'
    rw [← sub_eq_add_neg, ← sub_eq_add_neg] at hz'
    exact range_ivt (op := .sub) (by simp) ⟨a, d, left_mem_bnd hab, right_mem_bnd hcd, hz'.1⟩
      ⟨b, c, right_mem_bnd hab, left_mem_bnd hcd, hz'.2⟩
  · rintro ⟨x, y, hx, hy, rfl⟩
    exact Itv.subG_encl Rnd.exact_sound hx hy

/-- **multiplication**: the bounds are the least and the greatest of the four corner products -/
theorem range_exact_mul {a b c d : ℚ} (hab : a ≤ b) (hcd : c ≤ d) (z : ℝ) :
    z ∈ Itv.mulG Rnd.exact (bnd a b) (bnd c d) ↔ ∃ x y : ℝ, x ∈ bnd a b ∧ y ∈ bnd c d ∧ x * y = z := by
  constructor
  · intro hz
    simp only [Itv.mulG, bnd, Rnd.exact, Itv.mulExt, Itv.mem_mk, Itv.min4, Itv.max4, Ext.toE_min, Ext.toE_max,
      Ext.toE_fin, min_le_iff, le_max_iff, EReal.coe_le_coe_iff] at hz
    push_cast at hz
    have A := left_mem_bnd hab; have B := right_mem_bnd hab
    have C := left_mem_bnd hcd; have D := right_mem_bnd hcd
    refine range_ivt (op := .mul) (by simp) ?_ ?_
    · rcases hz.1 with (h | h) | (h | h)
      exacts [⟨_, _, A, C, h⟩, ⟨_, _, A, D, h⟩, ⟨_, _, B, C, h⟩, ⟨_, _, B, D, h⟩]
    · rcases hz.2 with (h | h) | (h | h)
      exacts [⟨_, _, A, C, h⟩, ⟨_, _, A, D, h⟩, ⟨_, _, B, C, h⟩, ⟨_, _, B, D, h⟩]
  · rintro ⟨x, y, hx, hy, rfl⟩
    exact Itv.mulG_encl Rnd.exact_sound hx hy

theorem range_exact_sqr {a b : ℚ} (hab : a ≤ b) (z : ℝ) :
    z ∈ Itv.sqrG Rnd.exact (bnd a b) ↔ ∃ x : ℝ, x ∈ bnd a b ∧ x * x = z := by
  constructor
  · intro hz
    have A := left_mem_bnd hab; have B := right_mem_bnd hab
    simp only [Itv.sqrG, bnd, Rnd.exact, Itv.mulExt] at hz
    split at hz
    · -- 0 ≤ a
      simp only [Itv.mem_mk, Ext.toE_fin, EReal.coe_le_coe_iff] at hz
      push_cast at hz
      exact sqr_ivt ⟨_, A, hz.1⟩ ⟨_, B, hz.2⟩
    · split at hz
      · simp only [Itv.mem_mk, Ext.toE_fin, EReal.coe_le_coe_iff] at hz
        push_cast at hz
        exact sqr_ivt ⟨_, B, hz.1⟩ ⟨_, A, hz.2⟩
      · rename_i h1 h2
        -- a < 0 < b : 0 is in the interval
        simp only [Ext.le_iff, Ext.toE_fin, EReal.coe_le_coe_iff, not_le] at h1 h2
        have Z0 : (0 : ℝ) ∈ bnd a b := mem_bnd.2 ⟨by exact_mod_cast h1.le, by exact_mod_cast h2.le⟩
        simp only [Itv.mem_mk, Ext.toE_max, Ext.toE_fin, le_max_iff, EReal.coe_le_coe_iff] at hz
        push_cast at hz
        have hlow : ∃ x : ℝ, x ∈ bnd a b ∧ x * x ≤ z := ⟨0, Z0, by simpa using hz.1⟩
        rcases hz.2 with h | h
        · exact sqr_ivt hlow ⟨_, A, h⟩
        · exact sqr_ivt hlow ⟨_, B, h⟩
  · rintro ⟨x, hx, rfl⟩
    exact Itv.sqrG_encl Rnd.exact_sound hx

theorem range_exact_div_pos {a b c d : ℚ} (hab : a ≤ b) (hc : 0 < c) (hcd : c ≤ d) (z : ℝ) :
    z ∈ Itv.divG Rnd.exact (bnd a b) (bnd c d) ↔
      ∃ x y : ℝ, x ∈ bnd a b ∧ y ∈ bnd c d ∧ y ≠ 0 ∧ x / y = z := by
  have hcpos : (0 : ℝ) < (c : ℝ) := by exact_mod_cast hc
  constructor
  · intro hz
    have A := left_mem_bnd hab; have B := right_mem_bnd hab
    have C := left_mem_bnd hcd; have D := right_mem_bnd hcd
    have regp : ∀ {x y : ℝ}, x ∈ bnd a b → y ∈ bnd c d → (x, y) ∈ Reg .divp (bnd a b) (bnd c d) :=
      fun hx hy => ⟨hx, hy, fun _ => lt_of_lt_of_le hcpos (mem_bnd.1 hy).1⟩
    have hlt : Ext.lt (.fin 0) (.fin c) = true := (Ext.lt_iff _ _).2 (by simpa using hcpos)
    have hne : ((Ext.fin c == Ext.fin 0) && (Ext.fin d == Ext.fin 0)) = false := by
      have : c ≠ 0 := ne_of_gt hc
      simp [this]
    simp only [Itv.divG, bnd, hne, hlt, Bool.false_eq_true, ↓reduceIte, Itv.divPosG, Rnd.exact, Itv.divExt,
      Itv.mem_mk] at hz
    obtain ⟨hlo, hhi⟩ := hz
    have hlow : ∃ p ∈ Reg .divp (bnd a b) (bnd c d), Op2.evalR .divp p.1 p.2 ≤ z := by
      split at hlo <;> simp only [Ext.toE_fin, EReal.coe_le_coe_iff] at hlo <;> push_cast at hlo
      · exact ⟨(_, _), regp A D, hlo⟩
      · exact ⟨(_, _), regp A C, hlo⟩
    have hupp : ∃ p ∈ Reg .divp (bnd a b) (bnd c d), z ≤ Op2.evalR .divp p.1 p.2 := by
      split at hhi <;> simp only [Ext.toE_fin, EReal.coe_le_coe_iff] at hhi <;> push_cast at hhi
      · exact ⟨(_, _), regp B C, hhi⟩
      · exact ⟨(_, _), regp B D, hhi⟩
    obtain ⟨p1, hp1, h1⟩ := hlow
    obtain ⟨p2, hp2, h2⟩ := hupp
    obtain ⟨p, hp, hv⟩ := reg_ivt hp1 hp2 h1 h2
    exact ⟨p.1, p.2, hp.1, hp.2.1, ne_of_gt (hp.2.2 rfl), hv⟩
  · rintro ⟨x, y, hx, hy, hy0, rfl⟩
    exact Itv.divG_encl Rnd.exact_sound hx hy hy0

end Inner
end Ibex
