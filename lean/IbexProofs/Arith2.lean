/-
  Enclosure lemmas for the operators that exist only in binary64 form: abs, max/min, sign,
  floor/ceil/integer, square root, integer powers; and emptiness characterisations.
-/
import IbexProofs.Arith
import Mathlib.Data.Sign.Basic
import Mathlib.Analysis.Real.Sqrt
import Mathlib.Tactic.FieldSimp

namespace Ibex
open Ibex

theorem Ext.beq_iff (a b : Ext) : (a == b) = true ↔ a = b := by simp

/-! ### absolute value -/

theorem Itv.abs_encl {X : Itv} {x : ℝ} (hx : x ∈ X) : |x| ∈ Itv.abs X := by
  cases X with
  | empty => exact absurd hx (Itv.not_mem_empty x)
  | mk a b =>
  have hax := hx.1
  have hxb := hx.2
  simp only [Itv.abs]
  split_ifs with h1 h2
  · rw [Ext.le_iff, Ext.toE_zero] at h1
    have hx0 : (0 : ℝ) ≤ x := by exact_mod_cast le_trans h1 hax
    rw [abs_of_nonneg hx0]; exact hx
  · rw [Ext.le_iff, Ext.toE_zero] at h2
    have hx0 : x ≤ (0 : ℝ) := by exact_mod_cast le_trans hxb h2
    rw [abs_of_nonpos hx0]; exact Itv.neg_encl hx
  · refine ⟨?_, ?_⟩
    · rw [Ext.toE_zero]; exact_mod_cast abs_nonneg x
    · rw [Ext.toE_max, Ext.toE_neg]
      rcases le_total 0 x with hx0 | hx0
      · rw [abs_of_nonneg hx0]; exact le_trans hxb (le_max_right _ _)
      · rw [abs_of_nonpos hx0, EReal.coe_neg]
        exact le_trans (EReal.neg_le_neg_iff.2 hax) (le_max_left _ _)

/-! ### max, min -/

theorem Itv.max_encl {X Y : Itv} {x y : ℝ} (hx : x ∈ X) (hy : y ∈ Y) :
    Max.max x y ∈ Itv.max X Y := by
  cases X with
  | empty => exact absurd hx (Itv.not_mem_empty x)
  | mk a b =>
  cases Y with
  | empty => exact absurd hy (Itv.not_mem_empty y)
  | mk c d =>
  refine ⟨?_, ?_⟩
  · rw [Ext.toE_max, EReal.coe_strictMono.monotone.map_max]; exact max_le_max hx.1 hy.1
  · rw [Ext.toE_max, EReal.coe_strictMono.monotone.map_max]; exact max_le_max hx.2 hy.2

theorem Itv.min_encl {X Y : Itv} {x y : ℝ} (hx : x ∈ X) (hy : y ∈ Y) :
    Min.min x y ∈ Itv.min X Y := by
  cases X with
  | empty => exact absurd hx (Itv.not_mem_empty x)
  | mk a b =>
  cases Y with
  | empty => exact absurd hy (Itv.not_mem_empty y)
  | mk c d =>
  refine ⟨?_, ?_⟩
  · rw [Ext.toE_min, EReal.coe_strictMono.monotone.map_min]; exact min_le_min hx.1 hy.1
  · rw [Ext.toE_min, EReal.coe_strictMono.monotone.map_min]; exact min_le_min hx.2 hy.2

/-! ### sign -/

theorem sign_cast_ge (x : ℝ) : (-1 : ℝ) ≤ (SignType.sign x : ℝ) := by
  rcases lt_trichotomy x 0 with h | h | h
  · simp [sign_neg h]
  · simp [h]
  · simp [sign_pos h]

theorem sign_cast_le (x : ℝ) : (SignType.sign x : ℝ) ≤ 1 := by
  rcases lt_trichotomy x 0 with h | h | h
  · simp [sign_neg h]
  · simp [h]
  · simp [sign_pos h]

theorem sign_cast_nonneg {x : ℝ} (hx : 0 ≤ x) : (0 : ℝ) ≤ (SignType.sign x : ℝ) := by
  rcases eq_or_lt_of_le hx with h | h
  · simp [← h]
  · simp [sign_pos h]

theorem sign_cast_nonpos {x : ℝ} (hx : x ≤ 0) : (SignType.sign x : ℝ) ≤ 0 := by
  rcases eq_or_lt_of_le hx with h | h
  · simp [h]
  · simp [sign_neg h]

theorem Itv.sign_encl {X : Itv} {x : ℝ} (hx : x ∈ X) : (SignType.sign x : ℝ) ∈ Itv.sign X := by
  cases X with
  | empty => exact absurd hx (Itv.not_mem_empty x)
  | mk a b =>
  obtain ⟨hax, hxb⟩ := hx
  simp only [Itv.sign]
  by_cases h1 : Ext.lt b (Ext.fin 0) = true
  · rw [if_pos h1]
    rw [Ext.lt_iff, Ext.toE_zero] at h1
    have hx0 : x < 0 := by exact_mod_cast lt_of_le_of_lt hxb h1
    simp [sign_neg hx0, Itv.point, Itv.mem_mk]
  rw [if_neg h1]
  by_cases h2 : Ext.lt (Ext.fin 0) a = true
  · rw [if_pos h2]
    rw [Ext.lt_iff, Ext.toE_zero] at h2
    have hx0 : 0 < x := by exact_mod_cast lt_of_lt_of_le h2 hax
    simp [sign_pos hx0, Itv.point, Itv.mem_mk]
  rw [if_neg h2]
  refine ⟨?_, ?_⟩
  · split_ifs with h3
    · simp only [Ext.toE_fin, EReal.coe_le_coe_iff]
      push_cast; exact sign_cast_ge x
    · rw [Ext.lt_iff, Ext.toE_zero, not_lt] at h3
      have hx0 : 0 ≤ x := by exact_mod_cast le_trans h3 hax
      simp only [Ext.toE_fin, EReal.coe_le_coe_iff]
      push_cast; exact sign_cast_nonneg hx0
  · split_ifs with h3
    · simp only [Ext.toE_fin, EReal.coe_le_coe_iff]
      push_cast; exact sign_cast_le x
    · rw [Ext.lt_iff, Ext.toE_zero, not_lt] at h3
      have hx0 : x ≤ 0 := by exact_mod_cast le_trans hxb h3
      simp only [Ext.toE_fin, EReal.coe_le_coe_iff]
      push_cast; exact sign_cast_nonpos hx0

/-! ### floor, ceil, integer -/

theorem rat_floor_eq (q : ℚ) : ⌊q⌋ = q.floor := rfl

theorem rat_ceil_eq (q : ℚ) : ⌈q⌉ = q.ceil := by
  rw [Rat.ceil_eq_neg_floor_neg]; rfl

theorem floorExt_le (a : Ext) (x : ℝ) (h : a.toE ≤ x) : (Itv.floorExt a).toE ≤ (((⌊x⌋ : ℤ) : ℝ) : EReal) := by
  cases a with
  | ninf => simp [Itv.floorExt]
  | pinf => simp at h
  | fin q =>
    simp only [Ext.toE_fin, EReal.coe_le_coe_iff] at h
    simp only [Itv.floorExt, Ext.toE_fin, EReal.coe_le_coe_iff]
    have := Int.floor_le_floor h
    rw [Rat.floor_cast, rat_floor_eq] at this
    push_cast; exact_mod_cast this

theorem le_floorExt (b : Ext) (x : ℝ) (h : (x : EReal) ≤ b.toE) : (((⌊x⌋ : ℤ) : ℝ) : EReal) ≤ (Itv.floorExt b).toE := by
  cases b with
  | pinf => simp [Itv.floorExt]
  | ninf => simp at h
  | fin q =>
    simp only [Ext.toE_fin, EReal.coe_le_coe_iff] at h
    simp only [Itv.floorExt, Ext.toE_fin, EReal.coe_le_coe_iff]
    have := Int.floor_le_floor h
    rw [Rat.floor_cast, rat_floor_eq] at this
    push_cast; exact_mod_cast this

theorem ceilExt_le (a : Ext) (x : ℝ) (h : a.toE ≤ x) : (Itv.ceilExt a).toE ≤ (((⌈x⌉ : ℤ) : ℝ) : EReal) := by
  cases a with
  | ninf => simp [Itv.ceilExt]
  | pinf => simp at h
  | fin q =>
    simp only [Ext.toE_fin, EReal.coe_le_coe_iff] at h
    simp only [Itv.ceilExt, Ext.toE_fin, EReal.coe_le_coe_iff]
    have := Int.ceil_le_ceil h
    rw [Rat.ceil_cast, rat_ceil_eq] at this
    push_cast; exact_mod_cast this

theorem le_ceilExt (b : Ext) (x : ℝ) (h : (x : EReal) ≤ b.toE) : (((⌈x⌉ : ℤ) : ℝ) : EReal) ≤ (Itv.ceilExt b).toE := by
  cases b with
  | pinf => simp [Itv.ceilExt]
  | ninf => simp at h
  | fin q =>
    simp only [Ext.toE_fin, EReal.coe_le_coe_iff] at h
    simp only [Itv.ceilExt, Ext.toE_fin, EReal.coe_le_coe_iff]
    have := Int.ceil_le_ceil h
    rw [Rat.ceil_cast, rat_ceil_eq] at this
    push_cast; exact_mod_cast this

theorem Itv.floor_encl {X : Itv} {x : ℝ} (hx : x ∈ X) : ((⌊x⌋ : ℤ) : ℝ) ∈ Itv.floor X := by
  cases X with
  | empty => exact absurd hx (Itv.not_mem_empty x)
  | mk a b => exact ⟨floorExt_le a x hx.1, le_floorExt b x hx.2⟩

theorem Itv.ceil_encl {X : Itv} {x : ℝ} (hx : x ∈ X) : ((⌈x⌉ : ℤ) : ℝ) ∈ Itv.ceil X := by
  cases X with
  | empty => exact absurd hx (Itv.not_mem_empty x)
  | mk a b => exact ⟨ceilExt_le a x hx.1, le_ceilExt b x hx.2⟩

theorem Itv.mem_ofBounds {lo hi : Ext} {x : ℝ} (h1 : lo.toE ≤ x) (h2 : (x : EReal) ≤ hi.toE) :
    x ∈ Itv.ofBounds lo hi := by
  unfold Itv.ofBounds
  have hle : Ext.le lo hi = true := (Ext.le_iff lo hi).2 (le_trans h1 h2)
  have hlo : lo ≠ Ext.pinf := by rintro rfl; simp at h1
  have hhi : hi ≠ Ext.ninf := by rintro rfl; simp at h2
  rw [if_pos (by simp [hle, hlo, hhi])]
  exact ⟨h1, h2⟩

theorem Itv.integer_encl {X : Itv} {x : ℝ} (hx : x ∈ X) (hint : ∃ n : ℤ, x = n) :
    x ∈ Itv.integer X := by
  cases X with
  | empty => exact absurd hx (Itv.not_mem_empty x)
  | mk a b =>
  obtain ⟨n, rfl⟩ := hint
  have h1 := ceilExt_le a _ hx.1
  have h2 := le_floorExt b _ hx.2
  rw [Int.ceil_intCast] at h1
  rw [Int.floor_intCast] at h2
  exact Itv.mem_ofBounds h1 h2

/-! ### square root -/

theorem isqrtFloor_sq_le (r : ℚ) (hr : 0 ≤ r) : ((Itv.isqrtFloor r : ℚ)) ^ 2 ≤ r := by
  unfold Itv.isqrtFloor
  have hdpos : 0 < r.den := r.den_pos
  have hnum : ((r.num.toNat : ℕ) : ℚ) = r.num := by
    have : ((r.num.toNat : ℕ) : ℤ) = r.num := Int.toNat_of_nonneg (Rat.num_nonneg.2 hr)
    exact_mod_cast congrArg (fun z : ℤ => (z : ℚ)) this
  have hr' : r = (r.num.toNat : ℚ) / (r.den : ℚ) := by rw [hnum]; exact (Rat.num_div_den r).symm
  generalize r.num.toNat = n at *
  generalize r.den = d at *
  set k := Nat.sqrt (n * d) / d with hk
  have h1 : k * d ≤ Nat.sqrt (n * d) := Nat.div_mul_le_self _ _
  have h2 : (k * d) * (k * d) ≤ n * d := Nat.le_sqrt.1 h1
  have h3 : k * k * d ≤ n := by
    apply Nat.le_of_mul_le_mul_right _ hdpos
    calc k * k * d * d = (k * d) * (k * d) := by ring
      _ ≤ n * d := h2
  have hd' : (0 : ℚ) < d := by exact_mod_cast hdpos
  rw [hr', le_div_iff₀ hd']
  have : ((k * k * d : ℕ) : ℚ) ≤ (n : ℚ) := by exact_mod_cast h3
  push_cast at this
  rw [pow_two]; exact this

theorem lt_isqrtFloor_succ_sq (r : ℚ) (hr : 0 ≤ r) : r < ((Itv.isqrtFloor r : ℚ) + 1) ^ 2 := by
  unfold Itv.isqrtFloor
  have hdpos : 0 < r.den := r.den_pos
  have hnum : ((r.num.toNat : ℕ) : ℚ) = r.num := by
    have : ((r.num.toNat : ℕ) : ℤ) = r.num := Int.toNat_of_nonneg (Rat.num_nonneg.2 hr)
    exact_mod_cast congrArg (fun z : ℤ => (z : ℚ)) this
  have hr' : r = (r.num.toNat : ℚ) / (r.den : ℚ) := by rw [hnum]; exact (Rat.num_div_den r).symm
  generalize r.num.toNat = n at *
  generalize r.den = d at *
  set k := Nat.sqrt (n * d) / d with hk
  have h1 : Nat.sqrt (n * d) < (k + 1) * d := by
    have := Nat.lt_mul_div_succ (Nat.sqrt (n * d)) hdpos
    rw [Nat.mul_comm d] at this
    exact this
  have h2 : n * d < ((k + 1) * d) * ((k + 1) * d) := Nat.sqrt_lt.1 h1
  have h3 : n < (k + 1) * (k + 1) * d := by
    apply Nat.lt_of_mul_lt_mul_right (a := d)
    calc n * d < ((k + 1) * d) * ((k + 1) * d) := h2
      _ = (k + 1) * (k + 1) * d * d := by ring
  have hd' : (0 : ℚ) < d := by exact_mod_cast hdpos
  rw [hr', div_lt_iff₀ hd']
  have : (n : ℚ) < (((k + 1) * (k + 1) * d : ℕ) : ℚ) := by exact_mod_cast h3
  push_cast at this
  rw [pow_two]; exact this

/-- the ulp that `sqrtDown`/`sqrtUp` compute in local `let`s (only its positivity matters for soundness); named so that
    `sqrtDown_pos`, `sqrtUp_pos` can say what the two functions return -/
def sqrtUlp (q : Rat) : Rat :=
  let e := floorLog2 q
  let h : Int := (if e % 2 = 0 then e else e - 1) / 2
  let ue : Int := if h - 52 < -1074 then -1074 else h - 52
  pow2 ue

theorem sqrtUlp_pos (q : Rat) : 0 < sqrtUlp q := pow2_pos _

theorem sqrtDown_pos (q : Rat) (hq : 0 < q) :
    Itv.sqrtDown q = .fin ((Itv.isqrtFloor (q / (sqrtUlp q * sqrtUlp q)) : Rat) * sqrtUlp q) := by
  simp only [Itv.sqrtDown, if_neg (not_le.2 hq), sqrtUlp]

theorem sqrtUp_pos (q : Rat) (hq : 0 < q) :
    Itv.sqrtUp q =
      if ((Itv.isqrtFloor (q / (sqrtUlp q * sqrtUlp q)) : Rat) * sqrtUlp q) *
          ((Itv.isqrtFloor (q / (sqrtUlp q * sqrtUlp q)) : Rat) * sqrtUlp q) == q
      then .fin ((Itv.isqrtFloor (q / (sqrtUlp q * sqrtUlp q)) : Rat) * sqrtUlp q)
      else .fin ((Itv.isqrtFloor (q / (sqrtUlp q * sqrtUlp q)) : Rat) * sqrtUlp q + sqrtUlp q) := by
  unfold Itv.sqrtUp
  rw [sqrtDown_pos q hq]
  simp only [if_neg (not_le.2 hq)]
  rfl

theorem sqrtDown_le (q : Rat) (x : ℝ) (hqx : (q : ℝ) ≤ x) :
    (Itv.sqrtDown q).toE ≤ ((Real.sqrt x : ℝ) : EReal) := by
  by_cases hq : q ≤ 0
  · simp only [Itv.sqrtDown, if_pos hq, Ext.toE_fin, EReal.coe_le_coe_iff]
    push_cast; exact Real.sqrt_nonneg x
  · have hq' : 0 < q := not_le.1 hq
    rw [sqrtDown_pos q hq']
    simp only [Ext.toE_fin, EReal.coe_le_coe_iff]
    have hu := sqrtUlp_pos q
    set u := sqrtUlp q
    set k : ℚ := (Itv.isqrtFloor (q / (u * u)) : ℚ)
    have hk : k ^ 2 ≤ q / (u * u) := isqrtFloor_sq_le _ (by positivity)
    have hk' : (k * u) ^ 2 ≤ q := by
      rw [le_div_iff₀ (by positivity)] at hk
      calc (k * u) ^ 2 = k ^ 2 * (u * u) := by ring
        _ ≤ q := hk
    apply Real.le_sqrt_of_sq_le
    refine le_trans ?_ hqx
    exact_mod_cast hk'

theorem le_sqrtUp (q : Rat) (x : ℝ) (hx : 0 ≤ x) (hxq : x ≤ (q : ℝ)) :
    ((Real.sqrt x : ℝ) : EReal) ≤ (Itv.sqrtUp q).toE := by
  have hq0 : (0 : ℚ) ≤ q := by exact_mod_cast le_trans hx hxq
  rcases eq_or_lt_of_le hq0 with hq | hq
  · subst hq
    have hx0 : x = 0 := le_antisymm (by simpa using hxq) hx
    subst hx0
    simp [Itv.sqrtUp, Itv.sqrtDown]
  · rw [sqrtUp_pos q hq]
    have hu := sqrtUlp_pos q
    set u := sqrtUlp q
    have hk0 : (0 : ℚ) ≤ (Itv.isqrtFloor (q / (u * u)) : ℚ) := Nat.cast_nonneg _
    have hk : q / (u * u) < ((Itv.isqrtFloor (q / (u * u)) : ℚ) + 1) ^ 2 :=
      lt_isqrtFloor_succ_sq _ (by positivity)
    set k : ℚ := (Itv.isqrtFloor (q / (u * u)) : ℚ)
    split_ifs with h
    · have h' : k * u * (k * u) = q := by simpa using h
      simp only [Ext.toE_fin, EReal.coe_le_coe_iff]
      rw [Real.sqrt_le_left (by exact_mod_cast mul_nonneg hk0 (le_of_lt hu))]
      refine le_trans hxq ?_
      rw [pow_two]; exact_mod_cast le_of_eq h'.symm
    · simp only [Ext.toE_fin, EReal.coe_le_coe_iff]
      have hk' : q ≤ (k * u + u) ^ 2 := by
        rw [div_lt_iff₀ (by positivity)] at hk
        calc q ≤ (k + 1) ^ 2 * (u * u) := le_of_lt hk
          _ = (k * u + u) ^ 2 := by ring
      rw [Real.sqrt_le_left (by exact_mod_cast add_nonneg (mul_nonneg hk0 (le_of_lt hu)) (le_of_lt hu))]
      refine le_trans hxq ?_
      exact_mod_cast hk'

theorem Itv.sqrt_encl {X : Itv} {x : ℝ} (hx : x ∈ X) (h0 : 0 ≤ x) : Real.sqrt x ∈ Itv.sqrt X := by
  cases X with
  | empty => exact absurd hx (Itv.not_mem_empty x)
  | mk a b =>
  obtain ⟨hax, hxb⟩ := hx
  simp only [Itv.sqrt]
  split_ifs with h1
  · rw [Ext.lt_iff, Ext.toE_zero] at h1
    have : x < 0 := by exact_mod_cast lt_of_le_of_lt hxb h1
    exact absurd h0 (not_le.2 this)
  · refine ⟨?_, ?_⟩
    · cases a with
      | pinf => simp at hax
      | ninf =>
        simp only [Ext.toE_fin, EReal.coe_le_coe_iff]
        push_cast; exact Real.sqrt_nonneg x
      | fin q =>
        simp only [Ext.toE_fin, EReal.coe_le_coe_iff] at hax
        exact sqrtDown_le q x hax
    · cases b with
      | ninf => simp at hxb
      | pinf => simp
      | fin q =>
        simp only [Ext.toE_fin, EReal.coe_le_coe_iff] at hxb
        exact le_sqrtUp q x h0 hxb

/-! ### integer powers -/

/-- the `let`-bound function `recipPow` of `Itv.powInt` as a definition (`powInt_neg_eq`), so that lemmas can speak of it -/
def recipPow (m : ℕ) (r : Rat → Ext) (e : Ext) : Ext :=
  match e with
  | .fin q => if q = 0 then .pinf else r (1 / Itv.ratPow q m)
  | _ => .fin 0

theorem powInt_neg_eq (a b : Ext) (n : ℤ) (hn : ¬ n ≥ 0) :
    Itv.powInt (.mk a b) n =
      (let m := (-n).toNat
       let z := Ext.fin 0
       if a == z && b == z then Itv.empty
       else if Ext.lt z a || Ext.lt b z then
         if m % 2 = 0 then
           if Ext.lt z a then .mk (recipPow m rd b) (recipPow m ru a)
           else .mk (recipPow m rd a) (recipPow m ru b)
         else .mk (recipPow m rd b) (recipPow m ru a)
       else if m % 2 = 0 then
         let la := if a == z then Ext.pinf else recipPow m rd a
         let lb := if b == z then Ext.pinf else recipPow m rd b
         .mk (Ext.min la lb) .pinf
       else
         if a == z then .mk (recipPow m rd b) .pinf
         else if b == z then .mk .ninf (recipPow m ru a)
         else Itv.all) := by
  simp only [Itv.powInt, if_neg hn]
  rfl

theorem recipPow_dn_le_pos {r : Rat → Ext} (hr : ∀ q : Rat, (r q).toE ≤ ((q : ℝ) : EReal))
    (m : ℕ) (b : Ext) (x : ℝ) (hx : 0 < x) (hxb : (x : EReal) ≤ b.toE) :
    (recipPow m r b).toE ≤ (((x ^ m)⁻¹ : ℝ) : EReal) := by
  cases b with
  | ninf => simp at hxb
  | pinf =>
    simp only [recipPow, Ext.toE_fin, EReal.coe_le_coe_iff]
    push_cast; positivity
  | fin q =>
    simp only [Ext.toE_fin, EReal.coe_le_coe_iff] at hxb
    have hq : (0 : ℝ) < q := lt_of_lt_of_le hx hxb
    have hq' : q ≠ 0 := by intro h; rw [h] at hq; simp at hq
    simp only [recipPow, if_neg hq']
    refine le_trans (hr _) ?_
    simp only [EReal.coe_le_coe_iff, Itv.ratPow]
    push_cast
    rw [one_div]
    exact inv_anti₀ (pow_pos hx m) (pow_le_pow_left₀ (le_of_lt hx) hxb m)

theorem le_recipPow_up_pos {r : Rat → Ext} (hr : ∀ q : Rat, ((q : ℝ) : EReal) ≤ (r q).toE)
    (m : ℕ) (a : Ext) (x : ℝ) (ha : 0 ≤ a.toE) (hax : a.toE ≤ x) :
    (((x ^ m)⁻¹ : ℝ) : EReal) ≤ (recipPow m r a).toE := by
  cases a with
  | ninf => simp at ha
  | pinf => simp at hax
  | fin q =>
    simp only [Ext.toE_fin, EReal.coe_le_coe_iff] at hax
    have hq : (0 : ℝ) ≤ q := by simpa using ha
    by_cases hq' : q = 0
    · simp [recipPow, hq']
    · simp only [recipPow, if_neg hq']
      have hqpos : (0 : ℝ) < q := lt_of_le_of_ne hq (by exact_mod_cast Ne.symm hq')
      refine le_trans ?_ (hr _)
      simp only [EReal.coe_le_coe_iff, Itv.ratPow]
      push_cast
      rw [one_div]
      exact inv_anti₀ (pow_pos hqpos m) (pow_le_pow_left₀ hq hax m)

/-! The negative side follows by x ↦ -x: `recipPow` is even for even `m`; for odd `m` the
    unrounded `recipPow m Ext.fin` is odd away from 0, and rounding only widens it. -/

theorem recipPow_neg_of_even {m : ℕ} (hm : m % 2 = 0) (r : Rat → Ext) (e : Ext) :
    recipPow m r (Ext.neg e) = recipPow m r e := by
  cases e <;> simp [recipPow, Ext.neg, Itv.ratPow, (Nat.even_iff.2 hm).neg_pow]

theorem recipPow_neg_of_odd {m : ℕ} (hm : m % 2 = 1) {e : Ext} (he : e.toE < 0) :
    recipPow m Ext.fin (Ext.neg e) = Ext.neg (recipPow m Ext.fin e) := by
  cases e with
  | ninf => simp [recipPow, Ext.neg]
  | pinf => simp at he
  | fin q =>
    have hq : q ≠ 0 := by rintro rfl; simp at he
    simp [recipPow, Ext.neg, Itv.ratPow, hq, (Nat.odd_iff.2 hm).neg_pow, div_neg]

theorem recipPow_dn_le_exact {r : Rat → Ext} (hr : ∀ q : Rat, (r q).toE ≤ ((q : ℝ) : EReal)) (m : ℕ) (e : Ext) :
    (recipPow m r e).toE ≤ (recipPow m Ext.fin e).toE := by
  cases e <;> simp only [recipPow, le_refl]
  split
  · exact le_rfl
  · exact hr _

theorem recipPow_exact_le_up {r : Rat → Ext} (hr : ∀ q : Rat, ((q : ℝ) : EReal) ≤ (r q).toE) (m : ℕ) (e : Ext) :
    (recipPow m Ext.fin e).toE ≤ (recipPow m r e).toE := by
  cases e <;> simp only [recipPow, le_refl]
  split
  · exact le_rfl
  · exact hr _

theorem recipPow_dn_le_neg_even {r : Rat → Ext} (hr : ∀ q : Rat, (r q).toE ≤ ((q : ℝ) : EReal))
    {m : ℕ} (hm : m % 2 = 0) (a : Ext) (x : ℝ) (hx : x < 0)
    (hax : a.toE ≤ x) : (recipPow m r a).toE ≤ (((x ^ m)⁻¹ : ℝ) : EReal) := by
  have := recipPow_dn_le_pos hr m (Ext.neg a) (-x) (neg_pos.2 hx) (Ext.coe_neg_le_neg.2 hax)
  rwa [recipPow_neg_of_even hm, (Nat.even_iff.2 hm).neg_pow] at this

theorem le_recipPow_up_neg_even {r : Rat → Ext} (hr : ∀ q : Rat, ((q : ℝ) : EReal) ≤ (r q).toE)
    {m : ℕ} (hm : m % 2 = 0) (b : Ext) (x : ℝ)
    (hb : b.toE ≤ 0) (hxb : (x : EReal) ≤ b.toE) :
    (((x ^ m)⁻¹ : ℝ) : EReal) ≤ (recipPow m r b).toE := by
  have := le_recipPow_up_pos hr m (Ext.neg b) (-x) (Ext.neg_nonneg.2 hb) (Ext.neg_le_coe_neg.2 hxb)
  rwa [recipPow_neg_of_even hm, (Nat.even_iff.2 hm).neg_pow] at this

theorem recipPow_dn_le_neg_odd {r : Rat → Ext} (hr : ∀ q : Rat, (r q).toE ≤ ((q : ℝ) : EReal))
    {m : ℕ} (hm : m % 2 = 1) (b : Ext) (x : ℝ)
    (hb : b.toE < 0) (hxb : (x : EReal) ≤ b.toE) :
    (recipPow m r b).toE ≤ (((x ^ m)⁻¹ : ℝ) : EReal) := by
  refine le_trans (recipPow_dn_le_exact hr m b) ?_
  have := le_recipPow_up_pos (r := Ext.fin) (fun _ => le_rfl) m (Ext.neg b) (-x)
    (Ext.neg_nonneg.2 hb.le) (Ext.neg_le_coe_neg.2 hxb)
  rwa [recipPow_neg_of_odd hm hb, (Nat.odd_iff.2 hm).neg_pow, inv_neg, Ext.coe_neg_le_neg] at this

theorem le_recipPow_up_neg_odd {r : Rat → Ext} (hr : ∀ q : Rat, ((q : ℝ) : EReal) ≤ (r q).toE)
    {m : ℕ} (hm : m % 2 = 1) (a : Ext) (x : ℝ) (hx : x < 0)
    (hax : a.toE ≤ x) : (((x ^ m)⁻¹ : ℝ) : EReal) ≤ (recipPow m r a).toE := by
  refine le_trans ?_ (recipPow_exact_le_up hr m a)
  have := recipPow_dn_le_pos (r := Ext.fin) (fun _ => le_rfl) m (Ext.neg a) (-x) (neg_pos.2 hx)
    (Ext.coe_neg_le_neg.2 hax)
  rwa [recipPow_neg_of_odd hm (lt_of_le_of_lt hax (by exact_mod_cast hx)), (Nat.odd_iff.2 hm).neg_pow,
    inv_neg, Ext.neg_le_coe_neg] at this

theorem recipPow_even_mixed {m : ℕ} (hm : m % 2 = 0) (a b : Ext) (x : ℝ) (hx0 : x ≠ 0)
    (hax : a.toE ≤ x) (hxb : (x : EReal) ≤ b.toE) :
    (Ext.min (if a = Ext.fin 0 then Ext.pinf else recipPow m rd a)
        (if b = Ext.fin 0 then Ext.pinf else recipPow m rd b)).toE
      ≤ (((x ^ m)⁻¹ : ℝ) : EReal) := by
  rw [Ext.toE_min]
  rcases lt_or_gt_of_ne hx0 with hx | hx
  · have ha : a ≠ Ext.fin 0 := by
      rintro rfl
      rw [Ext.toE_zero] at hax
      exact absurd hx (not_lt.2 (by exact_mod_cast hax))
    rw [if_neg ha]
    exact le_trans (min_le_left _ _) (recipPow_dn_le_neg_even rd_le hm a x hx hax)
  · have hb : b ≠ Ext.fin 0 := by
      rintro rfl
      rw [Ext.toE_zero] at hxb
      exact absurd hx (not_lt.2 (by exact_mod_cast hxb))
    rw [if_neg hb]
    exact le_trans (min_le_right _ _) (recipPow_dn_le_pos rd_le m b x hx hxb)

theorem Itv.powInt_encl {X : Itv} {x : ℝ} (n : ℤ) (hx : x ∈ X) (h0 : n < 0 → x ≠ 0) :
    x ^ n ∈ Itv.powInt X n := by
  by_cases hn : n ≥ 0
  · have h := Itv.powNat_encl n.toNat hx
    have e : x ^ n = x ^ n.toNat := by
      conv_lhs => rw [← Int.toNat_of_nonneg hn]
      exact zpow_natCast x _
    rw [e]
    simpa only [Itv.powInt, if_pos hn] using h
  · cases X with
    | empty => exact absurd hx (Itv.not_mem_empty x)
    | mk a b =>
    have hx0 : x ≠ 0 := h0 (not_le.1 hn)
    have hax := hx.1
    have hxb := hx.2
    have e : x ^ n = (x ^ (-n).toNat)⁻¹ := by
      have : n = -(((-n).toNat : ℕ) : ℤ) := by omega
      conv_lhs => rw [this]
      rw [zpow_neg, zpow_natCast]
    rw [e, powInt_neg_eq a b n hn]
    generalize (-n).toNat = m
    -- the tests of `powInt` as conditions on extended reals, then one `if` at a time
    simp only [Bool.and_eq_true, Bool.or_eq_true, beq_iff_eq, Ext.lt_iff, Ext.toE_zero]
    by_cases h1 : a = Ext.fin 0 ∧ b = Ext.fin 0
    · obtain ⟨rfl, rfl⟩ := h1
      exact absurd (Itv.mem_point_zero.1 hx) hx0
    rw [if_neg h1]
    by_cases h2 : 0 < a.toE ∨ b.toE < 0
    · -- constant sign
      rw [if_pos h2]
      by_cases h4 : 0 < a.toE
      · have hxpos : 0 < x := by exact_mod_cast lt_of_lt_of_le h4 hax
        simp only [if_pos h4, ite_self]
        exact ⟨recipPow_dn_le_pos rd_le m b x hxpos hxb, le_recipPow_up_pos le_ru m a x h4.le hax⟩
      · have hb : b.toE < 0 := h2.resolve_left h4
        have hxneg : x < 0 := by exact_mod_cast lt_of_le_of_lt hxb hb
        rw [if_neg h4]
        by_cases h3 : m % 2 = 0
        · rw [if_pos h3]
          exact ⟨recipPow_dn_le_neg_even rd_le h3 a x hxneg hax, le_recipPow_up_neg_even le_ru h3 b x hb.le hxb⟩
        · rw [if_neg h3]
          have hm : m % 2 = 1 := by omega
          exact ⟨recipPow_dn_le_neg_odd rd_le hm b x hb hxb, le_recipPow_up_neg_odd le_ru hm a x hxneg hax⟩
    rw [if_neg h2]
    by_cases h5 : m % 2 = 0
    · rw [if_pos h5]
      exact ⟨recipPow_even_mixed h5 a b x hx0 hax hxb, le_top⟩
    rw [if_neg h5]
    have hm : m % 2 = 1 := by omega
    by_cases h9 : a = Ext.fin 0
    · rw [if_pos h9]
      rw [h9, Ext.toE_zero] at hax
      have hxpos : 0 < x := lt_of_le_of_ne (by exact_mod_cast hax) (Ne.symm hx0)
      exact ⟨recipPow_dn_le_pos rd_le m b x hxpos hxb, le_top⟩
    rw [if_neg h9]
    by_cases h10 : b = Ext.fin 0
    · rw [if_pos h10]
      rw [h10, Ext.toE_zero] at hxb
      exact ⟨bot_le, le_recipPow_up_neg_odd le_ru hm a x (lt_of_le_of_ne (by exact_mod_cast hxb) hx0) hax⟩
    rw [if_neg h10]; exact Itv.mem_all _

/-! ### emptiness -/

theorem Itv.add_empty_iff (X Y : Itv) : Itv.add X Y = .empty ↔ X = .empty ∨ Y = .empty := by
  cases X <;> cases Y <;> simp [Itv.add]

theorem Itv.neg_empty_iff (X : Itv) : Itv.neg X = .empty ↔ X = .empty := by
  cases X <;> simp [Itv.neg]

theorem Itv.sub_empty_iff (X Y : Itv) : Itv.sub X Y = .empty ↔ X = .empty ∨ Y = .empty := by
  rw [Itv.sub, Itv.add_empty_iff, Itv.neg_empty_iff]

theorem Itv.mul_empty_iff (X Y : Itv) : Itv.mul X Y = .empty ↔ X = .empty ∨ Y = .empty := by
  cases X <;> cases Y <;> simp [Itv.mul]

theorem Itv.max_empty_iff (X Y : Itv) : Itv.max X Y = .empty ↔ X = .empty ∨ Y = .empty := by
  cases X <;> cases Y <;> simp [Itv.max]

theorem Itv.min_empty_iff (X Y : Itv) : Itv.min X Y = .empty ↔ X = .empty ∨ Y = .empty := by
  cases X <;> cases Y <;> simp [Itv.min]

theorem Itv.div_empty_iff (X Y : Itv) :
    Itv.div X Y = .empty ↔ X = .empty ∨ Y = .empty ∨ Y = .mk (.fin 0) (.fin 0) :=
  Itv.div_eq ▸ Itv.divG_empty_iff Rnd.dbl X Y

theorem Itv.div_empty_imp {X Y : Itv} (h : Itv.div X Y = .empty) :
    ∀ x y : ℝ, x ∈ X → y ∈ Y → y = 0 := by
  intro x y hx hy
  rcases (Itv.div_empty_iff X Y).1 h with rfl | rfl | rfl
  · exact absurd hx (Itv.not_mem_empty x)
  · exact absurd hy (Itv.not_mem_empty y)
  · exact Itv.mem_point_zero.1 hy

theorem Itv.sqrt_empty_imp {X : Itv} (h : Itv.sqrt X = .empty) : ∀ x : ℝ, x ∈ X → x < 0 := by
  intro x hx
  cases X with
  | empty => exact absurd hx (Itv.not_mem_empty x)
  | mk a b =>
  simp only [Itv.sqrt] at h
  split_ifs at h with h1
  rw [Ext.lt_iff, Ext.toE_zero] at h1
  exact_mod_cast lt_of_le_of_lt hx.2 h1

theorem Itv.powInt_empty_iff (X : Itv) (n : ℤ) :
    Itv.powInt X n = .empty ↔ X = .empty ∨ (n < 0 ∧ X = .mk (.fin 0) (.fin 0)) := by
  by_cases hn : n ≥ 0
  · simp [Itv.powInt, hn, Itv.powNat_eq, Itv.powNatG_empty_iff, not_lt.2 hn]
  · cases X with
    | empty => simp [Itv.powInt, hn]
    | mk a b =>
      -- for `n < 0` only the first test of `powInt` returns `empty`: `· = empty` is `False` at every other leaf
      have first : Itv.powInt (.mk a b) n = .empty ↔ (a == Ext.fin 0 && b == Ext.fin 0) = true := by
        rw [powInt_neg_eq a b n hn]
        simp only [Itv.all, apply_ite (· = Itv.empty), reduceCtorEq, ite_self, if_false_right, and_true]
      simpa [not_le.1 hn] using first

theorem Itv.powInt_empty_imp {X : Itv} {n : ℤ} (h : Itv.powInt X n = .empty) :
    ∀ x : ℝ, x ∈ X → (n < 0 ∧ x = 0) := by
  intro x hx
  rcases (Itv.powInt_empty_iff X n).1 h with rfl | ⟨hn, rfl⟩
  · exact absurd hx (Itv.not_mem_empty x)
  · exact ⟨hn, Itv.mem_point_zero.1 hx⟩

end Ibex
