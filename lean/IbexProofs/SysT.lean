/-
  C13 — soundness of the checkers with thick constants as atoms (`IbexModel/SysT.lean`) for the
  real semantics `Alg.realWith ch`, `ch` ANY selection of a member of each thick interval constant
  (`ChOK ch`: a degenerate constant `[q,q]` denotes `q`).  `Alg.real` is the case `ch = realOfItv`.
  The suffixes `T`, `TB` are those of the checkers of the model (`progCheckT`, `progCheckTB`).
-/
import IbexProofs.SysCheck
import IbexModel.SysT

namespace Ibex
open Ibex Ibex.Eval List

def ChOK (ch : Itv → Option ℝ) : Prop := ∀ I q x, ratOfItv I = some q → ch I = some x → x = (q : ℝ)

theorem chOK_realOfItv : ChOK realOfItv := by
  intro I q x hq hx
  unfold realOfItv at hx
  unfold ratOfItv at hq
  split at hx
  · rename_i a b
    simp only at hq
    split_ifs at hx hq with e
    simp only [Option.some.injEq] at hx hq
    rw [← hx, ← hq]
  · exact absurd hx (by simp)

theorem realWith_realOfItv : Alg.realWith realOfItv = Alg.real := rfl

theorem lookupIdx_spec {I : Itv} : ∀ {l : List Itv} {k j : ℕ}, lookupIdx I l k = some j →
    ∃ i, j = k + i ∧ l[i]? = some I
  | [], _, _, h => by simp [lookupIdx] at h
  | J :: l, k, j, h => by
    simp only [lookupIdx] at h
    split_ifs at h with e
    · simp only [Option.some.injEq] at h
      exact ⟨0, by omega, by simp [e]⟩
    · obtain ⟨i, hj, hi⟩ := lookupIdx_spec h
      exact ⟨i + 1, by omega, by simpa using hi⟩

/-- the values of the atoms under the selection `ch` -/
noncomputable def atomVals (ch : Itv → Option ℝ) (tbl : List Itv) : List ℝ := tbl.map fun I => (ch I).getD 0

/-- **Naturality with atoms**: as `Alg.real_rfT`, the thick constant `tbl[k]` being the variable
    `nv + k` whose value is the member selected by `ch`. -/
theorem Alg.realWith_rfT (B : ℕ) (tbl : List Itv) {nv : ℕ} {ch : Itv → Option ℝ} (hch : ChOK ch)
    (ρ : List ℝ) (hρ : ρ.length = nv) :
    AlgRel (RepO (valOf (ρ ++ atomVals ch tbl))) (Alg.realWith ch) (Alg.rfT B tbl nv).totalize where
  ofItv := by
    intro I x h
    refine ⟨_, rfl, ?_⟩
    intro f hf
    have hx : ch I = some x := h
    simp only [Alg.rfT] at hf
    split at hf
    · rename_i q hq
      simp only [Option.some.injEq] at hf
      subst hf
      rw [hch I q x hq hx]
      exact RF.Rep_const q
    · simp only [Option.map_eq_some_iff] at hf
      obtain ⟨j, hj, rfl⟩ := hf
      obtain ⟨i, hji, hi⟩ := lookupIdx_spec hj
      obtain rfl : j = i := hji.trans (Nat.zero_add i)
      have hv : valOf (ρ ++ atomVals ch tbl) (nv + j) = x := by
        apply valOf_getElem?
        rw [getElem?_append_right (by omega), hρ, Nat.add_sub_cancel_left]
        simp [atomVals, hi, hx]
      have hr := RF.Rep_var (ρ := valOf (ρ ++ atomVals ch tbl)) (nv + j)
      rwa [hv] at hr
  zero := (Alg.real_rfT B _).zero
  add := (Alg.real_rfT B _).add
  sub := (Alg.real_rfT B _).sub
  mul := (Alg.real_rfT B _).mul
  div := (Alg.real_rfT B _).div
  max := (Alg.real_rfT B _).max
  min := (Alg.real_rfT B _).min
  un := (Alg.real_rfT B _).un
  pow := (Alg.real_rfT B _).pow
  chi := (Alg.real_rfT B _).chi

theorem env_relT (ρ ext : List ℝ) :
    Forall₂ (RepO (valOf (ρ ++ ext))) ρ ((Equiv.vars ρ.length).map some) := by
  rw [forall₂_iff_get]
  refine ⟨by simp [Equiv.vars], ?_⟩
  intro i h1 h2 f hf
  simp only [Equiv.vars, List.get_eq_getElem, List.getElem_map, List.getElem_range,
    Option.some.injEq] at hf
  subst hf
  have : valOf (ρ ++ ext) i = ρ[i] := valOf_getElem? (by rw [getElem?_append_left h1]; simp [h1])
  simpa [this] using RF.Rep_var (ρ := valOf (ρ ++ ext)) i

namespace Sys

/-- **The normal form over variables and atoms denotes the real value** under every selection. -/
theorem nfT_real {B : ℕ} {tbl : List Itv} {nv : ℕ} {p : Prog} {F : Mat RF} {ρ : List ℝ} {v : Mat ℝ}
    {ch : Itv → Option ℝ} (hch : ChOK ch) (hn : ρ.length = nv) (hF : nfT B tbl nv p = some F)
    (hv : evalR (Alg.realWith ch) p ρ = some v) :
    MatRel (RF.Rep (valOf (ρ ++ atomVals ch tbl))) v F := by
  subst hn
  obtain ⟨O, hO, hFO⟩ := Eval.root_rel_total (Alg.totalize_rel (Alg.rfT B tbl ρ.length)) (forall₂_rsome _)
    (Eval.buildCalls_rel_total (Alg.totalize_rel (Alg.rfT B tbl ρ.length)) p.funs
      (fun _ _ n _ => Alg.totalize_supp _ n))
    (fun n _ => Alg.totalize_supp _ n) hF
  have hvO := Eval.root_rel (Alg.realWith_rfT B tbl hch ρ rfl) (env_relT ρ _)
    (Eval.buildCalls_rel (Alg.realWith_rfT B tbl hch ρ rfl) p.funs) hv hO
  obtain ⟨hr, hc, hd⟩ := hvO
  obtain ⟨hr', hc', hd'⟩ := hFO
  refine ⟨hr.trans hr'.symm, hc.trans hc'.symm, ?_⟩
  rw [forall₂_rsome_eq hd', forall₂_map_right_iff] at hd
  exact hd.imp fun x f h => h f rfl

variable {ch : Itv → Option ℝ}

theorem progCheckTB_sound {B : ℕ} {tbl : List Itv} {nv : ℕ} {a b : Prog} (hch : ChOK ch)
    (h : progCheckTB B tbl nv a b = some true) {ρ : List ℝ} (hρ : ρ.length = nv) {v₁ v₂ : Mat ℝ}
    (h₁ : evalR (Alg.realWith ch) a ρ = some v₁) (h₂ : evalR (Alg.realWith ch) b ρ = some v₂) :
    v₁ = v₂ := by
  unfold progCheckTB at h
  simp only [bind, Option.bind_eq_some_iff] at h
  obtain ⟨F₁, hF₁, F₂, hF₂, h⟩ := h
  split_ifs at h with hdim
  swap
  · exact absurd h (by simp)
  obtain ⟨hr₁, hc₁, hd₁⟩ := nfT_real hch hρ hF₁ h₁
  obtain ⟨hr₂, hc₂, hd₂⟩ := nfT_real hch hρ hF₂ h₂
  have hd := eqvList_sound h hd₁ hd₂
  obtain ⟨r₁, c₁, d₁⟩ := v₁
  obtain ⟨r₂, c₂, d₂⟩ := v₂
  simp only at hr₁ hc₁ hr₂ hc₂ hd
  rw [hr₁, hc₁, hr₂, hc₂, hd, hdim.1, hdim.2]

theorem ctrsCheckT_forall₂ {tbl : List Itv} {nv : ℕ} : ∀ {as bs : List Ctr},
    ctrsCheckT tbl nv as bs = some true →
    Forall₂ (fun a b => a.op = b.op ∧ progCheckT tbl nv a.f b.f = some true) as bs
  | [], [], _ => Forall₂.nil
  | [], _ :: _, h => by simp [ctrsCheckT] at h
  | _ :: _, [], h => by simp [ctrsCheckT] at h
  | a :: as, b :: bs, h => by
    simp only [ctrsCheckT] at h
    split_ifs at h with hop
    · obtain ⟨h1, h2⟩ := optAnd_true h
      exact Forall₂.cons ⟨hop, h1⟩ (ctrsCheckT_forall₂ h2)
    · exact absurd h (by simp)

theorem sat_congrT {tbl : List Itv} {nv : ℕ} {a b : Ctr} (hch : ChOK ch) (hop : a.op = b.op)
    (h : progCheckT tbl nv a.f b.f = some true) {ρ : List ℝ} (hρ : ρ.length = nv)
    (ha : ∃ v, evalR (Alg.realWith ch) a.f ρ = some v) (hb : ∃ v, evalR (Alg.realWith ch) b.f ρ = some v) :
    a.Sat (Alg.realWith ch) ρ ↔ b.Sat (Alg.realWith ch) ρ := by
  obtain ⟨va, hva⟩ := ha
  obtain ⟨vb, hvb⟩ := hb
  have e := progCheckTB_sound hch h hρ hva hvb
  unfold Ctr.Sat
  rw [exists_eq_some_and hva, exists_eq_some_and hvb, hop, e]

/-- **Accepted lists of constraints have the same solutions**, for every selection of the thick
    constants, at every real point where all the constraint functions are defined. -/
theorem ctrsCheckT_sound {tbl : List Itv} {nv : ℕ} {as bs : List Ctr} (hch : ChOK ch)
    (h : ctrsCheckT tbl nv as bs = some true) {ρ : List ℝ} (hρ : ρ.length = nv)
    (ha : Defined (Alg.realWith ch) as ρ) (hb : Defined (Alg.realWith ch) bs ρ) :
    SatAll (Alg.realWith ch) as ρ ↔ SatAll (Alg.realWith ch) bs ρ := by
  have hf := ctrsCheckT_forall₂ h
  clear h
  induction hf with
  | nil => simp [SatAll]
  | @cons a b as bs hab _ ih =>
    have ha' : Defined (Alg.realWith ch) as ρ := fun c hc => ha c (mem_cons_of_mem _ hc)
    have hb' : Defined (Alg.realWith ch) bs ρ := fun c hc => hb c (mem_cons_of_mem _ hc)
    have h1 := sat_congrT hch hab.1 hab.2 hρ (ha a mem_cons_self) (hb b mem_cons_self)
    have h2 := ih ha' hb'
    simp only [SatAll, forall_mem_cons] at h2 ⊢
    exact and_congr h1 h2

theorem flatNFT_rel {B : ℕ} {tbl : List Itv} {nv : ℕ} {ρ : List ℝ} (hch : ChOK ch) (hρ : ρ.length = nv) :
    ∀ {cs : List Ctr} {flat : List (RF × Cmp)}, flatNFT B tbl nv cs = some flat →
      Defined (Alg.realWith ch) cs ρ →
      ∃ xs, Forall₂ (RelNF (valOf (ρ ++ atomVals ch tbl))) xs flat ∧
        (AllHold xs ↔ SatAll (Alg.realWith ch) cs ρ)
  | [], flat, h, _ => by
    simp only [flatNFT, Option.some.injEq] at h
    subst h
    exact ⟨[], Forall₂.nil, by simp [AllHold, SatAll]⟩
  | c :: cs, flat, h, hd => by
    simp only [flatNFT, bind, Option.bind_eq_some_iff] at h
    obtain ⟨F, hF, rest, hrest, h⟩ := h
    simp only [pure, Option.some.injEq] at h
    subst h
    obtain ⟨v, hv⟩ := hd c mem_cons_self
    obtain ⟨xs, hxs, hiff⟩ := flatNFT_rel hch hρ hrest (fun c' hc' => hd c' (mem_cons_of_mem _ hc'))
    have hrep := (nfT_real hch hρ hF hv).2.2
    refine ⟨v.d.map (fun x => (x, c.op)) ++ xs, ?_, ?_⟩
    · refine rel_append ?_ hxs
      rw [forall₂_map_left_iff, forall₂_map_right_iff]
      exact hrep.imp fun x e hxe => ⟨hxe, rfl⟩
    · rw [allHold_append, hiff]
      simp only [SatAll, forall_mem_cons]
      refine and_congr ?_ Iff.rfl
      unfold Ctr.Sat AllHold
      rw [exists_eq_some_and hv, forall_mem_map]

/-- **`f_ctrs` with `ops[]` describes the constraints**, for every selection of the thick constants. -/
theorem flatCheckTB_sound {B : ℕ} {tbl : List Itv} {nv : ℕ} {cs : List Ctr} {f : Prog} {ops : List Cmp}
    (hch : ChOK ch) (h : flatCheckTB B tbl nv cs f ops = some true) {ρ : List ℝ} (hρ : ρ.length = nv)
    (hd : Defined (Alg.realWith ch) cs ρ) {w : Mat ℝ} (hw : evalR (Alg.realWith ch) f ρ = some w) :
    SatF (Alg.realWith ch) f ops ρ ↔ SatAll (Alg.realWith ch) cs ρ := by
  simp only [flatCheckTB, bind, Option.bind_eq_some_iff] at h
  obtain ⟨F, hF, flat, hflat, h⟩ := h
  split_ifs at h with hl
  swap
  · exact absurd h (by simp)
  obtain ⟨xs, hxs, hiff⟩ := flatNFT_rel hch hρ hflat hd
  have hrep := (nfT_real hch hρ hF hw).2.2
  obtain ⟨hz, hzi⟩ := forall₂_zip_ops hrep hl
  rw [← hiff, matchAll_sound h hxs hz, hzi]
  exact exists_eq_some_and hw

end Sys
end Ibex
