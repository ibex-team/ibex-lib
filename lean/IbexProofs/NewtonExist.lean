/-
  Existence certificate `Newton.existCertVars` / `Newton.existCertVarsG r` (IbexModel/Newton.lean), for every
  sound rounding pair `r`: the Banach fixed point theorem on a box of `Fin m → ℝ` (sup metric) in matrix form,
  the enclosure lemmas for the interval computations of the certificate, and the Krawczyk test on a system whose
  slopes are enclosed by an interval matrix (`krawczyk_zero`).  The soundness theorem is in `Props/C09exist.lean`.
-/
import IbexProofs.NewtonCert
import Mathlib.Topology.MetricSpace.Contracting
import Mathlib.Topology.MetricSpace.Pseudo.Pi

namespace Ibex
open Ibex List Filter Topology

variable {r : Rnd}

/-! ## sums over lists -/

theorem sum_range_getD (ms : List ℚ) :
    ∑ k ∈ Finset.range ms.length, ((ms.getD k 0 : ℚ) : ℝ) = ((ms.sum : ℚ) : ℝ) := by
  induction ms with
  | nil => simp
  | cons q ms ih =>
    rw [List.length_cons, Finset.sum_range_succ']
    simp only [List.getD_cons_succ, List.getD_cons_zero, List.sum_cons, Rat.cast_add]
    rw [ih]; ring

theorem foldl_add_range (f : ℕ → ℚ) (m : ℕ) :
    (List.range m).foldl (fun acc t => acc + f t) 0 = ∑ t ∈ Finset.range m, f t := by
  induction m with
  | zero => simp
  | succ m ih => rw [List.range_succ, List.foldl_append, ih, Finset.sum_range_succ]; rfl

/-! ## Banach fixed point on a box -/

theorem banach_fixed_box {m : ℕ} (lo hi : Fin m → ℝ) (g : (Fin m → ℝ) → (Fin m → ℝ))
    (q : Fin m → Fin m → ℝ) (hq0 : ∀ i c, 0 ≤ q i c) (hq : ∀ i, ∑ c, q i c < 1)
    (hne : lo ≤ hi)
    (hmaps : ∀ y ∈ Set.Icc lo hi, g y ∈ Set.Icc lo hi)
    (hlip : ∀ y ∈ Set.Icc lo hi, ∀ y' ∈ Set.Icc lo hi, ∃ B : Fin m → Fin m → ℝ,
      (∀ i c, |B i c| ≤ q i c) ∧ ∀ i, g y i - g y' i = ∑ c, B i c * (y c - y' c)) :
    ∃ z ∈ Set.Icc lo hi, g z = z := by
  classical
  let rs : Fin m → NNReal := fun i => ⟨∑ c, q i c, Finset.sum_nonneg fun c _ => hq0 i c⟩
  let K : NNReal := Finset.univ.sup rs
  have hK1 : K < 1 := by
    rw [Finset.sup_lt_iff (by simp)]
    intro i _
    exact_mod_cast (show ((rs i : NNReal) : ℝ) < 1 from hq i)
  have hKi : ∀ i, ∑ c, q i c ≤ (K : ℝ) := fun i => by
    have : rs i ≤ K := Finset.le_sup (f := rs) (Finset.mem_univ i)
    exact_mod_cast this
  have hsf : Set.MapsTo g (Set.Icc lo hi) (Set.Icc lo hi) := hmaps
  have hcontr : ContractingWith K (hsf.restrict g _ _) := by
    refine ⟨hK1, LipschitzWith.of_dist_le_mul fun y y' => ?_⟩
    rw [Subtype.dist_eq, Subtype.dist_eq]
    simp only [Set.MapsTo.val_restrict_apply]
    obtain ⟨B, hB, hg⟩ := hlip y y.2 y' y'.2
    refine (dist_pi_le_iff (mul_nonneg K.2 dist_nonneg)).2 ?_
    intro i
    rw [Real.dist_eq, hg i]
    calc |∑ c, B i c * ((y : Fin m → ℝ) c - (y' : Fin m → ℝ) c)|
        ≤ ∑ c, |B i c * ((y : Fin m → ℝ) c - (y' : Fin m → ℝ) c)| := Finset.abs_sum_le_sum_abs _ _
      _ ≤ ∑ c, q i c * dist (y : Fin m → ℝ) (y' : Fin m → ℝ) := by
          refine Finset.sum_le_sum fun c _ => ?_
          rw [abs_mul]
          refine mul_le_mul (hB i c) ?_ (abs_nonneg _) (hq0 i c)
          rw [← Real.dist_eq]
          exact dist_le_pi_dist _ _ c
      _ = (∑ c, q i c) * dist (y : Fin m → ℝ) (y' : Fin m → ℝ) := by rw [Finset.sum_mul]
      _ ≤ K * dist (y : Fin m → ℝ) (y' : Fin m → ℝ) := mul_le_mul_of_nonneg_right (hKi i) dist_nonneg
  obtain ⟨z, hz, hfix, _⟩ := hcontr.exists_fixedPoint' isClosed_Icc.isComplete hsf
    (x := lo) (Set.left_mem_Icc.2 hne) (edist_ne_top _ _)
  exact ⟨z, hz, hfix⟩

/-! ## enclosure lemmas for the interval computations of the certificate -/

theorem dotIG_encl (hr : r.Sound) {as bs : List Itv} {m : ℕ} (ha : as.length = m) (hb : bs.length = m)
    (u v : Fin m → ℝ)
    (hu : ∀ k : Fin m, u k ∈ as.getD k .empty) (hv : ∀ k : Fin m, v k ∈ bs.getD k .empty) :
    ∑ k : Fin m, u k * v k ∈ Newton.dotIG r as bs := by
  have := Itv.dot_encl hr (forall₂_ofFn_getD ha hu) (forall₂_ofFn_getD hb hv)
  rw [sum_zip_ofFn] at this
  have e : ∀ k : Fin m, (List.ofFn u).getD k 0 = u k := fun k => by
    rw [List.getD_eq_getElem _ _ (by rw [List.length_ofFn]; exact k.2), List.getElem_ofFn]
  simpa only [e, Newton.dotIG] using this

theorem precondG_length (c : List (List ℚ)) (j : List (List Itv)) :
    (Newton.precondG r c j).length = c.length := by
  simp [Newton.precondG]

theorem precondG_row_length {c : List (List ℚ)} {j : List (List Itv)} {i : ℕ} (hi : i < c.length) :
    ((Newton.precondG r c j).getD i []).length = j.length := by
  simp [Newton.precondG, List.getD_eq_getElem?_getD, List.getElem?_map, List.getElem?_eq_getElem hi]

theorem iterMatG_length (c : List (List ℚ)) (j : List (List Itv)) :
    (Newton.iterMatG r c j).length = c.length := by
  simp [Newton.iterMatG, precondG_length]

theorem iterMatG_getD {c : List (List ℚ)} {j : List (List Itv)} {i k : ℕ} (hi : i < c.length)
    (hk : k < j.length) :
    ((Newton.iterMatG r c j).getD i []).getD k .empty =
      Itv.subG r (Itv.point (if k == i then 1 else 0)) (((Newton.precondG r c j).getD i []).getD k .empty) := by
  have hi' : i < (Newton.precondG r c j).length := by rw [precondG_length]; exact hi
  have hk' : k < ((Newton.precondG r c j)[i]).length := by
    have := precondG_row_length (r := r) (j := j) hi
    rw [List.getD_eq_getElem _ _ hi'] at this
    rw [this]; exact hk
  unfold Newton.iterMatG
  simp only [List.getD_eq_getElem?_getD, List.getElem?_map, List.getElem?_zipIdx,
    List.getElem?_eq_getElem hi', Option.map_some, Option.getD_some, Nat.zero_add,
    List.getElem?_eq_getElem hk']

theorem iterMatG_row_length {c : List (List ℚ)} {j : List (List Itv)} {i : ℕ} (hi : i < c.length) :
    ((Newton.iterMatG r c j).getD i []).length = j.length := by
  have hi' : i < (Newton.precondG r c j).length := by rw [precondG_length]; exact hi
  have := precondG_row_length (r := r) (j := j) hi
  rw [List.getD_eq_getElem _ _ hi'] at this
  unfold Newton.iterMatG
  simp only [List.getD_eq_getElem?_getD, List.getElem?_map, List.getElem?_zipIdx,
    List.getElem?_eq_getElem hi', Option.map_some, Option.getD_some, List.length_map, List.length_zipIdx]
  exact this

theorem rowSum_sound {row : List Itv} (hrow : Newton.rowSumLt1 row = true) {m : ℕ} (hl : row.length = m) :
    ∃ qs : Fin m → ℝ, (∀ c, 0 ≤ qs c) ∧ (∀ (c : Fin m) (x : ℝ), x ∈ row.getD c .empty → |x| ≤ qs c) ∧
      ∑ c, qs c < 1 := by
  unfold Newton.rowSumLt1 at hrow
  split at hrow
  · exact absurd hrow (by simp)
  · rename_i ms hms
    have hf := mapM_eq_some_iff.1 hms
    have hlen : ms.length = m := by rw [← hf.length_eq, hl]
    refine ⟨fun c => ((ms.getD c 0 : ℚ) : ℝ), fun c => ?_, fun c x hx => ?_, ?_⟩
    · have hc : (c : ℕ) < row.length := hl ▸ c.2
      obtain ⟨hc', hq⟩ := forall₂_getElem hf hc
      show (0 : ℝ) ≤ ((ms.getD c 0 : ℚ) : ℝ)
      rw [List.getD_eq_getElem _ _ hc']
      exact magQ_nonneg hq
    · have hc : (c : ℕ) < row.length := hl ▸ c.2
      obtain ⟨hc', hq⟩ := forall₂_getElem hf hc
      rw [List.getD_eq_getElem _ _ hc] at hx
      show |x| ≤ ((ms.getD c 0 : ℚ) : ℝ)
      rw [List.getD_eq_getElem _ _ hc']
      exact magQ_sound hq hx
    · rw [Fin.sum_univ_eq_sum_range (fun k => ((ms.getD k 0 : ℚ) : ℝ)) m, ← hlen, sum_range_getD,
        List.sum_eq_foldl]
      have : ms.foldl (· + ·) 0 < 1 := by simpa using hrow
      exact_mod_cast this

theorem boundsQ_some {I : Itv} {ab : ℚ × ℚ} (h : Newton.boundsQ I = some ab) :
    I = Itv.mk (.fin ab.1) (.fin ab.2) ∧ ab.1 ≤ ab.2 := by
  unfold Newton.boundsQ at h
  split at h
  · split at h
    · rename_i hle
      simp only [Option.some.injEq] at h
      subst h
      exact ⟨rfl, hle⟩
    · exact absurd h (by simp)
  · exact absurd h (by simp)

theorem exists_bounds {h : Box} {vars : List ℕ} {bnds : List (ℚ × ℚ)}
    (hb : vars.mapM (fun v => Newton.boundsQ (h.getD v .empty)) = some bnds) :
    ∃ lo hi : Fin vars.length → ℝ,
      (∀ (c : Fin vars.length) (t : ℝ), t ∈ h.getD vars[(c : ℕ)] .empty ↔ lo c ≤ t ∧ t ≤ hi c) ∧
      (fun c : Fin vars.length =>
        ((((bnds.map fun (ab : ℚ × ℚ) => (ab.1 + ab.2) / 2).getD c 0 : ℚ)) : ℝ)) ∈ Set.Icc lo hi := by
  have hbf := mapM_eq_some_iff.1 hb
  have key : ∀ c : Fin vars.length, ∃ ab : ℚ × ℚ, bnds[(c : ℕ)]? = some ab ∧
      h.getD vars[(c : ℕ)] .empty = Itv.mk (.fin ab.1) (.fin ab.2) ∧ ab.1 ≤ ab.2 := fun c => by
    obtain ⟨hc', hq⟩ := forall₂_getElem hbf c.2
    exact ⟨_, List.getElem?_eq_getElem hc', boundsQ_some hq⟩
  choose ab hab hI hle using key
  refine ⟨fun c => ((ab c).1 : ℝ), fun c => ((ab c).2 : ℝ), fun c t => by rw [hI c, mem_fin_iff], ?_⟩
  have hm : ∀ c : Fin vars.length,
      ((((bnds.map fun (ab : ℚ × ℚ) => (ab.1 + ab.2) / 2).getD c 0 : ℚ)) : ℝ) =
        (((ab c).1 : ℝ) + ((ab c).2 : ℝ)) / 2 := fun c => by
    rw [List.getD_eq_getElem?_getD, List.getElem?_map, hab c]
    simp only [Option.map_some, Option.getD_some]
    push_cast
    ring
  have hle' : ∀ c, ((ab c).1 : ℝ) ≤ ((ab c).2 : ℝ) := fun c => by exact_mod_cast hle c
  exact ⟨fun c => le_of_le_of_eq (by linarith [hle' c]) (hm c).symm,
    fun c => le_of_eq_of_le (hm c) (by linarith [hle' c])⟩

theorem nodupB_iff (l : List ℕ) : Newton.nodupB l = true ↔ l.Nodup := by
  induction l with
  | nil => simp [Newton.nodupB]
  | cons v vs ih => simp [Newton.nodupB, ih, List.nodup_cons]

theorem leftInvOk_sound {l c : List (List ℚ)} {m : ℕ} (h : Newton.leftInvOk l c m = true) (i k : Fin m) :
    ∑ t : Fin m, (((l.getD i []).getD t 0 : ℚ) : ℝ) * (((c.getD t []).getD k 0 : ℚ) : ℝ) =
      if i = k then 1 else 0 := by
  unfold Newton.leftInvOk at h
  simp only [List.all_eq_true, List.mem_range, beq_iff_eq] at h
  have := h i i.2 k k.2
  rw [foldl_add_range] at this
  rw [Fin.sum_univ_eq_sum_range (fun t => (((l.getD i []).getD t 0 : ℚ) : ℝ) * (((c.getD t []).getD k 0 : ℚ) : ℝ)) m]
  have h2 := congrArg (fun q : ℚ => (q : ℝ)) this
  simp only [Rat.cast_sum, Rat.cast_mul] at h2
  rw [h2]
  by_cases hik : i = k
  · subst hik; simp
  · have : ¬ (i : ℕ) = k := fun e => hik (Fin.ext e)
    simp [hik, this]

theorem midBox_length (h : Box) (vars : List ℕ) (xm : List ℚ) : (Newton.midBox h vars xm).length = h.length := by
  simp [Newton.midBox]

theorem midBox_getD {h : Box} {vars : List ℕ} {xm : List ℚ} {k : ℕ} (hk : k < h.length) :
    (Newton.midBox h vars xm).getD k .empty =
      if vars.idxOf k < vars.length then Itv.point (xm.getD (vars.idxOf k) 0) else h.getD k .empty := by
  unfold Newton.midBox
  simp only [List.getD_eq_getElem?_getD, List.getElem?_map, List.getElem?_zipIdx,
    List.getElem?_eq_getElem hk, Option.map_some, Option.getD_some, Nat.zero_add]

/-! ## the Krawczyk test -/

theorem eq_zero_of_leftInv {l c : List (List ℚ)} {m : ℕ} (hL : Newton.leftInvOk l c m = true) (v : Fin m → ℝ)
    (hv : ∀ i : Fin m, ∑ t : Fin m, (((c.getD i []).getD t 0 : ℚ) : ℝ) * v t = 0) (k : Fin m) : v k = 0 := by
  have h1 : ∑ i : Fin m, (((l.getD k []).getD i 0 : ℚ) : ℝ) * ∑ t : Fin m, (((c.getD i []).getD t 0 : ℚ) : ℝ) * v t = 0 :=
    Finset.sum_eq_zero fun i _ => by rw [hv i, mul_zero]
  have h2 : ∑ i : Fin m, (((l.getD k []).getD i 0 : ℚ) : ℝ) * ∑ t : Fin m, (((c.getD i []).getD t 0 : ℚ) : ℝ) * v t =
      ∑ t : Fin m, (∑ i : Fin m, (((l.getD k []).getD i 0 : ℚ) : ℝ) * (((c.getD i []).getD t 0 : ℚ) : ℝ)) * v t := by
    simp only [Finset.mul_sum, Finset.sum_mul]
    rw [Finset.sum_comm]
    refine Finset.sum_congr rfl fun t _ => Finset.sum_congr rfl fun i _ => by ring
  rw [h2] at h1
  simpa only [leftInvOk_sound hL, ite_mul, one_mul, zero_mul, Finset.sum_ite_eq, Finset.mem_univ, if_true]
    using h1

/-- increments of the Krawczyk map `y ↦ y − C f(y)`: if `f y − f y' = A (y − y')` with `A ∈ [J]` then the
    increment is `B (y − y')` with `B = I − C A ∈ I − C [J]` -/
theorem krawczyk_incr (hr : r.Sound) {m : ℕ} {cm : List (List ℚ)} {j : List (List Itv)} (hcm : cm.length = m)
    (hjl : j.length = m) (A : Fin m → Fin m → ℝ) (hA : ∀ k c : Fin m, A k c ∈ (j.getD k []).getD c .empty)
    {fy fy' y y' : Fin m → ℝ} (hsum : ∀ k, fy k - fy' k = ∑ c, A k c * (y c - y' c)) :
    ∃ B : Fin m → Fin m → ℝ,
      (∀ i c : Fin m, B i c ∈ ((Newton.iterMatG r cm j).getD i []).getD c .empty) ∧
      ∀ i, (y i - ∑ k : Fin m, (((cm.getD i []).getD k 0 : ℚ) : ℝ) * fy k) -
        (y' i - ∑ k : Fin m, (((cm.getD i []).getD k 0 : ℚ) : ℝ) * fy' k) = ∑ c, B i c * (y c - y' c) := by
  refine ⟨fun i c => (if c = i then 1 else 0) - ∑ k : Fin m, (((cm.getD i []).getD k 0 : ℚ) : ℝ) * A k c,
    fun i c => ?_, fun i => ?_⟩
  · rw [iterMatG_getD (hcm ▸ i.2) (hjl ▸ c.2)]
    refine Itv.subG_encl hr ?_ (precondG_encl hr hjl A hA i c (hcm ▸ i.2))
    by_cases hci : c = i
    · subst hci
      simpa using mem_point_cast 1
    · have : ¬ (c : ℕ) = i := fun e => hci (Fin.ext e)
      simpa [hci, this] using mem_point_cast 0
  · have h1 : (y i - ∑ k : Fin m, (((cm.getD i []).getD k 0 : ℚ) : ℝ) * fy k) -
        (y' i - ∑ k : Fin m, (((cm.getD i []).getD k 0 : ℚ) : ℝ) * fy' k) =
        (y i - y' i) - ∑ k : Fin m, (((cm.getD i []).getD k 0 : ℚ) : ℝ) * (fy k - fy' k) := by
      simp only [mul_sub, Finset.sum_sub_distrib]
      ring
    rw [h1]
    simp only [hsum, sub_mul, Finset.sum_sub_distrib, ite_mul, one_mul, zero_mul,
      Finset.sum_ite_eq', Finset.mem_univ, if_true]
    congr 1
    simp only [Finset.mul_sum, Finset.sum_mul]
    rw [Finset.sum_comm]
    refine Finset.sum_congr rfl fun c _ => Finset.sum_congr rfl fun k _ => by ring

/-- **The Krawczyk test.**  `f` is a system of `m` real functions of `m` variables on the box `[lo,hi]`,
    whose slopes between two points of the box are enclosed by the
    interval matrix `j`, and whose value at the point `xm` by `fm`; `rad` encloses `[lo,hi] − xm`.  If the
    row sums of the magnitudes of `I − C [J]` are `< 1`, the Krawczyk operator
    `xm − C fm + (I − C [J]) rad` is inside the box and `C` has an exact left inverse, then `f` has a zero in
    the box: `y ↦ y − C f(y)` is a contraction (`krawczyk_incr`, `rowSum_sound`) of the box into itself, and
    its fixed point is a zero (`eq_zero_of_leftInv`). -/
theorem krawczyk_zero (hr : r.Sound) {m : ℕ} (lo hi : Fin m → ℝ) (f : Fin m → (Fin m → ℝ) → ℝ)
    {mid cm : List (List ℚ)} {j : List (List Itv)} {fm rad : List Itv} {xm : List ℚ}
    (hcm : cm.length = m) (hjl : j.length = m) (hfml : fm.length = m) (hradl : rad.length = m)
    (hxm : (fun c : Fin m => ((xm.getD c 0 : ℚ) : ℝ)) ∈ Set.Icc lo hi)
    (hrad : ∀ y ∈ Set.Icc lo hi, ∀ c : Fin m, y c - ((xm.getD c 0 : ℚ) : ℝ) ∈ rad.getD c .empty)
    (hslope : ∀ y ∈ Set.Icc lo hi, ∀ y' ∈ Set.Icc lo hi, ∀ k : Fin m,
      ∃ a : Fin m → ℝ, (∀ c : Fin m, a c ∈ (j.getD k []).getD c .empty) ∧
        f k y - f k y' = ∑ c, a c * (y c - y' c))
    (hfm : ∀ k : Fin m, f k (fun c => ((xm.getD c 0 : ℚ) : ℝ)) ∈ fm.getD k .empty)
    (hL : Newton.leftInvOk mid cm m = true) (hrow : (Newton.iterMatG r cm j).all Newton.rowSumLt1 = true)
    (hK : ∀ (i : Fin m) (t : ℝ),
      t ∈ Itv.addG r (Itv.subG r (Itv.point (xm.getD i 0)) (Newton.dotQG r (cm.getD i []) fm))
        (Newton.dotIG r ((Newton.iterMatG r cm j).getD i []) rad) → lo i ≤ t ∧ t ≤ hi i) :
    ∃ z ∈ Set.Icc lo hi, ∀ k, f k z = 0 := by
  classical
  let xr : Fin m → ℝ := fun c => ((xm.getD c 0 : ℚ) : ℝ)
  let C : Fin m → Fin m → ℝ := fun i k => (((cm.getD i []).getD k 0 : ℚ) : ℝ)
  let G : (Fin m → ℝ) → Fin m → ℝ := fun y i => y i - ∑ k, C i k * f k y
  have hGdiff : ∀ y ∈ Set.Icc lo hi, ∀ y' ∈ Set.Icc lo hi, ∃ B : Fin m → Fin m → ℝ,
      (∀ i c : Fin m, B i c ∈ ((Newton.iterMatG r cm j).getD i []).getD c .empty) ∧
      ∀ i, G y i - G y' i = ∑ c, B i c * (y c - y' c) := by
    intro y hy y' hy'
    choose A hA hsum using hslope y hy y' hy'
    exact krawczyk_incr hr hcm hjl A hA hsum
  have hrows : ∀ i : Fin m, ∃ qs : Fin m → ℝ, (∀ c, 0 ≤ qs c) ∧
      (∀ (c : Fin m) (x : ℝ), x ∈ ((Newton.iterMatG r cm j).getD i []).getD c .empty → |x| ≤ qs c) ∧
      ∑ c, qs c < 1 := by
    intro i
    have hi : (i : ℕ) < (Newton.iterMatG r cm j).length := by rw [iterMatG_length, hcm]; exact i.2
    rw [List.all_eq_true] at hrow
    have := hrow _ (List.getElem_mem hi)
    rw [← List.getD_eq_getElem _ [] hi] at this
    exact rowSum_sound this (by rw [iterMatG_row_length (hcm ▸ i.2), hjl])
  choose q hq0 hqB hq1 using hrows
  have hmaps : ∀ y ∈ Set.Icc lo hi, G y ∈ Set.Icc lo hi := by
    intro y hy
    obtain ⟨B, hB, hBsum⟩ := hGdiff y hy xr hxm
    have hmem : ∀ i : Fin m, lo i ≤ G y i ∧ G y i ≤ hi i := by
      intro i
      refine hK i _ ?_
      have e1 : G y i = (xr i - ∑ k, C i k * f k xr) + ∑ c, B i c * (y c - xr c) := by
        rw [← hBsum i]; ring
      rw [e1]
      refine Itv.addG_encl hr
        (Itv.subG_encl hr (mem_point_cast _) (dotQG_encl hr hfml (fun k => f k xr) hfm)) ?_
      exact dotIG_encl hr (by rw [iterMatG_row_length (hcm ▸ i.2), hjl]) hradl (fun c => B i c)
        (fun c => y c - xr c) (hB i) (hrad y hy)
    exact ⟨fun i => (hmem i).1, fun i => (hmem i).2⟩
  obtain ⟨z, hzI, hfix⟩ := banach_fixed_box lo hi G q hq0 hq1 (fun c => (hxm.1 c).trans (hxm.2 c)) hmaps fun y hy y' hy' => by
    obtain ⟨B, hB, hBsum⟩ := hGdiff y hy y' hy'
    exact ⟨B, fun i c => hqB i c _ (hB i c), hBsum⟩
  refine ⟨z, hzI, eq_zero_of_leftInv hL (fun k => f k z) fun i => ?_⟩
  have := congrFun hfix i
  simp only [G] at this
  linarith

/-! ## the certificate -/

/-- what the uniqueness and the existence certificates have in common: the interval Jacobian, its columns
    `j` of the variables, the exact inverse `c` of the midpoint `mid` of `j`; `K j mid c` is the test proper -/
def Newton.withInverse (jac : List (List Dag × Dag) → Box → Option (List (List Itv)))
    (progs : List (List Dag × Dag)) (h : Box) (vars : List Nat)
    (K : List (List Itv) → List (List Rat) → List (List Rat) → Bool) : Bool :=
  match jac progs h with
  | none => false
  | some jfull =>
    let j := jfull.map fun row => vars.map fun v => row.getD v .empty
    match (j.mapM fun row => row.mapM midRat) with
    | none => false
    | some mid =>
      match inverse mid with
      | none => false
      | some c => K j mid c

theorem withInverse_unpack {jac : List (List Dag × Dag) → Box → Option (List (List Itv))}
    {progs : List (List Dag × Dag)} {h : Box} {vars : List ℕ}
    {K : List (List Itv) → List (List ℚ) → List (List ℚ) → Bool}
    (hw : Newton.withInverse jac progs h vars K = true) :
    ∃ (jfull : List (List Itv)) (mid c : List (List ℚ)), jac progs h = some jfull ∧
      c.length = jfull.length ∧
      K (jfull.map fun row => vars.map fun v => row.getD v .empty) mid c = true := by
  unfold Newton.withInverse at hw
  split at hw
  · cases hw
  · rename_i jfull hJ
    simp only at hw
    split at hw
    · cases hw
    · rename_i mid hmid
      split at hw
      · cases hw
      · rename_i c hc
        refine ⟨jfull, mid, c, hJ, ?_, hw⟩
        rw [inverse_length hc, ← (mapM_eq_some_iff.1 hmid).length_eq, List.length_map]

/-- `Newton.existCertVars` (`r = Rnd.dbl`) and `Newton.existCertVarsG r` as a function of the procedures
    `jac` (interval Jacobian) and `ev` (interval evaluation of one function) that they use -/
def Newton.existCertOf (r : Rnd) (jac : List (List Dag × Dag) → Box → Option (List (List Itv))) (ev : List Dag × Dag → Box → Option Itv)
    (progs : List (List Dag × Dag)) (h : Box) (vars : List Nat) : Bool :=
  progs.length == vars.length && !Box.isEmpty h && vars.all (· < h.length) && nodupB vars &&
  withInverse jac progs h vars fun j mid c =>
    leftInvOk mid c vars.length &&
    match vars.mapM (fun v => boundsQ (h.getD v .empty)) with
    | none => false
    | some bnds =>
      let xm := bnds.map fun (ab : Rat × Rat) => (ab.1 + ab.2) / 2
      match progs.mapM (fun p => ev p (midBox h vars xm)) with
      | none => false
      | some fm =>
        let mm := iterMatG r c j
        let rad := List.zipWith (fun v x => Itv.subG r (h.getD v .empty) (Itv.point x)) vars xm
        mm.all rowSumLt1 &&
        ((List.range vars.length).all fun i =>
          Itv.subset
            (Itv.addG r (Itv.subG r (Itv.point (xm.getD i 0)) (dotQG r (c.getD i []) fm))
              (dotIG r (mm.getD i []) rad))
            (h.getD (vars.getD i 0) .empty))

/-! The model's two certificates are `existCertOf` at their own procedures: `existCertVarsG r` uses
    `jacobianG r`, `evalItv1G r`; `existCertVars` is written with `Itv.add`, `Itv.mul`, … (`= Itv.addG Rnd.dbl`,
    … by unfolding) and uses `jacobian`, `evalItv1`.  Nothing else differs. -/

theorem existCertVarsG_eq (progs : List (List Dag × Dag)) (h : Box) (vars : List ℕ) :
    Newton.existCertVarsG r progs h vars =
      Newton.existCertOf r (Newton.jacobianG r) (Newton.evalItv1G r) progs h vars := by rfl

theorem existCertVars_eq (progs : List (List Dag × Dag)) (h : Box) (vars : List ℕ) :
    Newton.existCertVars progs h vars =
      Newton.existCertOf Rnd.dbl Newton.jacobian Newton.evalItv1 progs h vars := by rfl

theorem exist_unpack {jac : List (List Dag × Dag) → Box → Option (List (List Itv))} {ev : List Dag × Dag → Box → Option Itv}
    {progs : List (List Dag × Dag)} {h : Box} {vars : List ℕ}
    (hcert : Newton.existCertOf r jac ev progs h vars = true) :
    progs.length = vars.length ∧ (∀ v ∈ vars, v < h.length) ∧ vars.Nodup ∧
    ∃ (jfull : List (List Itv)) (mid c : List (List ℚ)) (bnds : List (ℚ × ℚ)) (fm : List Itv) (xm : List ℚ)
      (j : List (List Itv)),
      (bnds.map fun (ab : ℚ × ℚ) => (ab.1 + ab.2) / 2) = xm ∧
      (jfull.map fun row => vars.map fun v => row.getD v .empty) = j ∧
      jac progs h = some jfull ∧ c.length = jfull.length ∧
      Newton.leftInvOk mid c vars.length = true ∧
      vars.mapM (fun v => Newton.boundsQ (h.getD v .empty)) = some bnds ∧
      progs.mapM (fun p => ev p (Newton.midBox h vars xm)) = some fm ∧
      (Newton.iterMatG r c j).all Newton.rowSumLt1 = true ∧
      ∀ i < vars.length, Itv.subset
        (Itv.addG r (Itv.subG r (Itv.point (xm.getD i 0)) (Newton.dotQG r (c.getD i []) fm))
          (Newton.dotIG r ((Newton.iterMatG r c j).getD i [])
            (List.zipWith (fun v x => Itv.subG r (h.getD v .empty) (Itv.point x)) vars xm)))
        (h.getD (vars.getD i 0) .empty) = true := by
  unfold Newton.existCertOf at hcert
  simp only [Bool.and_eq_true, beq_iff_eq, List.all_eq_true, decide_eq_true_eq] at hcert
  obtain ⟨⟨⟨⟨hlen, _⟩, hvars⟩, hnd⟩, hmatch⟩ := hcert
  refine ⟨hlen, hvars, (nodupB_iff vars).1 hnd, ?_⟩
  obtain ⟨jfull, mid, c, hJ, hc, hmatch⟩ := withInverse_unpack hmatch
  simp only [Bool.and_eq_true] at hmatch
  obtain ⟨hL, hmatch⟩ := hmatch
  split at hmatch
  · cases hmatch
  · rename_i bnds hb
    split at hmatch
    · cases hmatch
    · rename_i fm hfm
      simp only [Bool.and_eq_true, List.all_eq_true, List.mem_range] at hmatch
      refine ⟨jfull, mid, c, bnds, fm, _, _, rfl, rfl, hJ, hc, hL, hb, hfm, ?_, hmatch.2⟩
      rw [List.all_eq_true]
      exact hmatch.1

end Ibex
