/-
  Equations that evaluate `Eval.run` / `Eval.root` on a DAG given as a literal, one node at a time
  (simp set `dag_eval`), for any algebra.
-/
import IbexProofs.EvalNat

namespace Ibex
open Ibex List

section Rel
variable {α β γ δ : Type}

namespace Eval
variable {A : Alg α} {B : Alg β}

/-! ### evaluating a DAG given as a literal

The simp set `dag_eval` computes `run`/`root` of a literal DAG node by node:
`simp +decide only [theDag, dag_eval]` (`+decide` for the side condition `op ≠ "trans"` of
`unVal_scalar`).  It never unfolds `nodeVal`, `binVal`, `unVal` or an algebra: the matches on
operator names are what makes that slow. -/

section Literal
variable {env : List α} {call : Nat → List (Mat α) → Option (Mat α)} {vals : Array (Mat α)}

@[dag_eval] theorem run_toArray (l : List Node) :
    run A env call l.toArray = l.foldlM (step A env call) #[] :=
  run_eq A env call _

@[dag_eval] theorem root_eq_bind (dag : Dag) :
    root A env call dag = (run A env call dag).bind (·.back?) := rfl

@[dag_eval] theorem mapM_getElem?_nil : ([] : List Nat).mapM (fun i => vals[i]?) = some [] := rfl

@[dag_eval] theorem mapM_getElem?_cons (i : Nat) (is : List Nat) :
    (i :: is).mapM (fun i => vals[i]?) =
      vals[i]?.bind fun v => (is.mapM fun i => vals[i]?).map (v :: ·) := by
  rw [List.mapM_cons]
  cases vals[i]? <;> cases is.mapM (fun i => vals[i]?) <;> rfl

@[dag_eval] theorem nodeVal_var_scalar (off : Nat) :
    nodeVal A env call vals ⟨.var off, 1, 1⟩ = env[off]?.map Mat.scalar := by
  simp only [nodeVal, Nat.mul_one, List.take_one, List.head?_drop]
  cases env[off]? <;> rfl

@[dag_eval] theorem nodeVal_const_scalar (I : Itv) :
    nodeVal A env call vals ⟨.const [I], 1, 1⟩ = (A.ofItv I).map Mat.scalar := by
  simp only [nodeVal, List.mapM_cons, List.mapM_nil]
  cases A.ofItv I <;> rfl

@[dag_eval] theorem nodeVal_un (op : String) (a r c : Nat) :
    nodeVal A env call vals ⟨.un op a, r, c⟩ = vals[a]?.bind (unVal A op) := rfl

@[dag_eval] theorem nodeVal_bin (op : String) (a b r c : Nat) :
    nodeVal A env call vals ⟨.bin op a b, r, c⟩ =
      vals[a]?.bind fun va => vals[b]?.bind fun vb => binVal A op va vb := rfl

@[dag_eval] theorem nodeVal_pow (a : Nat) (k : Int) (r c : Nat) :
    nodeVal A env call vals ⟨.pow a k, r, c⟩ =
      vals[a]?.bind fun v => if v.isScalar then v.mapM? (fun x => A.pow x k) else none := rfl

@[dag_eval] theorem nodeVal_idx (a r1 r2 c1 c2 r c : Nat) :
    nodeVal A env call vals ⟨.idx a r1 r2 c1 c2, r, c⟩ = vals[a]?.bind (·.sub? r1 r2 c1 c2) := rfl

@[dag_eval] theorem nodeVal_vec (row : Bool) (as : List Nat) (r c : Nat) :
    nodeVal A env call vals ⟨.vec row as, r, c⟩ = (as.mapM fun i => vals[i]?).bind (vecVal row) := rfl

@[dag_eval] theorem nodeVal_apply (f : Nat) (as : List Nat) (r c : Nat) :
    nodeVal A env call vals ⟨.apply f as, r, c⟩ = (as.mapM fun i => vals[i]?).bind (call f) := rfl

variable (a b : Mat α)

@[dag_eval] theorem binVal_add : binVal A "add" a b = Mat.zip? A.add a b := rfl
@[dag_eval] theorem binVal_sub : binVal A "sub" a b = Mat.zip? A.sub a b := rfl
@[dag_eval] theorem binVal_mul : binVal A "mul" a b = mulVal A a b := rfl
@[dag_eval] theorem binVal_div :
    binVal A "div" a b = if a.isScalar && b.isScalar then Mat.zip? A.div a b else none := rfl
@[dag_eval] theorem binVal_max :
    binVal A "max" a b = if a.isScalar && b.isScalar then Mat.zip? A.max a b else none := rfl
@[dag_eval] theorem binVal_min :
    binVal A "min" a b = if a.isScalar && b.isScalar then Mat.zip? A.min a b else none := rfl

@[dag_eval] theorem mulVal_scalar (x : α) : mulVal A (Mat.scalar x) b = b.mapM? (A.mul x) := rfl

@[dag_eval] theorem unVal_trans : unVal A "trans" a = some a.transpose := rfl

@[dag_eval] theorem unVal_scalar {op : String} (hop : op ≠ "trans") (x : α) :
    unVal A op (Mat.scalar x) = (A.un op).bind fun f => (f x).map Mat.scalar := by
  unfold unVal
  split
  · exact absurd rfl hop
  · simp only [Mat.mapM?_scalar]
  · simp only [Mat.isScalar_scalar, if_true, Mat.mapM?_scalar]

@[dag_eval] theorem buildCalls_nil : buildCalls A [] = fun _ _ => none := rfl

@[dag_eval] theorem buildCalls_singleton (d : Dag) : buildCalls A [d] = fun i args =>
    if i == 0 then root A (args.flatMap (·.d)) (fun _ _ => none) d else none :=
  buildCalls_concat [] d

attribute [dag_eval] List.getElem?_toArray List.getElem?_cons_zero List.getElem?_cons_succ
  List.getElem?_nil List.push_toArray List.nil_append List.cons_append List.append_nil
  List.flatMap_cons List.flatMap_nil List.back?_toArray List.getLast?_cons_cons List.getLast?_singleton
  Option.bind_some Option.bind_none Option.map_some Option.map_none if_true if_false
  and_self and_true true_and and_false false_and beq_self_eq_true ne_eq not_false_eq_true

end Literal

end Eval

end Rel

end Ibex
