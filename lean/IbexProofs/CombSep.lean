/-
  C19 — separators: the separator contract and its closure under pair-of-contractors,
  intersection, union, complement and q-intersection, for ARBITRARY sub-separators.
-/
import IbexProofs.Comb

namespace Ibex.C19
open Ibex Ibex.Comb

/-- the separator contract, for boxes of dimension `n`, w.r.t. the set `S` (a separator is called with
    `x_in = x_out = x`):
    two sub-boxes; the points outside `S` stay in the inner box, the points of `S` stay in the outer box -/
structure SepOK (n : Nat) (s : SepFn) (S : Set Pt) : Prop where
  subIn : ∀ x, x.length = n → BSub (s x).xin x
  subOut : ∀ x, x.length = n → BSub (s x).xout x
  keepIn : ∀ x p, x.length = n → Mem p x → p ∉ S → Mem p (s x).xin
  keepOut : ∀ x p, x.length = n → Mem p x → p ∈ S → Mem p (s x).xout

theorem SepOK.removed_inner {n : Nat} {s : SepFn} {S : Set Pt} (h : SepOK n s S) {x : Box} {p : Pt}
    (hx : x.length = n) (hp : Mem p x) (hr : ¬ Mem p (s x).xin) : p ∈ S := by
  by_contra hS; exact hr (h.keepIn x p hx hp hS)

theorem SepOK.removed_outer {n : Nat} {s : SepFn} {S : Set Pt} (h : SepOK n s S) {x : Box} {p : Pt}
    (hx : x.length = n) (hp : Mem p x) (hr : ¬ Mem p (s x).xout) : p ∉ S := fun hS => hr (h.keepOut x p hx hp hS)

theorem SepOK.cover {n : Nat} {s : SepFn} {S : Set Pt} (h : SepOK n s S) {x : Box} {p : Pt}
    (hx : x.length = n) (hp : Mem p x) : Mem p (s x).xin ∨ Mem p (s x).xout := by
  by_cases hS : p ∈ S
  · exact Or.inr (h.keepOut x p hx hp hS)
  · exact Or.inl (h.keepIn x p hx hp hS)

/-- `SepCtcPair`: inner contractor sound for a set containing the complement of `S`, outer contractor
    sound for a set containing `S` -/
theorem sepPair_ok (n : Nat) {cin cout : CtcFn} {A B S : Set Pt} (hi : CtcOK cin A) (ho : CtcOK cout B)
    (hA : ∀ p : Pt, p.length = n → p ∉ S → p ∈ A) (hB : S ⊆ B) : SepOK n (sepPairF cin cout) S where
  subIn x _ := hi.sub x _
  subOut x _ := ho.sub x _
  keepIn x p hx hp hS := hi.sound x _ p hp (hA p (hp.length_eq.trans hx) hS)
  keepOut x p _ hp hS := ho.sound x _ p hp (hB hS)

/-- synthetic leaf `(U,V)`: any set between the complement of `⋃V` and `⋃U` -/
theorem sepLeaf_ok (n : Nat) (U V : List Box) (S : Set Pt)
    (hlo : ∀ p : Pt, p.length = n → p ∉ unionSet V → p ∈ S) (hhi : S ⊆ unionSet U) :
    SepOK n (sepLeafF U V) S where
  subIn x _ := BSub_ctcU_aux x V _ (BSub_emptyLike x)
  subOut x _ := BSub_ctcU_aux x U _ (BSub_emptyLike x)
  keepIn x p hx hp hS := by
    have hV : p ∈ unionSet V := by
      by_contra h; exact hS (hlo p (hp.length_eq.trans hx) h)
    exact mem_ctcU_aux x p hp V _ (BSub_emptyLike x) (Or.inr hV)
  keepOut x p _ hp hS := mem_ctcU_aux x p hp U _ (BSub_emptyLike x) (Or.inr (hhi hS))

theorem sepNot_ok {n : Nat} {s : SepFn} {S : Set Pt} (h : SepOK n s S) : SepOK n (sepNotF s) Sᶜ where
  subIn x hx := h.subOut x hx
  subOut x hx := h.subIn x hx
  keepIn x p hx hp hS := h.keepOut x p hx hp (by simpa using hS)
  keepOut x p hx hp hS := h.keepIn x p hx hp hS

/-! ### intersection -/

/-- `sepInterGo` carries the outer box `xo`, contracted by each separator in turn (it ends as the outer result), and
    `resIn`, the hull of the inner results so far (it ends as the inner result): a point leaves `xo` only if some set
    does not contain it, and then that separator's inner result, hence `resIn`, has it -/
theorem sepInterGo_ok {n : Nat} {ss : List SepFn} {Ss : List (Set Pt)} (h : List.Forall₂ (SepOK n) ss Ss) (x : Box)
    (hx : x.length = n) :
    ∀ (xo resIn : Box) (gu : Bool), BSub xo x → BSub resIn x →
      BSub (sepInterGo x ss xo resIn gu).xin x ∧ BSub (sepInterGo x ss xo resIn gu).xout x ∧
      (∀ p, Mem p x → (Mem p resIn ∨ (Mem p xo ∧ p ∉ interSets Ss)) → Mem p (sepInterGo x ss xo resIn gu).xin) ∧
      (∀ p, Mem p x → Mem p xo → p ∈ interSets Ss → Mem p (sepInterGo x ss xo resIn gu).xout) := by
  induction h with
  | nil =>
    intro xo resIn gu hxo hres
    refine ⟨hres, hxo, ?_, fun p _ hp _ => hp⟩
    intro p _ hp
    rcases hp with hp | ⟨_, hn⟩
    · exact hp
    · exact absurd (fun S hS => by simp at hS) hn
  | @cons s S ss Ss hs _ ih =>
    intro xo resIn gu hxo hres
    have hb : BSub (binter x xo) x := BSub_binter_left x xo
    have hbl : (binter x xo).length = n := (binter_length x xo).trans hx
    have hxi : BSub (s (binter x xo)).xin x := (hs.subIn _ hbl).trans hb
    have hxo' : BSub (s (binter x xo)).xout x := (hs.subOut _ hbl).trans hb
    have hl : resIn.length = (s (binter x xo)).xin.length := hres.length_eq.trans hxi.length_eq.symm
    obtain ⟨i1, i2, i3, i4⟩ := ih (s (binter x xo)).xout (Box.hull resIn (s (binter x xo)).xin) (gu || (s (binter x xo)).gaveUp)
      hxo' (BSub_hull hres hxi)
    refine ⟨i1, i2, ?_, ?_⟩
    · intro p hp hcase
      apply i3 p hp
      rcases hcase with hr | ⟨hpo, hn⟩
      · exact Or.inl (mem_hull_left hr hl)
      · have hpb : Mem p (binter x xo) := mem_binter hp hpo
        by_cases hS : p ∈ S
        · refine Or.inr ⟨hs.keepOut _ p hbl hpb hS, ?_⟩
          intro hall
          apply hn
          intro T hT
          rcases List.mem_cons.1 hT with rfl | hT'
          · exact hS
          · exact hall T hT'
        · exact Or.inl (mem_hull_right (hs.keepIn _ p hbl hpb hS) hl)
    · intro p hp hpo hall
      exact i4 p hp (hs.keepOut _ p hbl (mem_binter hp hpo) (hall S (List.mem_cons_self ..)))
        (fun T hT => hall T (List.mem_cons_of_mem _ hT))

theorem sepInter_ok {n : Nat} {ss : List SepFn} {Ss : List (Set Pt)} (h : List.Forall₂ (SepOK n) ss Ss) :
    SepOK n (sepInterF ss) (interSets Ss) where
  subIn x hx := (sepInterGo_ok h x hx x (emptyLike x) false (BSub.refl x) (BSub_emptyLike x)).1
  subOut x hx := (sepInterGo_ok h x hx x (emptyLike x) false (BSub.refl x) (BSub_emptyLike x)).2.1
  keepIn x p hx hp hS := (sepInterGo_ok h x hx x (emptyLike x) false (BSub.refl x) (BSub_emptyLike x)).2.2.1 p hp (Or.inr ⟨hp, hS⟩)
  keepOut x p hx hp hS := (sepInterGo_ok h x hx x (emptyLike x) false (BSub.refl x) (BSub_emptyLike x)).2.2.2 p hp hp hS

/-! ### union: the complement of the intersection of the complements -/

theorem sepUnionGo_eq (x : Box) : ∀ (ss : List SepFn) (xi resOut : Box) (gu : Bool),
    sepUnionGo x ss xi resOut gu =
      { xin := (sepInterGo x (ss.map sepNotF) xi resOut gu).xout
        xout := (sepInterGo x (ss.map sepNotF) xi resOut gu).xin
        gaveUp := (sepInterGo x (ss.map sepNotF) xi resOut gu).gaveUp }
  | [], _, _, _ => rfl
  | s :: ss, xi, resOut, gu => sepUnionGo_eq x ss _ _ _

theorem compl_interSets_compl (Ss : List (Set Pt)) : (interSets (Ss.map fun S => Sᶜ))ᶜ = unionSets Ss := by
  induction Ss with
  | nil => rw [List.map_nil, interSets_nil, unionSets_nil, Set.compl_univ]
  | cons S Ss ih => rw [List.map_cons, interSets_cons, unionSets_cons, Set.compl_inter, compl_compl, ih]

theorem sepUnion_ok {n : Nat} {ss : List SepFn} {Ss : List (Set Pt)} (h : List.Forall₂ (SepOK n) ss Ss) :
    SepOK n (sepUnionF ss) (unionSets Ss) := by
  have hf : sepUnionF ss = sepNotF (sepInterF (ss.map sepNotF)) :=
    funext fun x => sepUnionGo_eq x ss x (emptyLike x) false
  rw [hf, ← compl_interSets_compl]
  exact sepNot_ok (sepInter_ok
    (List.forall₂_map_left_iff.2 (List.forall₂_map_right_iff.2 (h.imp fun _ _ hs => sepNot_ok hs))))

/-! ### q-intersection -/

theorem atLeast_zero (Ss : List (Set Pt)) (p : Pt) : p ∈ atLeast 0 Ss :=
  ⟨[], List.nil_sublist _, rfl, fun S hS => by simp at hS⟩

theorem not_atLeast_compl (p : Pt) : ∀ (Ss : List (Set Pt)) (k : Nat), p ∉ atLeast k Ss →
    p ∈ atLeast (Ss.length + 1 - k) (Ss.map fun S => Sᶜ) := by
  intro Ss
  induction Ss with
  | nil =>
    intro k hk
    cases k with
    | zero => exact absurd (atLeast_zero [] p) hk
    | succ j =>
      have : ([] : List (Set Pt)).length + 1 - (j + 1) = 0 := by simp
      rw [this]; exact atLeast_zero _ p
  | cons S T ih =>
    intro k hk
    by_cases hpS : p ∈ S
    · cases k with
      | zero => exact absurd (atLeast_zero _ p) hk
      | succ j =>
        have hT : p ∉ atLeast j T := by
          rintro ⟨sub, hsub, hlen, hall⟩
          apply hk
          refine ⟨S :: sub, List.Sublist.cons_cons S hsub, by simp [hlen], ?_⟩
          intro U hU
          rcases List.mem_cons.1 hU with rfl | hU'
          · exact hpS
          · exact hall U hU'
        obtain ⟨sub, hsub, hlen, hall⟩ := ih j hT
        refine ⟨sub, ?_, ?_, hall⟩
        · simp only [List.map_cons]; exact List.Sublist.cons _ hsub
        · rw [hlen]; simp only [List.length_cons]; omega
    · have hT : p ∉ atLeast k T := by
        rintro ⟨sub, hsub, hlen, hall⟩
        exact hk ⟨sub, List.Sublist.cons S hsub, hlen, hall⟩
      obtain ⟨sub, hsub, hlen, hall⟩ := ih k hT
      by_cases hk' : k ≤ T.length + 1
      · refine ⟨Sᶜ :: sub, ?_, ?_, ?_⟩
        · simp only [List.map_cons]; exact List.Sublist.cons_cons _ hsub
        · simp only [List.length_cons, hlen]; omega
        · intro U hU
          rcases List.mem_cons.1 hU with rfl | hU'
          · exact hpS
          · exact hall U hU'
      · have : (S :: T).length + 1 - k = 0 := by simp only [List.length_cons]; omega
        rw [this]; exact atLeast_zero _ p

theorem sep_boxes_keep {n : Nat} {ss : List SepFn} {Ss : List (Set Pt)} (h : List.Forall₂ (SepOK n) ss Ss) (x : Box)
    (hx : x.length = n) :
    List.Forall₂ (fun (b : Box) (T : Set Pt) => ∀ p, Mem p x → p ∈ T → Mem p b)
      ((ss.map fun s => s x).map (·.xin)) (Ss.map fun S => Sᶜ) ∧
    List.Forall₂ (fun (b : Box) (T : Set Pt) => ∀ p, Mem p x → p ∈ T → Mem p b)
      ((ss.map fun s => s x).map (·.xout)) Ss := by
  induction h with
  | nil => exact ⟨List.Forall₂.nil, List.Forall₂.nil⟩
  | cons hs _ ih =>
    exact ⟨List.Forall₂.cons (fun p hp hT => hs.keepIn x p hx hp hT) ih.1,
           List.Forall₂.cons (fun p hp hT => hs.keepOut x p hx hp hT) ih.2⟩

/-- q-intersection of separators (`q` = number of separators that may be ignored): the set of the
    points that belong to at least `ss.length - q` of the sets -/
theorem sepQInter_ok {n : Nat} {ss : List SepFn} {Ss : List (Set Pt)} (h : List.Forall₂ (SepOK n) ss Ss) (q : Nat) :
    SepOK n (sepQInterF ss q) (atLeast (ss.length - q) Ss) where
  subIn x _ := BSub_binter_left _ _
  subOut x _ := BSub_binter_left _ _
  keepOut x p hx hp hS := mem_binter hp (mem_qinterSpec_of_atLeast (sep_boxes_keep h x hx).2 hp hS)
  keepIn x p hx hp hS := by
    have hlen : ss.length = Ss.length := h.length_eq
    have h1 := not_atLeast_compl p Ss (ss.length - q) hS
    by_cases hq : q ≤ Ss.length
    · have : Ss.length + 1 - (ss.length - q) = q + 1 := by omega
      rw [this] at h1
      exact mem_binter hp (mem_qinterSpec_of_atLeast (sep_boxes_keep h x hx).1 hp h1)
    · have : ss.length - q = 0 := by omega
      rw [this] at hS
      exact absurd (atLeast_zero Ss p) hS

end Ibex.C19
