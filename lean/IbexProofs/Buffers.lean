/-
  C17 — lemmas about the buffer specification and the trace checker of `IbexModel/Buffers.lean`.  What speaks of
  a history is by induction over the event list: no bound on the length of a history, on the number of cells or
  on the cost values.
-/
import IbexModel.Buffers
import IbexProofs.Basic
import Mathlib.Data.Multiset.AddSub
import Mathlib.Data.List.Perm.Subperm

namespace Ibex.Buffers
open Ibex

/-! ### the ledger: what a history says about where each cell went (functions of the log only) -/

def pushedIds : List Event → List Nat
  | [] => []
  | .push c true :: es => c.id :: pushedIds es
  | _ :: es => pushedIds es

/-- ids of the cells handed out by `pop` -/
def handedOut : List Event → List Nat
  | [] => []
  | .pop _ _ id _ :: es => id :: handedOut es
  | _ :: es => handedOut es

/-- ids of the cells whose destructor ran inside `contract` / `flush` -/
def destroyed : List Event → List Nat
  | [] => []
  | .contract _ d :: es => d ++ destroyed es
  | .flush d :: es => d ++ destroyed es
  | _ :: es => destroyed es

/-- ids of the cells removed by `erase_node` (SharedHeap only) -/
def erased : List Event → List Nat
  | [] => []
  | .erase id :: es => id :: erased es
  | _ :: es => erased es

/-! ### invariant of the spec state -/

structure Inv (cfg : Config) (s : State) : Prop where
  sorted : (ids s.cells).Pairwise (· < ·)
  bound : ∀ i ∈ ids s.cells, i < s.next
  tags : cfg.kind ≠ .beam → ∀ c ∈ s.cells, c.tag = 0
  lbs : cfg.lbFirst = true → ∀ c ∈ s.cells, c.c1 = c.lb

theorem Inv.nodup {cfg : Config} {s : State} (h : Inv cfg s) : (ids s.cells).Nodup :=
  h.sorted.imp (fun h => Nat.ne_of_lt h)

theorem inv_init (cfg : Config) : Inv cfg (init cfg) :=
  ⟨List.Pairwise.nil, fun _ h => (by cases h), fun _ _ h => (by cases h), fun _ _ h => (by cases h)⟩

theorem ids_filter_sublist (p : Cell → Bool) (cs : List Cell) : (ids (cs.filter p)).Sublist (ids cs) :=
  List.filter_sublist.map _

theorem ids_map_of_id {f : Cell → Cell} (hf : ∀ c, (f c).id = c.id) (cs : List Cell) :
    ids (cs.map f) = ids cs := by
  simp [ids, List.map_map, Function.comp_def, hf]

theorem retag_id (m : List Nat) (c : Cell) : (retag m c).id = c.id := by
  unfold retag; split <;> rfl
theorem retag_c1 (m : List Nat) (c : Cell) : (retag m c).c1 = c.c1 := by
  unfold retag; split <;> rfl
theorem retag_c2 (m : List Nat) (c : Cell) : (retag m c).c2 = c.c2 := by
  unfold retag; split <;> rfl
theorem retag_lb (m : List Nat) (c : Cell) : (retag m c).lb = c.lb := by
  unfold retag; split <;> rfl

theorem setCost_id (k : Nat) (l : List (Nat × Ext)) (c : Cell) : (setCost k l c).id = c.id := by
  unfold setCost; split
  · split <;> rfl
  · rfl
theorem setCost_tag (k : Nat) (l : List (Nat × Ext)) (c : Cell) : (setCost k l c).tag = c.tag := by
  unfold setCost; split
  · split <;> rfl
  · rfl
theorem setCost_lb (k : Nat) (l : List (Nat × Ext)) (c : Cell) : (setCost k l c).lb = c.lb := by
  unfold setCost; split
  · split <;> rfl
  · rfl
theorem setCost_c1_of_one (l : List (Nat × Ext)) (c : Cell) : (setCost 1 l c).c1 = c.c1 := by
  unfold setCost; split
  · simp
  · rfl

theorem step_next_le (cfg : Config) (s : State) (e : Event) : s.next ≤ (Spec.step cfg s e).next := by
  cases e <;> first | exact Nat.le_refl _ | exact Nat.le_succ _

theorem step_next_of_not_push (cfg : Config) (s : State) (e : Event) (h : ∀ c b, e ≠ .push c b) :
    (Spec.step cfg s e).next = s.next := by
  cases e with
  | push c b => exact absurd rfl (h c b)
  | _ => rfl

theorem Inv.sub {cfg : Config} {s : State} (hi : Inv cfg s) (cur : Nat) {cs : List Cell}
    (hs : (ids cs).Sublist (ids s.cells)) (hm : ∀ c ∈ cs, c ∈ s.cells) : Inv cfg ⟨cs, s.next, cur⟩ :=
  ⟨hi.sorted.sublist hs, fun i h => hi.bound i (hs.subset h),
    fun hk c h => hi.tags hk c (hm c h), fun hl c h => hi.lbs hl c (hm c h)⟩

theorem Inv.filter {cfg : Config} {s : State} (hi : Inv cfg s) (cur : Nat) (p : Cell → Bool) :
    Inv cfg ⟨s.cells.filter p, s.next, cur⟩ :=
  hi.sub cur (ids_filter_sublist _ _) (fun _ h => (List.mem_filter.mp h).1)

theorem Inv.map {cfg : Config} {s : State} (hi : Inv cfg s) (cur : Nat) {f : Cell → Cell}
    (hid : ∀ c, (f c).id = c.id) (htag : cfg.kind ≠ .beam → ∀ c, (f c).tag = c.tag)
    (hlb : cfg.lbFirst = true → ∀ c, (f c).c1 = c.c1 ∧ (f c).lb = c.lb) :
    Inv cfg ⟨s.cells.map f, s.next, cur⟩ := by
  refine ⟨?_, ?_, fun hk d hd => ?_, fun hl d hd => ?_⟩
  · show (ids (s.cells.map f)).Pairwise _
    rw [ids_map_of_id hid]; exact hi.sorted
  · show ∀ i ∈ ids (s.cells.map f), _
    rw [ids_map_of_id hid]; exact hi.bound
  · obtain ⟨d0, hd0, rfl⟩ := List.mem_map.1 hd
    rw [htag hk]; exact hi.tags hk d0 hd0
  · obtain ⟨d0, hd0, rfl⟩ := List.mem_map.1 hd
    rw [(hlb hl d0).1, (hlb hl d0).2]; exact hi.lbs hl d0 hd0

theorem Inv.push {cfg : Config} {s : State} (hi : Inv cfg s) {c : Cell} (hid : c.id = s.next)
    (htag : c.tag = tFuture) (hlb : cfg.lbFirst = false ∨ c.c1 = c.lb) :
    Inv cfg ⟨s.cells ++ [c], s.next + 1, s.cur⟩ := by
  have hmem : ∀ d ∈ s.cells ++ [c], d ∈ s.cells ∨ d = c := fun d hd => by
    simpa only [List.mem_append, List.mem_singleton] using hd
  refine ⟨?_, fun i h => ?_, fun hk d hd => ?_, fun hl d hd => ?_⟩
  · show (ids (s.cells ++ [c])).Pairwise _
    rw [ids, List.map_append, List.pairwise_append]
    refine ⟨hi.sorted, List.pairwise_singleton _ _, fun a ha b hb => ?_⟩
    rw [List.mem_singleton.1 hb]
    show a < c.id
    rw [hid]
    exact hi.bound a ha
  · obtain ⟨d, hd, rfl⟩ := List.mem_map.1 h
    rcases hmem d hd with hd | rfl
    · exact Nat.lt_succ_of_lt (hi.bound _ (List.mem_map_of_mem hd))
    · exact hid ▸ Nat.lt_succ_self _
  · rcases hmem d hd with hd | rfl
    · exact hi.tags hk d hd
    · exact htag
  · rcases hmem d hd with hd | rfl
    · exact hi.lbs hl d hd
    · exact hlb.resolve_left (by rw [hl]; exact Bool.noConfusion)

theorem inv_step {cfg : Config} {s : State} {e : Event} (hi : Inv cfg s) (hc : check cfg s e = true) :
    Inv cfg (Spec.step cfg s e) := by
  cases e with
  | push c stored =>
    simp only [check, Bool.and_eq_true, beq_iff_eq, Bool.or_eq_true, Bool.not_eq_true',
      decide_eq_true_eq] at hc
    obtain ⟨⟨⟨hid, htag⟩, hlb⟩, _⟩ := hc
    cases stored with
    | false => exact ⟨hi.sorted, fun i h => Nat.lt_succ_of_lt (hi.bound i h), hi.tags, hi.lbs⟩
    | true => exact hi.push hid htag hlb
  | pop sel which id moved =>
    have h0 := hi.filter (curAfterPop cfg) (fun c => c.id != id)
    simp only [Spec.step]
    by_cases hb : (cfg.kind == .beam && src cfg s.cells == tFuture) = true
    · rw [if_pos hb]
      simp only [Bool.and_eq_true, beq_iff_eq] at hb
      exact h0.map _ (retag_id moved) (fun hk => absurd hb.1 hk) (fun _ c => ⟨retag_c1 moved c, retag_lb moved c⟩)
    · rw [if_neg hb]
      exact h0
  | recost crit l =>
    simp only [check, Bool.and_eq_true, beq_iff_eq, Bool.or_eq_true, Bool.not_eq_true',
      Bool.and_eq_false_iff] at hc
    obtain ⟨⟨hcrit, hlbf⟩, _⟩ := hc
    refine hi.map s.cur (setCost_id crit l) (fun _ c => setCost_tag crit l c) (fun hl c => ?_)
    have h1 : crit = 1 := by
      rcases hlbf with h | h
      · rw [hl] at h; cases h
      · rcases hcrit with h' | h'
        · simp [h'] at h
        · exact h'
    subst h1
    exact ⟨setCost_c1_of_one l c, setCost_lb 1 l c⟩
  | contract loup deleted => exact hi.filter s.cur _
  | erase id => exact hi.filter s.cur _
  | flush deleted => exact hi.sub s.cur (List.nil_sublist _) (fun c h => by cases h)
  | top sel which id => exact ⟨hi.sorted, hi.bound, hi.tags, hi.lbs⟩
  | _ => exact hi

/-! ### splitting an accepted history -/

theorem go_append {cfg : Config} {s : State} {pre post : List Event} :
    go cfg s (pre ++ post) = true ↔ go cfg s pre = true ∧ go cfg (Spec.run cfg s pre) post = true := by
  induction pre generalizing s with
  | nil => simp [go, Spec.run]
  | cons e es ih => simp [go, Spec.run, ih, and_assoc]

theorem go_cons {cfg : Config} {s : State} {e : Event} {es : List Event} :
    go cfg s (e :: es) = true ↔ check cfg s e = true ∧ go cfg (Spec.step cfg s e) es = true := by
  simp [go]

theorem run_append (cfg : Config) (s : State) (pre post : List Event) :
    Spec.run cfg s (pre ++ post) = Spec.run cfg (Spec.run cfg s pre) post := by
  induction pre generalizing s with
  | nil => rfl
  | cons e es ih => simp [Spec.run, ih]

theorem inv_run {cfg : Config} {s : State} {evs : List Event} (hi : Inv cfg s)
    (h : go cfg s evs = true) : Inv cfg (Spec.run cfg s evs) := by
  induction evs generalizing s with
  | nil => exact hi
  | cons e es ih =>
    rw [go_cons] at h
    exact ih (inv_step hi h.1) h.2

theorem accepted_at {cfg : Config} {pre post : List Event} {e : Event}
    (h : checkTrace cfg (pre ++ e :: post) = true) :
    Inv cfg (Spec.run cfg (init cfg) pre) ∧ check cfg (Spec.run cfg (init cfg) pre) e = true := by
  unfold checkTrace at h
  rw [go_append, go_cons] at h
  exact ⟨inv_run (inv_init cfg) h.1, h.2.1⟩

theorem checkTrace_prefix {cfg : Config} {pre post : List Event}
    (h : checkTrace cfg (pre ++ post) = true) : checkTrace cfg pre = true := by
  unfold checkTrace at h ⊢
  exact (go_append.mp h).1

/-! ### conservation of cells -/

theorem mem_ids {cs : List Cell} {i : Nat} : i ∈ ids cs ↔ ∃ c ∈ cs, c.id = i := by
  simp [ids]

theorem ids_removeId_perm {cs : List Cell} {id : Nat} (hn : (ids cs).Nodup) (hm : id ∈ ids cs) :
    (ids cs).Perm (id :: ids (removeId id cs)) := by
  induction cs with
  | nil => simp [ids] at hm
  | cons c t ih =>
    simp only [ids, List.map_cons, List.nodup_cons] at hn
    by_cases hc : c.id = id
    · have hnot : id ∉ ids t := by rw [← hc]; exact hn.1
      have hfil : removeId id t = t := by
        unfold removeId
        rw [List.filter_eq_self]
        intro d hd
        simp only [bne_iff_ne, ne_eq]
        intro hdi
        exact hnot (mem_ids.mpr ⟨d, hd, hdi⟩)
      have : removeId id (c :: t) = t := by
        unfold removeId at hfil ⊢
        rw [List.filter_cons]
        simp [hc, hfil]
      rw [this]; simp [ids, hc]
    · have hm' : id ∈ ids t := by
        simp only [ids, List.map_cons, List.mem_cons] at hm
        rcases hm with h | h
        · exact absurd h.symm hc
        · exact h
      have : removeId id (c :: t) = c :: removeId id t := by
        unfold removeId
        rw [List.filter_cons]
        simp [hc]
      rw [this]
      have := ih hn.2 hm'
      simp only [ids, List.map_cons] at this ⊢
      exact (List.Perm.cons c.id this).trans (List.Perm.swap _ _ _)

theorem ids_filter_partition (p : Cell → Bool) (cs : List Cell) :
    (ids cs).Perm (ids (cs.filter p) ++ ids (cs.filter (fun c => !p c))) := by
  have := (List.filter_append_perm p cs).map (·.id)
  simpa [ids] using this.symm

theorem frontOk_mem {cfg : Config} {s : State} {w id : Nat} (h : frontOk cfg s w id = true) :
    id ∈ ids s.cells := by
  unfold frontOk at h
  split at h
  · split at h
    · rename_i c hc
      simp only [beq_iff_eq] at h
      exact mem_ids.mpr ⟨c, List.mem_of_getLast? hc, h⟩
    · cases h
  · split at h
    · rename_i c hc
      simp only [beq_iff_eq] at h
      exact mem_ids.mpr ⟨c, List.mem_of_head? hc, h⟩
    · cases h
  · split at h
    · rename_i c hc
      have := List.find?_some hc
      simp only [beq_iff_eq] at this
      exact mem_ids.mpr ⟨c, List.mem_of_find?_eq_some hc, this⟩
    · cases h

/-- **conservation**, from any state satisfying the invariant: stored + handed out + destroyed +
    erased = stored before + pushed (as multisets of ids) -/
theorem conservation_from {cfg : Config} {s : State} {evs : List Event} (hi : Inv cfg s)
    (h : go cfg s evs = true) :
    ((ids (Spec.run cfg s evs).cells : Multiset Nat) + (handedOut evs : Multiset Nat)
        + (destroyed evs : Multiset Nat) + (erased evs : Multiset Nat))
      = (ids s.cells : Multiset Nat) + (pushedIds evs : Multiset Nat) := by
  induction evs generalizing s with
  | nil => simp only [Spec.run, handedOut, destroyed, erased, pushedIds, Multiset.coe_nil, add_zero]
  | cons e es ih =>
    rw [go_cons] at h
    have ih := ih (inv_step hi h.1) h.2
    -- an event that moves the ids `x` from the stored cells to one ledger
    have key : ∀ x : List Nat, (ids s.cells : Multiset Nat) = x + ids (Spec.step cfg s e).cells →
        ∀ H D E : Multiset Nat, H + D + E = x + (handedOut es + destroyed es + erased es) →
        (ids (Spec.run cfg (Spec.step cfg s e) es).cells : Multiset Nat) + H + D + E
          = ids s.cells + pushedIds es := by
      intro x hx H D E hl
      rw [hx, add_assoc (x : Multiset Nat), ← ih]
      simp only [add_assoc] at hl ⊢
      rw [hl]
      exact add_left_comm _ _ _
    cases e with
    | push c stored =>
      cases stored with
      | false => exact ih
      | true =>
        refine ih.trans ?_
        simp only [Spec.step, if_true, ids, List.map_append, List.map_cons, List.map_nil, pushedIds,
          Multiset.coe_add, List.append_assoc, List.singleton_append]
    | pop sel which id moved =>
      simp only [check, Bool.and_eq_true] at h
      refine key [id] ?_ _ _ _ ?_
      · have hids : ids (Spec.step cfg s (.pop sel which id moved)).cells = ids (removeId id s.cells) := by
          simp only [Spec.step]
          split
          · exact ids_map_of_id (retag_id moved) _
          · rfl
        rw [hids]
        exact Multiset.coe_eq_coe.2 (ids_removeId_perm hi.nodup (frontOk_mem h.1.1.2))
      · simp only [handedOut, destroyed, erased, ← Multiset.coe_add, ← List.singleton_append (l := handedOut es), add_assoc]
    | erase id =>
      simp only [check, Bool.and_eq_true, List.contains_iff_mem] at h
      refine key [id] (Multiset.coe_eq_coe.2 (ids_removeId_perm hi.nodup h.1.2)) _ _ _ ?_
      simp only [handedOut, destroyed, erased, ← Multiset.coe_add, ← List.singleton_append (l := erased es), add_assoc, add_left_comm]
    | contract loup deleted =>
      simp only [check, Bool.and_eq_true, beq_iff_eq] at h
      refine key deleted ?_ _ _ _ ?_
      · rw [h.1.2, add_comm]
        exact Multiset.coe_eq_coe.2 (ids_filter_partition (fun c => Ext.le c.c1 loup) s.cells)
      · simp only [handedOut, destroyed, erased, ← Multiset.coe_add, add_assoc, add_left_comm]
    | flush deleted =>
      simp only [check, beq_iff_eq] at h
      refine key deleted ?_ _ _ _ ?_
      · rw [h.1]; exact (add_zero _).symm
      · simp only [handedOut, destroyed, erased, ← Multiset.coe_add, add_assoc, add_left_comm]
    | recost crit l =>
      refine ih.trans ?_
      simp only [Spec.step, ids_map_of_id (setCost_id crit l)]
      rfl
    | _ => exact ih
theorem pushed_sorted_from {cfg : Config} {s : State} {evs : List Event} (h : go cfg s evs = true) :
    (pushedIds evs).Pairwise (· < ·) ∧ ∀ i ∈ pushedIds evs, s.next ≤ i := by
  induction evs generalizing s with
  | nil => simp [pushedIds]
  | cons e es ih =>
    rw [go_cons] at h
    have ⟨h1, h2⟩ := ih h.2
    by_cases hp : ∃ c, e = .push c true
    · obtain ⟨c, rfl⟩ := hp
      have hid : c.id = s.next := by
        have := h.1
        simp only [check, Bool.and_eq_true, beq_iff_eq] at this
        exact this.1.1.1
      simp only [pushedIds, List.pairwise_cons, List.mem_cons, forall_eq_or_imp]
      have hn : (Spec.step cfg s (.push c true)).next = s.next + 1 := by simp [Spec.step]
      refine ⟨⟨fun a ha => ?_, h1⟩, Nat.le_of_eq hid.symm, fun a ha => ?_⟩
      · have := h2 a ha; omega
      · have := h2 a ha; omega
    · have hpe : pushedIds (e :: es) = pushedIds es := by
        cases e with
        | push c b =>
          cases b
          · rfl
          · exact absurd ⟨c, rfl⟩ hp
        | _ => rfl
      rw [hpe]
      exact ⟨h1, fun i hi => Nat.le_trans (step_next_le cfg s e) (h2 i hi)⟩

theorem pushed_nodup_from {cfg : Config} {s : State} {evs : List Event} (hi : Inv cfg s)
    (h : go cfg s evs = true) : (ids s.cells ++ pushedIds evs).Nodup := by
  have ⟨h1, h2⟩ := pushed_sorted_from h
  have : (ids s.cells ++ pushedIds evs).Pairwise (· < ·) := by
    rw [List.pairwise_append]
    exact ⟨hi.sorted, h1, fun a ha b hb => Nat.lt_of_lt_of_le (hi.bound a ha) (h2 b hb)⟩
  exact this.imp (fun h => Nat.ne_of_lt h)

/-! ### order facts on `Ext` (through the embedding into `EReal`) -/

theorem ext_le_refl (a : Ext) : Ext.le a a = true := (Ext.le_iff a a).mpr le_rfl
theorem ext_le_trans {a b c : Ext} (h1 : Ext.le a b = true) (h2 : Ext.le b c = true) : Ext.le a c = true :=
  (Ext.le_iff a c).mpr (le_trans ((Ext.le_iff a b).mp h1) ((Ext.le_iff b c).mp h2))
theorem ext_le_total (a b : Ext) : Ext.le a b = true ∨ Ext.le b a = true := by
  simpa only [Ext.le_iff] using le_total a.toE b.toE
theorem ext_not_le {a b : Ext} : Ext.le a b = false ↔ b.toE < a.toE := by
  rw [← not_le, ← Ext.le_iff, Bool.not_eq_true]

/-! ### what an accepted answer means -/

theorem cell_eq_of_id {cs : List Cell} (hn : (ids cs).Nodup) {c d : Cell} (hc : c ∈ cs) (hd : d ∈ cs)
    (h : c.id = d.id) : c = d :=
  List.inj_on_of_nodup_map hn hc hd h

theorem find_id {cs : List Cell} (hn : (ids cs).Nodup) {c : Cell} (hc : c ∈ cs) :
    cs.find? (fun x => x.id == c.id) = some c := by
  cases hf : cs.find? (fun x => x.id == c.id) with
  | none =>
    rw [List.find?_eq_none] at hf
    have := hf c hc
    simp at this
  | some d =>
    have h1 := List.find?_some hf
    simp only [beq_iff_eq] at h1
    rw [cell_eq_of_id hn (List.mem_of_find?_eq_some hf) hc h1]

theorem costOf_mem {cs : List Cell} (hn : (ids cs).Nodup) {c : Cell} (hc : c ∈ cs) (k : Nat) :
    costOf k cs c.id = cost k c := by
  unfold costOf; rw [find_id hn hc]

theorem src_of_not_beam {cfg : Config} (h : cfg.kind ≠ .beam) (cs : List Cell) : src cfg cs = 0 := by
  unfold src; split
  · exact absurd ‹_› h
  · rfl

theorem selOk_which {cfg : Config} {s : State} {sel w : Nat} (h : selOk cfg s sel w = true) :
    (w = 0 ∨ w = 1) ∧ (cfg.kind ≠ .dheap → w = 0 ∧ sel = 0) := by
  unfold selOk at h
  split at h
  · refine ⟨?_, fun hk => absurd ‹_› hk⟩
    split at h
    · simp only [Bool.and_eq_true, Bool.or_eq_true, beq_iff_eq] at h; exact h.2
    · simp only [beq_iff_eq] at h; exact Or.inl h
    · simp only [beq_iff_eq] at h; exact Or.inr h
    · cases h
  · simp only [Bool.and_eq_true, beq_iff_eq] at h
    exact ⟨Or.inl h.2, fun _ => ⟨h.2, h.1⟩⟩

/-- the selector rule of a double heap: `pop()` / `top()` use the heap in force (any when undetermined),
    `pop1()` the first, `pop2()` the second -/
theorem selOk_dheap {cfg : Config} {s : State} {sel w : Nat} (hk : cfg.kind = .dheap)
    (h : selOk cfg s sel w = true) :
    (sel = 0 ∧ (s.cur = 2 ∨ s.cur = w) ∧ (w = 0 ∨ w = 1)) ∨ (sel = 1 ∧ w = 0) ∨ (sel = 2 ∧ w = 1) := by
  unfold selOk at h
  simp only [hk] at h
  split at h
  · exact Or.inl ⟨rfl, by simpa using h⟩
  · exact Or.inr (Or.inl ⟨rfl, by simpa using h⟩)
  · exact Or.inr (Or.inr ⟨rfl, by simpa using h⟩)
  · cases h

/-- `critpr = 0`: the first heap stays in force along an accepted history without `top2()` -/
theorem cur_zero_run {cfg : Config} (hk : cfg.kind = .dheap) (h0 : cfg.critpr = 0) :
    ∀ (l : List Event) (s : State), go cfg s l = true → s.cur = 0 →
      (∀ e ∈ l, ∀ w i, e ≠ .top 2 w i) → (Spec.run cfg s l).cur = 0
  | [], _, _, hs, _ => hs
  | e :: es, s, hg, hs, hne => by
    rw [go_cons] at hg
    refine cur_zero_run hk h0 es _ hg.2 ?_ (fun e' he' => hne e' (List.mem_cons_of_mem _ he'))
    cases e with
    | top sel w i =>
      have hck := hg.1
      simp only [check, Bool.and_eq_true] at hck
      show (if cfg.kind == .dheap then w else s.cur) = 0
      rw [hk, if_pos (beq_self_eq_true _)]
      rcases selOk_dheap hk hck.1 with ⟨-, hcur, -⟩ | ⟨-, hw⟩ | ⟨rfl, -⟩
      · rw [hs] at hcur
        exact (hcur.resolve_left (by decide)).symm
      · exact hw
      · exact absurd rfl (hne _ List.mem_cons_self w i)
    | pop sel w i mv =>
      show curAfterPop cfg = 0
      simp [curAfterPop, hk, h0]
    | _ => exact hs

theorem frontOk_heap {cfg : Config} {s : State} {w id : Nat}
    (hk : cfg.kind = .heap ∨ cfg.kind = .dheap ∨ cfg.kind = .beam)
    (h : frontOk cfg s w id = true) :
    ∃ c ∈ s.cells, c.id = id ∧ c.tag = src cfg s.cells ∧
      ∀ d ∈ s.cells, d.tag = src cfg s.cells → Ext.le (cost w c) (cost w d) = true := by
  unfold frontOk at h
  split at h
  · rename_i hs; rcases hk with hk | hk | hk <;> rw [hk] at hs <;> cases hs
  · rename_i hs; rcases hk with hk | hk | hk <;> rw [hk] at hs <;> cases hs
  · split at h
    · rename_i c hc
      have h1 := List.find?_some hc
      simp only [beq_iff_eq, Bool.and_eq_true] at h1 h
      refine ⟨c, List.mem_of_find?_eq_some hc, h1, h.1, fun d hd ht => ?_⟩
      have := h.2
      unfold isMin at this
      rw [List.all_eq_true] at this
      apply this d
      unfold pool
      rw [List.mem_filter]
      exact ⟨hd, by simp [ht]⟩
    · cases h

/-- heap / double heap: all cells live in one sub-buffer, so the minimum is global -/
theorem frontOk_global {cfg : Config} {s : State} {w id : Nat} (hi : Inv cfg s)
    (hk : cfg.kind = .heap ∨ cfg.kind = .dheap) (h : frontOk cfg s w id = true) :
    ∃ c ∈ s.cells, c.id = id ∧ ∀ d ∈ s.cells, Ext.le (cost w c) (cost w d) = true := by
  have hnb : cfg.kind ≠ .beam := by rcases hk with hk | hk <;> simp [hk]
  obtain ⟨c, hc, hid, _, hmin⟩ := frontOk_heap (by rcases hk with hk | hk <;> simp [hk]) h
  refine ⟨c, hc, hid, fun d hd => hmin d hd ?_⟩
  rw [src_of_not_beam hnb]; exact hi.tags hnb d hd

theorem sorted_split {xs ys : List Nat} {a : Nat} (hs : (xs ++ a :: ys).Pairwise (· < ·)) :
    (∀ j ∈ xs, j < a) ∧ ∀ j ∈ ys, a < j := by
  rw [List.pairwise_append, List.pairwise_cons] at hs
  exact ⟨fun j hj => hs.2.2 j hj a List.mem_cons_self, hs.2.1.1⟩

theorem frontOk_stack {cfg : Config} {s : State} {w id : Nat} (hi : Inv cfg s) (hk : cfg.kind = .stack)
    (h : frontOk cfg s w id = true) : id ∈ ids s.cells ∧ ∀ j ∈ ids s.cells, j ≤ id := by
  refine ⟨frontOk_mem h, ?_⟩
  unfold frontOk at h
  simp only [hk] at h
  split at h
  · rename_i c hc
    obtain ⟨ys, hys⟩ := List.getLast?_eq_some_iff.mp hc
    obtain rfl : c.id = id := by simpa using h
    have hs := hi.sorted
    rw [hys, ids, List.map_append] at hs ⊢
    intro j hj
    rcases List.mem_append.1 hj with hj | hj
    · exact Nat.le_of_lt ((sorted_split hs).1 j hj)
    · exact Nat.le_of_eq (List.mem_singleton.1 hj)
  · cases h

theorem frontOk_list {cfg : Config} {s : State} {w id : Nat} (hi : Inv cfg s) (hk : cfg.kind = .list)
    (h : frontOk cfg s w id = true) : id ∈ ids s.cells ∧ ∀ j ∈ ids s.cells, id ≤ j := by
  refine ⟨frontOk_mem h, ?_⟩
  unfold frontOk at h
  simp only [hk] at h
  split at h
  · rename_i c hc
    obtain ⟨t, ht⟩ := List.head?_eq_some_iff.mp hc
    obtain rfl : c.id = id := by simpa using h
    have hs := hi.sorted
    rw [ht, ids, List.map_cons] at hs ⊢
    intro j hj
    rcases List.mem_cons.1 hj with hj | hj
    · exact Nat.le_of_eq hj.symm
    · exact Nat.le_of_lt ((sorted_split (xs := []) hs).2 j hj)
  · cases h

theorem minimum_sound {cfg : Config} {s : State} {k : Nat} {v : Ext}
    (h : check cfg s (.minimum k v) = true) :
    (∃ c ∈ s.cells, cost k c = v) ∧ ∀ d ∈ s.cells, Ext.le v (cost k d) = true := by
  simp only [check, Bool.and_eq_true, List.any_eq_true, decide_eq_true_eq, List.all_eq_true] at h
  exact ⟨h.1.2, h.2⟩

theorem contract_sound {cfg : Config} {s : State} {v : Ext} {del : List Nat} (hi : Inv cfg s)
    (h : check cfg s (.contract v del) = true) :
    del = ids (s.cells.filter (fun c => !Ext.le c.c1 v)) ∧
    (∀ c ∈ s.cells, (c.id ∈ del ↔ Ext.le c.c1 v = false)) ∧
    (∀ c ∈ s.cells, (c.id ∈ ids (Spec.step cfg s (.contract v del)).cells ↔ Ext.le c.c1 v = true)) := by
  simp only [check, Bool.and_eq_true, beq_iff_eq] at h
  refine ⟨h.2, fun c hc => ?_, fun c hc => ?_⟩
  · rw [h.2, mem_ids]
    constructor
    · rintro ⟨d, hd, hdi⟩
      rw [List.mem_filter] at hd
      rw [← cell_eq_of_id hi.nodup hd.1 hc hdi]
      simpa using hd.2
    · intro hle
      exact ⟨c, List.mem_filter.mpr ⟨hc, by simp [hle]⟩, rfl⟩
  · simp only [Spec.step]
    rw [mem_ids]
    constructor
    · rintro ⟨d, hd, hdi⟩
      rw [List.mem_filter] at hd
      rw [← cell_eq_of_id hi.nodup hd.1 hc hdi]
      exact hd.2
    · intro hle
      exact ⟨c, List.mem_filter.mpr ⟨hc, hle⟩, rfl⟩

theorem flush_sound {cfg : Config} {s : State} {del : List Nat} (h : check cfg s (.flush del) = true) :
    del = ids s.cells ∧ (Spec.step cfg s (.flush del)).cells = [] := by
  simp only [check, beq_iff_eq] at h
  exact ⟨h, rfl⟩

theorem nodupB_iff (l : List Nat) : nodupB l = true ↔ l.Nodup := by
  induction l with
  | nil => simp [nodupB]
  | cons a t ih => simp [nodupB, ih]

theorem heapOrdered_root_le {l : List Ext} (h : heapOrdered l = true) (i : Nat) (hi : i < l.length) :
    Ext.le (l.getD 0 .pinf) (l.getD i .pinf) = true := by
  induction i using Nat.strong_induction_on with
  | _ i ih =>
    by_cases h0 : i = 0
    · subst h0; exact ext_le_refl _
    · unfold heapOrdered at h
      rw [List.all_eq_true] at h
      have := h i (List.mem_range.mpr hi)
      simp only [Bool.or_eq_true, beq_iff_eq] at this
      rcases this with this | this
      · exact absurd this h0
      · have hp : (i - 1) / 2 < i := by omega
        exact ext_le_trans (ih _ hp (by omega)) this

theorem tree_sound {cfg : Config} {s : State} {k : Nat} {o : List Nat} (hi : Inv cfg s)
    (h : check cfg s (.tree k o) = true) :
    o.Perm (ids s.cells) ∧
      ∀ r, o.head? = some r → ∀ d ∈ s.cells, Ext.le (costOf k s.cells r) (cost k d) = true := by
  simp only [check, Bool.and_eq_true, beq_iff_eq, nodupB_iff, List.all_eq_true,
    List.contains_iff_mem] at h
  obtain ⟨⟨⟨⟨_, hlen⟩, hnd⟩, hsub⟩, hord⟩ := h
  have hperm : o.Perm (ids s.cells) := by
    apply List.Subperm.perm_of_length_le (List.subperm_of_subset hnd hsub)
    simp [ids, hlen]
  refine ⟨hperm, fun r hr d hd => ?_⟩
  have hdo : d.id ∈ o := hperm.mem_iff.mpr (mem_ids.mpr ⟨d, hd, rfl⟩)
  obtain ⟨i, hi', hget⟩ := List.getElem_of_mem hdo
  have h1 := heapOrdered_root_le hord i (by simpa using hi')
  have hr' : o = r :: o.tail := by
    cases o with
    | nil => cases hr
    | cons a t => simp only [List.head?_cons, Option.some.injEq] at hr; simp [hr]
  have e0 : (o.map (costOf k s.cells)).getD 0 .pinf = costOf k s.cells r := by
    rw [hr']; simp
  have ei : (o.map (costOf k s.cells)).getD i .pinf = cost k d := by
    simp [List.getD_eq_getElem?_getD, hi', hget, costOf_mem hi.nodup hd]
  rw [e0, ei] at h1
  exact h1

/-! ### the specification is a priority queue: draining it sorts -/

theorem exists_argmin (f : Cell → Ext) {l : List Cell} (hl : l ≠ []) :
    ∃ c ∈ l, ∀ d ∈ l, Ext.le (f c) (f d) = true := by
  induction l with
  | nil => exact absurd rfl hl
  | cons a t ih =>
    by_cases ht : t = []
    · subst ht
      exact ⟨a, List.mem_singleton.mpr rfl, fun d hd => by
        rw [List.mem_singleton] at hd; subst hd; exact ext_le_refl _⟩
    · obtain ⟨c, hc, hmin⟩ := ih ht
      rcases ext_le_total (f a) (f c) with h | h
      · refine ⟨a, List.mem_cons_self, fun d hd => ?_⟩
        rw [List.mem_cons] at hd
        rcases hd with hd | hd
        · subst hd; exact ext_le_refl _
        · exact ext_le_trans h (hmin d hd)
      · refine ⟨c, List.mem_cons_of_mem _ hc, fun d hd => ?_⟩
        rw [List.mem_cons] at hd
        rcases hd with hd | hd
        · subst hd; exact h
        · exact hmin d hd

theorem exists_pop {cfg : Config} {s : State} (hi : Inv cfg s) (hk : cfg.kind = .heap)
    (hne : s.cells ≠ []) : ∃ id, check cfg s (.pop 0 0 id []) = true := by
  obtain ⟨c, hc, hmin⟩ := exists_argmin (cost 0) hne
  have hnb : cfg.kind ≠ .beam := by simp [hk]
  refine ⟨c.id, ?_⟩
  simp only [check, Bool.and_eq_true]
  refine ⟨⟨?_, ?_⟩, ?_⟩
  · simp [selOk, hk]
  · unfold frontOk
    simp only [hk]
    rw [find_id hi.nodup hc]
    simp only [Bool.and_eq_true, beq_iff_eq]
    refine ⟨by rw [src_of_not_beam hnb]; exact hi.tags hnb c hc, ?_⟩
    unfold isMin
    rw [List.all_eq_true]
    intro d hd
    exact hmin d (List.mem_filter.mp hd).1
  · simp [moveOk, hk]

def popAll (l : List Nat) : List Event := l.map (fun i => Event.pop 0 0 i [])

theorem ledger_popAll (l : List Nat) : handedOut (popAll l) = l ∧ destroyed (popAll l) = [] ∧
    erased (popAll l) = [] ∧ pushedIds (popAll l) = [] := by
  induction l with
  | nil => exact ⟨rfl, rfl, rfl, rfl⟩
  | cons a t ih => exact ⟨congrArg (a :: ·) ih.1, ih.2.1, ih.2.2.1, ih.2.2.2⟩

theorem perm_popAll {cfg : Config} {s : State} (hi : Inv cfg s) (l : List Nat)
    (h : go cfg s (popAll l) = true) : (ids (Spec.run cfg s (popAll l)).cells ++ l).Perm (ids s.cells) := by
  obtain ⟨e1, e2, e3, e4⟩ := ledger_popAll l
  have hcons := conservation_from hi h
  rw [e1, e2, e3, e4] at hcons
  simpa only [Multiset.coe_nil, add_zero, Multiset.coe_add, Multiset.coe_eq_coe] using hcons

theorem drain_sorted {cfg : Config} {s : State} (hi : Inv cfg s) (hk : cfg.kind = .heap) (l : List Nat)
    (h : go cfg s (popAll l) = true) :
    (l.map (costOf 0 s.cells)).Pairwise (fun a b => Ext.le a b = true) ∧
      (ids (Spec.run cfg s (popAll l)).cells ++ l).Perm (ids s.cells) := by
  refine ⟨?_, perm_popAll hi l h⟩
  induction l generalizing s with
  | nil => exact List.Pairwise.nil
  | cons i t ih =>
    obtain ⟨hchk, hgo⟩ := go_cons.1 h
    have hi' := inv_step hi hchk
    have hcells : (Spec.step cfg s (.pop 0 0 i [])).cells = removeId i s.cells := by
      simp [Spec.step, hk]
    -- the ids of `t` are cells that stay stored after the pop (conservation), with the cost they had
    have hstay : ∀ j ∈ t, ∃ d ∈ s.cells, d.id = j ∧ costOf 0 (removeId i s.cells) j = cost 0 d := by
      intro j hj
      have hj' : j ∈ ids (removeId i s.cells) :=
        hcells ▸ (perm_popAll hi' t hgo).subset (List.mem_append_right _ hj)
      obtain ⟨d, hd, rfl⟩ := mem_ids.mp hj'
      exact ⟨d, (List.mem_filter.mp hd).1, rfl, costOf_mem (hcells ▸ hi'.nodup) hd _⟩
    have hsame : ∀ j ∈ t, costOf 0 (removeId i s.cells) j = costOf 0 s.cells j := by
      intro j hj
      obtain ⟨d, hd, rfl, hc⟩ := hstay j hj
      rw [hc, costOf_mem hi.nodup hd]
    rw [List.map_cons, List.pairwise_cons]
    constructor
    · -- the popped cell is a least one
      intro a ha
      obtain ⟨j, hj, rfl⟩ := List.mem_map.1 ha
      simp only [check, Bool.and_eq_true] at hchk
      obtain ⟨c, hc, rfl, hmin⟩ := frontOk_global hi (Or.inl hk) hchk.1.2
      obtain ⟨d, hd, rfl, -⟩ := hstay j hj
      rw [costOf_mem hi.nodup hc, costOf_mem hi.nodup hd]
      exact hmin d hd
    · have ht := ih hi' hgo
      rwa [hcells, List.map_congr_left hsame] at ht

theorem exists_drain {cfg : Config} (hk : cfg.kind = .heap) :
    ∀ (n : Nat) (s : State), Inv cfg s → s.cells.length = n →
      ∃ l : List Nat, l.length = n ∧ go cfg s (popAll l) = true
        ∧ (Spec.run cfg s (popAll l)).cells = [] := by
  intro n
  induction n with
  | zero =>
    intro s _ hn
    exact ⟨[], rfl, rfl, List.length_eq_zero_iff.mp hn⟩
  | succ n ih =>
    intro s hi hn
    have hne : s.cells ≠ [] := by intro h; rw [h] at hn; cases hn
    obtain ⟨id, hid⟩ := exists_pop hi hk hne
    have hi' := inv_step hi hid
    have hm : id ∈ ids s.cells := by
      simp only [check, Bool.and_eq_true] at hid
      exact frontOk_mem hid.1.2
    have hlen : (Spec.step cfg s (.pop 0 0 id [])).cells.length = n := by
      have hp := (ids_removeId_perm hi.nodup hm).length_eq
      have : (Spec.step cfg s (.pop 0 0 id [])).cells = removeId id s.cells := by simp [Spec.step, hk]
      rw [this]
      simp only [ids, List.length_map, List.length_cons] at hp
      omega
    obtain ⟨l, hl, hgo, hnil⟩ := ih _ hi' hlen
    refine ⟨id :: l, by simp [hl], ?_, ?_⟩
    · simp only [popAll, List.map_cons]
      rw [go_cons]
      exact ⟨hid, hgo⟩
    · simpa [popAll, Spec.run] using hnil

end Ibex.Buffers
