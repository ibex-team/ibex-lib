/-
  C14 — soundness of the checkers of `IbexModel/Inner.lean`, part 1: forward inner operators.

  `subRange op X Y Z = true` implies that every real of `Z` is a value of the operator at a point
  of the region: the checker exhibits (exact rational) points of the region whose values are on
  both sides of `z` (or a ray of the region along which the operator is unbounded); the region is
  preconnected and the operator continuous on it, hence the intermediate value theorem applies.
  For `iexp ilog iatan iasin iacos` (last section) the two witnesses come from oracle values of the
  function at points of the domain, rounded the opposite way.
-/
import IbexProofs.ArithG
import IbexProofs.Arith2
import IbexProofs.SetAlg
import IbexProofs.Mono
import IbexProofs.Bwd
import Mathlib.Topology.Order.IntermediateValue
import Mathlib.Topology.Connected.Basic
import Mathlib.Topology.Algebra.Order.Field
import Mathlib.Topology.Order.Lattice
import Mathlib.Topology.Instances.Real.Lemmas

namespace Ibex
namespace Inner
open Ibex

/-! ### real semantics of the binary operators, region -/

noncomputable def Op2.evalR : Op2 → ℝ → ℝ → ℝ
  | .add, x, y => x + y
  | .sub, x, y => x - y
  | .mul, x, y => x * y
  | .divp, x, y => x / y
  | .max, x, y => Max.max x y
  | .min, x, y => Min.min x y

/-- the region of `op` over X × Y (for `divp`: the part `y > 0`) -/
def Reg (op : Op2) (X Y : Itv) : Set (ℝ × ℝ) :=
  {x : ℝ | x ∈ X} ×ˢ {y : ℝ | y ∈ Y ∧ (op = .divp → 0 < y)}

theorem memQ_mem {q : Rat} {I : Itv} (h : memQ q I = true) : ((q : ℝ)) ∈ I :=
  Itv.containsExt_fin.1 h

theorem toE_z0 : z0.toE = 0 := Ext.toE_zero

theorem not_containsExt_zero {Y : Itv} (h : Itv.containsExt Y z0 = false) {y : ℝ} (hy : y ∈ Y) : y ≠ 0 := by
  rintro rfl
  exact Bool.false_ne_true (h.symm.trans (Itv.containsExt_fin.2 (by simpa using hy)))

theorem inS_mem {op : Op2} {X Y : Itv} {x y : Rat} (h : inS op X Y x y = true) :
    (((x : ℝ)), ((y : ℝ))) ∈ Reg op X Y := by
  simp only [inS, Bool.and_eq_true] at h
  refine ⟨memQ_mem h.1.1, memQ_mem h.1.2, ?_⟩
  intro hop
  subst hop
  have := h.2
  simp only [decide_eq_true_eq] at this
  show (0 : ℝ) < (y : ℝ)
  exact_mod_cast this

theorem evalQ_cast (op : Op2) (x y : Rat) : ((op.evalQ x y : Rat) : ℝ) = op.evalR (x : ℝ) (y : ℝ) := by
  cases op <;> simp only [Op2.evalQ, Op2.evalR, ← max_def, ← min_def] <;> push_cast <;> rfl

theorem itv_set_ordConnected (X : Itv) : Set.OrdConnected {x : ℝ | x ∈ X} :=
  ⟨fun _ hx _ hy _ hz => Itv.ordConnected hx hy hz.1 hz.2⟩

theorem Reg_preconnected (op : Op2) (X Y : Itv) : IsPreconnected (Reg op X Y) := by
  refine IsPreconnected.prod (itv_set_ordConnected X).isPreconnected ?_
  refine Set.OrdConnected.isPreconnected ⟨?_⟩
  intro a ha b hb c hc
  exact ⟨Itv.ordConnected ha.1 hb.1 hc.1 hc.2, fun hop => lt_of_lt_of_le (ha.2 hop) hc.1⟩

theorem evalR_continuousOn (op : Op2) (X Y : Itv) :
    ContinuousOn (fun p : ℝ × ℝ => op.evalR p.1 p.2) (Reg op X Y) := by
  cases op
  · exact (continuous_fst.add continuous_snd).continuousOn
  · exact (continuous_fst.sub continuous_snd).continuousOn
  · exact (continuous_fst.mul continuous_snd).continuousOn
  · refine ContinuousOn.div continuous_fst.continuousOn continuous_snd.continuousOn ?_
    intro p hp
    exact ne_of_gt (hp.2.2 rfl)
  · exact (continuous_fst.max continuous_snd).continuousOn
  · exact (continuous_fst.min continuous_snd).continuousOn

theorem ivt_ordConnected {f : ℝ → ℝ} {s : Set ℝ} (hs : s.OrdConnected) (hf : ContinuousOn f s) {z : ℝ}
    (hlow : ∃ x1 ∈ s, f x1 ≤ z) (hup : ∃ x2 ∈ s, z ≤ f x2) : ∃ x ∈ s, f x = z := by
  obtain ⟨x1, h1, hz1⟩ := hlow
  obtain ⟨x2, h2, hz2⟩ := hup
  exact hs.isPreconnected.intermediate_value h1 h2 hf ⟨hz1, hz2⟩

theorem sqr_ivt {X : Itv} {z : ℝ} (hlow : ∃ x1 : ℝ, x1 ∈ X ∧ x1 * x1 ≤ z) (hup : ∃ x2 : ℝ, x2 ∈ X ∧ z ≤ x2 * x2) :
    ∃ x : ℝ, x ∈ X ∧ x * x = z :=
  ivt_ordConnected (itv_set_ordConnected X) (continuous_id.mul continuous_id).continuousOn hlow hup

theorem reg_ivt {op : Op2} {X Y : Itv} {p1 p2 : ℝ × ℝ} (h1 : p1 ∈ Reg op X Y) (h2 : p2 ∈ Reg op X Y)
    {z : ℝ} (hz1 : op.evalR p1.1 p1.2 ≤ z) (hz2 : z ≤ op.evalR p2.1 p2.2) :
    ∃ p ∈ Reg op X Y, op.evalR p.1 p.2 = z :=
  (Reg_preconnected op X Y).intermediate_value h1 h2 (evalR_continuousOn op X Y) ⟨hz1, hz2⟩

/-! ### rays -/

theorem hiInf_top {X : Itv} (h : hiInf X = true) : ∃ a, X = .mk a .pinf := by
  cases X with
  | empty => simp [hiInf] at h
  | mk a b => cases b <;> simp [hiInf] at h; exact ⟨a, rfl⟩

theorem loInf_bot {X : Itv} (h : loInf X = true) : ∃ b, X = .mk .ninf b := by
  cases X with
  | empty => simp [loInf] at h
  | mk a b => cases a <;> simp [loInf] at h; exact ⟨b, rfl⟩

theorem mem_add_of_hiInf {X : Itv} {x t : ℝ} (hx : x ∈ X) (h : hiInf X = true) (ht : 0 ≤ t) : x + t ∈ X := by
  obtain ⟨a, rfl⟩ := hiInf_top h
  exact ⟨le_trans hx.1 (by exact_mod_cast (le_add_of_nonneg_right ht : x ≤ x + t)), by simp⟩

theorem mem_add_of_loInf {X : Itv} {x t : ℝ} (hx : x ∈ X) (h : loInf X = true) (ht : t ≤ 0) : x + t ∈ X := by
  obtain ⟨b, rfl⟩ := loInf_bot h
  exact ⟨by simp, le_trans (by exact_mod_cast (add_le_of_nonpos_right ht : x + t ≤ x)) hx.2⟩

theorem mem_add_of_inf {pos : Bool} {X : Itv} {x t : ℝ} (hx : x ∈ X)
    (h : (if pos then hiInf X else loInf X) = true) (ht : if pos then 0 ≤ t else t ≤ 0) : x + t ∈ X := by
  cases pos
  · exact mem_add_of_loInf hx h ht
  · exact mem_add_of_hiInf hx h ht

theorem max_mem_of_hiInf {X : Itv} {x : ℝ} (hx : x ∈ X) (h : hiInf X = true) (z : ℝ) : Max.max x z ∈ X := by
  simpa using mem_add_of_hiInf hx h (t := Max.max x z - x) (by simp)

theorem min_mem_of_loInf {X : Itv} {x : ℝ} (hx : x ∈ X) (h : loInf X = true) (z : ℝ) : Min.min x z ∈ X := by
  simpa using mem_add_of_loInf hx h (t := Min.min x z - x) (by simp)

theorem ray_up (f0 z : ℝ) {s : ℝ} (hs : 0 < s) : ∃ t, 0 ≤ t ∧ z ≤ f0 + t * s :=
  ⟨|z - f0| / s, by positivity, by rw [div_mul_cancel₀ _ hs.ne']; linarith [le_abs_self (z - f0)]⟩

/-- along `t ↦ f0 + t*s` with the right sign of `s`, every level is passed, for `t` of a given sign
    (the four cases are `ray_up` after a change of sign of `t` and `s`, or of `f0`, `z` and `s`) -/
theorem affine_reach (up pos : Bool) (f0 s z : ℝ) (hs : if up = pos then 0 < s else s < 0) :
    ∃ t : ℝ, (if pos then 0 ≤ t else t ≤ 0) ∧ (if up then z ≤ f0 + t * s else f0 + t * s ≤ z) := by
  cases up <;> cases pos <;> simp only [Bool.false_eq_true, reduceCtorEq, if_true, if_false] at hs ⊢
  · obtain ⟨t, ht, h⟩ := ray_up (-f0) (-z) hs
    exact ⟨-t, neg_nonpos.2 ht, by linarith⟩
  · obtain ⟨t, ht, h⟩ := ray_up (-f0) (-z) (neg_pos.2 hs)
    exact ⟨t, ht, by linarith⟩
  · obtain ⟨t, ht, h⟩ := ray_up f0 z (neg_pos.2 hs)
    exact ⟨-t, neg_nonpos.2 ht, by linarith⟩
  · exact ray_up f0 z hs

theorem slopeOk_sign (up pos : Bool) (s : Rat) (h : slopeOk up pos s = true) :
    if up = pos then 0 < (s : ℝ) else (s : ℝ) < 0 := by
  unfold slopeOk at h
  by_cases hup : up = pos
  · simp only [hup, beq_self_eq_true, if_true, decide_eq_true_eq] at h
    simp only [hup, if_true]
    exact_mod_cast h
  · have : (up == pos) = false := by simpa using hup
    simp only [this, Bool.false_eq_true, if_false, decide_eq_true_eq] at h
    simp only [hup, if_false]
    exact_mod_cast h

theorem slopeX_affine {op : Op2} {x y s : Rat} (h : slopeX op x y = some s) (t : ℝ) :
    op.evalR ((x : ℝ) + t) (y : ℝ) = op.evalR (x : ℝ) (y : ℝ) + t * (s : ℝ) := by
  cases op <;> simp only [slopeX, Option.some.injEq, reduceCtorEq] at h <;> subst h <;>
    simp only [Op2.evalR] <;> push_cast
  · ring
  · ring
  · ring
  · rw [add_div, mul_one_div]

theorem slopeY_affine {op : Op2} {x y s : Rat} (h : slopeY op x y = some s)
    (t : ℝ) : op.evalR (x : ℝ) ((y : ℝ) + t) = op.evalR (x : ℝ) (y : ℝ) + t * (s : ℝ) := by
  cases op <;> simp only [slopeY, Option.some.injEq, reduceCtorEq] at h <;> subst h <;>
    simp only [Op2.evalR] <;> push_cast <;> ring

/-- the conclusion of the unboundedness criteria -/
def Reach (up : Bool) (op : Op2) (X Y : Itv) (z : ℝ) : Prop :=
  ∃ p ∈ Reg op X Y, if up then z ≤ op.evalR p.1 p.2 else op.evalR p.1 p.2 ≤ z

theorem rayOk_sound {up : Bool} {op : Op2} {X Y : Itv} {p : Rat × Rat}
    (h : rayOk up op X Y p = true) (z : ℝ) : Reach up op X Y z := by
  simp only [rayOk, Bool.and_eq_true, Bool.or_eq_true] at h
  obtain ⟨hin, hray⟩ := h
  have hmem := inS_mem hin
  rcases hray with hx | hy
  · cases hsx : slopeX op p.1 p.2 with
    | none => simp [hsx] at hx
    | some s =>
      have ray : ∀ pos, (if pos then hiInf X else loInf X) = true → slopeOk up pos s = true →
          Reach up op X Y z := by
        intro pos hinf hsl
        obtain ⟨t, ht, hval⟩ := affine_reach up pos (op.evalR p.1 p.2) s z (slopeOk_sign up pos s hsl)
        refine ⟨((p.1 : ℝ) + t, (p.2 : ℝ)), ⟨mem_add_of_inf hmem.1 hinf ht, hmem.2⟩, ?_⟩
        simp only [slopeX_affine hsx t]
        exact hval
      simp only [hsx, Bool.or_eq_true, Bool.and_eq_true] at hx
      rcases hx with ⟨hinf, hsl⟩ | ⟨hinf, hsl⟩
      · exact ray true hinf hsl
      · exact ray false hinf hsl
  · cases hsy : slopeY op p.1 p.2 with
    | none => simp [hsy] at hy
    | some s =>
      have hnd : op ≠ .divp := by
        intro e; subst e; simp [slopeY] at hsy
      have ray : ∀ pos, (if pos then hiInf Y else loInf Y) = true → slopeOk up pos s = true →
          Reach up op X Y z := by
        intro pos hinf hsl
        obtain ⟨t, ht, hval⟩ := affine_reach up pos (op.evalR p.1 p.2) s z (slopeOk_sign up pos s hsl)
        refine ⟨((p.1 : ℝ), (p.2 : ℝ) + t), ⟨hmem.1, mem_add_of_inf hmem.2.1 hinf ht, fun e => absurd e hnd⟩, ?_⟩
        simp only [slopeY_affine hsy t]
        exact hval
      simp only [hsy, Bool.or_eq_true, Bool.and_eq_true] at hy
      rcases hy with ⟨hinf, hsl⟩ | ⟨hinf, hsl⟩
      · exact ray true hinf hsl
      · exact ray false hinf hsl

theorem pole_up {x y0 : ℝ} (hx : 0 < x) (hy0 : 0 < y0) (z : ℝ) : ∃ y, 0 < y ∧ y ≤ y0 ∧ z ≤ x / y := by
  have hm : 0 < Max.max z (x / y0) := lt_of_lt_of_le (div_pos hx hy0) (le_max_right _ _)
  refine ⟨x / Max.max z (x / y0), div_pos hx hm, ?_, ?_⟩
  · rw [div_le_iff₀ hm]
    calc x = y0 * (x / y0) := (mul_div_cancel₀ x hy0.ne').symm
      _ ≤ y0 * Max.max z (x / y0) := mul_le_mul_of_nonneg_left (le_max_right _ _) hy0.le
  · rw [div_div_cancel₀ hx.ne']
    exact le_max_left _ _

theorem poleOk_sound {up : Bool} {X Y : Itv} {p : Rat × Rat} (h : poleOk up X Y p = true) (z : ℝ) :
    Reach up .divp X Y z := by
  simp only [poleOk, Bool.and_eq_true] at h
  obtain ⟨⟨hin, hc⟩, hsgn⟩ := h
  have hmem := inS_mem hin
  have hy0 : (0 : ℝ) < (p.2 : ℝ) := hmem.2.2 rfl
  cases Y with
  | empty => simp at hc
  | mk c d =>
    simp only [Ext.le_iff, toE_z0] at hc
    -- for 0 < y ≤ p.2 the point (p.1, y) is in the region
    have hreg : ∀ y : ℝ, 0 < y → y ≤ (p.2 : ℝ) → (((p.1 : ℝ)), y) ∈ Reg .divp X (.mk c d) := by
      intro y hy hyp
      refine ⟨hmem.1, ⟨le_trans hc (by exact_mod_cast le_of_lt hy), le_trans (by exact_mod_cast hyp) hmem.2.1.2⟩, fun _ => hy⟩
    cases up <;> simp only [Bool.false_eq_true, if_true, if_false, decide_eq_true_eq] at hsgn
    · -- numerator < 0 : x/y → -∞, the case of `-x`, `-z`
      have hx : (p.1 : ℝ) < 0 := by exact_mod_cast hsgn
      obtain ⟨y, hy, hyp, hv⟩ := pole_up (neg_pos.2 hx) hy0 (-z)
      rw [neg_div] at hv
      exact ⟨_, hreg y hy hyp, neg_le_neg_iff.1 hv⟩
    · have hx : (0 : ℝ) < (p.1 : ℝ) := by exact_mod_cast hsgn
      obtain ⟨y, hy, hyp, hv⟩ := pole_up hx hy0 z
      exact ⟨_, hreg y hy hyp, hv⟩

theorem unb_sound {up : Bool} {op : Op2} {X Y : Itv} (h : unb up op X Y = true) (z : ℝ) :
    Reach up op X Y z := by
  cases op <;> simp only [unb, List.any_eq_true] at h <;> obtain ⟨p, _, hp⟩ := h
  · exact rayOk_sound hp z
  · exact rayOk_sound hp z
  · exact rayOk_sound hp z
  · rcases Bool.or_eq_true_iff.1 hp with h1 | h1
    · exact rayOk_sound h1 z
    · exact poleOk_sound h1 z
  · -- max: a point with a coordinate (both, downwards) moved to the level `z`
    simp only [Bool.and_eq_true] at hp
    obtain ⟨hin, hc⟩ := hp
    obtain ⟨hx, hy, -⟩ := inS_mem hin
    cases up <;> simp only [Bool.false_eq_true, if_true, if_false, Bool.and_eq_true, Bool.or_eq_true] at hc
    · exact ⟨(Min.min (p.1 : ℝ) z, Min.min (p.2 : ℝ) z),
        ⟨min_mem_of_loInf hx hc.1 z, min_mem_of_loInf hy hc.2 z, nofun⟩,
        max_le (min_le_right _ _) (min_le_right _ _)⟩
    · rcases hc with hc | hc
      · exact ⟨(Max.max (p.1 : ℝ) z, (p.2 : ℝ)), ⟨max_mem_of_hiInf hx hc z, hy, nofun⟩,
          le_trans (le_max_right _ _) (le_max_left _ _)⟩
      · exact ⟨((p.1 : ℝ), Max.max (p.2 : ℝ) z), ⟨hx, max_mem_of_hiInf hy hc z, nofun⟩,
          le_trans (le_max_right _ _) (le_max_right _ _)⟩
  ·
    simp only [Bool.and_eq_true] at hp
    obtain ⟨hin, hc⟩ := hp
    obtain ⟨hx, hy, -⟩ := inS_mem hin
    cases up <;> simp only [Bool.false_eq_true, if_true, if_false, Bool.and_eq_true, Bool.or_eq_true] at hc
    · rcases hc with hc | hc
      · exact ⟨(Min.min (p.1 : ℝ) z, (p.2 : ℝ)), ⟨min_mem_of_loInf hx hc z, hy, nofun⟩,
          le_trans (min_le_left _ _) (min_le_right _ _)⟩
      · exact ⟨((p.1 : ℝ), Min.min (p.2 : ℝ) z), ⟨hx, min_mem_of_loInf hy hc z, nofun⟩,
          le_trans (min_le_right _ _) (min_le_right _ _)⟩
    · exact ⟨(Max.max (p.1 : ℝ) z, Max.max (p.2 : ℝ) z),
        ⟨max_mem_of_hiInf hx hc.1 z, max_mem_of_hiInf hy hc.2 z, nofun⟩,
        le_min (le_max_right _ _) (le_max_right _ _)⟩

theorem sideOk_sound {up : Bool} {op : Op2} {X Y : Itv} {t : Ext} (h : sideOk up op X Y t = true) {z : ℝ}
    (hz : if up then (z : EReal) ≤ t.toE else t.toE ≤ (z : EReal)) : Reach up op X Y z := by
  cases t with
  | ninf =>
    simp only [sideOk, Bool.and_eq_true, Bool.not_eq_true'] at h
    obtain ⟨hup, hu⟩ := h
    subst hup
    exact unb_sound hu z
  | pinf =>
    simp only [sideOk, Bool.and_eq_true] at h
    obtain ⟨hup, hu⟩ := h
    subst hup
    exact unb_sound hu z
  | fin q =>
    simp only [sideOk, Bool.or_eq_true, List.any_eq_true, Bool.and_eq_true] at h
    rcases h with hu | ⟨p, _, hin, hcmp⟩
    · exact unb_sound hu z
    · refine ⟨(((p.1 : ℝ)), ((p.2 : ℝ))), inS_mem hin, ?_⟩
      cases up
      · simp only [Bool.false_eq_true, ↓reduceIte, decide_eq_true_eq] at hcmp hz ⊢
        have h1 : ((op.evalQ p.1 p.2 : Rat) : ℝ) ≤ (q : ℝ) := by exact_mod_cast hcmp
        rw [evalQ_cast] at h1
        have h2 : (q : ℝ) ≤ z := by simpa using hz
        exact le_trans h1 h2
      · simp only [↓reduceIte, decide_eq_true_eq] at hcmp hz ⊢
        have h1 : (q : ℝ) ≤ ((op.evalQ p.1 p.2 : Rat) : ℝ) := by exact_mod_cast hcmp
        rw [evalQ_cast] at h1
        have h2 : z ≤ (q : ℝ) := by simpa using hz
        exact le_trans h2 h1

/-- **`subRange` is sound**: every real of `Z` is a value of the operator on the region -/
theorem subRange_sound {op : Op2} {X Y Z : Itv} (h : subRange op X Y Z = true) {z : ℝ} (hz : z ∈ Z) :
    ∃ p ∈ Reg op X Y, op.evalR p.1 p.2 = z := by
  cases Z with
  | empty => exact absurd hz (Itv.not_mem_empty z)
  | mk l u =>
    simp only [subRange, Bool.and_eq_true] at h
    obtain ⟨p1, hp1, h1⟩ := sideOk_sound h.1 (z := z) (by simpa using hz.1)
    obtain ⟨p2, hp2, h2⟩ := sideOk_sound h.2 (z := z) (by simpa using hz.2)
    simp only [Bool.false_eq_true, ↓reduceIte] at h1 h2
    exact reg_ivt hp1 hp2 h1 h2

/-! ### division, square, unary minus; the operators by name -/

/-- one convex piece (`y > 0` or `y < 0`) of the division -/
theorem divPiece_sound {X Y W : Itv}
    (h : (subRange .divp X Y W || subRange .divp (Itv.neg X) (Itv.neg Y) W) = true) {z : ℝ} (hz : z ∈ W) :
    ∃ x y : ℝ, x ∈ X ∧ y ∈ Y ∧ y ≠ 0 ∧ x / y = z := by
  simp only [Bool.or_eq_true] at h
  rcases h with h | h
  · obtain ⟨p, hp, hv⟩ := subRange_sound h hz
    exact ⟨p.1, p.2, hp.1, hp.2.1, ne_of_gt (hp.2.2 rfl), hv⟩
  · obtain ⟨p, hp, hv⟩ := subRange_sound h hz
    refine ⟨-p.1, -p.2, Itv.mem_neg.1 hp.1, Itv.mem_neg.1 hp.2.1, ?_, ?_⟩
    · have := hp.2.2 rfl
      exact neg_ne_zero.2 (ne_of_gt this)
    · rw [neg_div_neg_eq]; exact hv

/-- **division**: every real of an accepted `Z` is a quotient `x / y` with `x ∈ X`, `y ∈ Y`, `y ≠ 0` -/
theorem subRangeDiv_sound {X Y Z : Itv} (h : subRangeDiv X Y Z = true) {z : ℝ} (hz : z ∈ Z) :
    ∃ x y : ℝ, x ∈ X ∧ y ∈ Y ∧ y ≠ 0 ∧ x / y = z := by
  simp only [subRangeDiv, Bool.or_eq_true, Bool.and_eq_true] at h
  rcases h with h | ⟨hn, hp⟩
  · exact divPiece_sound (by simpa using h) hz
  · by_cases h0 : z ≤ 0
    · refine divPiece_sound (by simpa using hn) (z := z) (Itv.mem_inter.2 ⟨hz, ?_⟩)
      exact ⟨bot_le, by simpa using h0⟩
    · refine divPiece_sound (by simpa using hp) (z := z) (Itv.mem_inter.2 ⟨hz, ?_⟩)
      have : 0 ≤ z := le_of_lt (not_le.1 h0)
      exact ⟨by simpa using this, le_top⟩

theorem le_mul_self_of {x z : ℝ} (h1 : 1 ≤ x) (hz : z ≤ x) : z ≤ x * x :=
  hz.trans (le_mul_of_one_le_right (by linarith) h1)

theorem unbSqr_sound {X : Itv} (h : unbSqr X = true) (z : ℝ) : ∃ x : ℝ, x ∈ X ∧ z ≤ x * x := by
  simp only [unbSqr, List.any_eq_true, Bool.and_eq_true, Bool.or_eq_true] at h
  obtain ⟨q, _, hq, hinf⟩ := h
  have hm := memQ_mem hq
  rcases hinf with hi | lo
  · exact ⟨_, max_mem_of_hiInf hm hi (Max.max 1 z),
      le_mul_self_of (le_trans (le_max_left 1 z) (le_max_right _ _)) (le_trans (le_max_right 1 z) (le_max_right _ _))⟩
  · refine ⟨_, min_mem_of_loInf hm lo (-Max.max 1 z), ?_⟩
    have hx : Max.max 1 z ≤ -Min.min (q : ℝ) (-Max.max 1 z) := le_neg.1 (min_le_right _ _)
    rw [← neg_mul_neg]
    exact le_mul_self_of (le_trans (le_max_left 1 z) hx) (le_trans (le_max_right 1 z) hx)

/-- **square**: every real of an accepted `Z` is a square `x * x` with `x ∈ X` -/
theorem subRangeSqr_sound {X Z : Itv} (h : subRangeSqr X Z = true) {z : ℝ} (hz : z ∈ Z) :
    ∃ x : ℝ, x ∈ X ∧ x * x = z := by
  cases Z with
  | empty => exact absurd hz (Itv.not_mem_empty z)
  | mk l u =>
    simp only [subRangeSqr, Bool.and_eq_true] at h
    obtain ⟨hl, hu⟩ := h
    have hlo : ∃ x1 : ℝ, x1 ∈ X ∧ x1 * x1 ≤ z := by
      cases l with
      | ninf => simp at hl
      | pinf => simp at hl
      | fin q =>
        simp only [List.any_eq_true, Bool.and_eq_true, decide_eq_true_eq] at hl
        obtain ⟨x, _, hx, hc⟩ := hl
        refine ⟨(x : ℝ), memQ_mem hx, ?_⟩
        have h1 : ((x * x : Rat) : ℝ) ≤ (q : ℝ) := by exact_mod_cast hc
        have h2 : (q : ℝ) ≤ z := by simpa using hz.1
        push_cast at h1
        linarith
    have hhi : ∃ x2 : ℝ, x2 ∈ X ∧ z ≤ x2 * x2 := by
      cases u with
      | ninf => simp at hu
      | pinf => exact unbSqr_sound (by simpa using hu) z
      | fin q =>
        simp only [Bool.or_eq_true, List.any_eq_true, Bool.and_eq_true, decide_eq_true_eq] at hu
        rcases hu with hu | ⟨x, _, hx, hc⟩
        · exact unbSqr_sound hu z
        · refine ⟨(x : ℝ), memQ_mem hx, ?_⟩
          have h1 : (q : ℝ) ≤ ((x * x : Rat) : ℝ) := by exact_mod_cast hc
          have h2 : z ≤ (q : ℝ) := by simpa using hz.2
          push_cast at h1
          linarith
    exact sqr_ivt hlo hhi

/-- real meaning of the forward inner operators by name -/
noncomputable def fwd2R : String → ℝ → ℝ → Option ℝ
  | "iadd", x, y => some (x + y)
  | "isub", x, y => some (x - y)
  | "imul", x, y => some (x * y)
  | "idiv", x, y => if y = 0 then none else some (x / y)
  | "imax", x, y => some (Max.max x y)
  | "imin", x, y => some (Min.min x y)
  | _, _, _ => none

/-- the operators other than the division: the region is all of `X × Y` -/
theorem subRange_fwd {op : Op2} {X Y Z : Itv} (h : subRange op X Y Z = true) {z : ℝ} (hz : z ∈ Z) :
    ∃ x y : ℝ, x ∈ X ∧ y ∈ Y ∧ some (op.evalR x y) = some z := by
  obtain ⟨p, hp, hv⟩ := subRange_sound h hz
  exact ⟨p.1, p.2, hp.1, hp.2.1, congrArg some hv⟩

/-- **Forward inner operators (binary)**: an accepted answer is a subset of the exact range. -/
theorem innerFwdOk_sound {op : String} {X Y Z : Itv} (h : innerFwdOk op X Y Z = some true) {z : ℝ} (hz : z ∈ Z) :
    ∃ x y : ℝ, x ∈ X ∧ y ∈ Y ∧ fwd2R op x y = some z := by
  unfold innerFwdOk at h
  split at h
  · exact subRange_fwd (op := .add) (Option.some.inj h) hz
  · exact subRange_fwd (op := .sub) (Option.some.inj h) hz
  · exact subRange_fwd (op := .mul) (Option.some.inj h) hz
  · obtain ⟨x, y, hx, hy, hy0, hv⟩ := subRangeDiv_sound (Option.some.inj h) hz
    exact ⟨x, y, hx, hy, (if_neg hy0).trans (congrArg some hv)⟩
  · exact subRange_fwd (op := .max) (Option.some.inj h) hz
  · exact subRange_fwd (op := .min) (Option.some.inj h) hz
  · exact absurd h (by simp)

noncomputable def fwd1R : String → ℝ → Option ℝ
  | "isqr", x => some (x * x)
  | "iminus", x => some (-x)
  | _, _ => none

/-- **Forward inner operators (unary)** -/
theorem innerFwd1Ok_sound {op : String} {X Z : Itv} (h : innerFwd1Ok op X Z = some true) {z : ℝ} (hz : z ∈ Z) :
    ∃ x : ℝ, x ∈ X ∧ fwd1R op x = some z := by
  unfold innerFwd1Ok at h
  split at h
  · simp only [Option.some.injEq] at h
    obtain ⟨x, hx, hv⟩ := subRangeSqr_sound h hz
    exact ⟨x, hx, congrArg some hv⟩
  · simp only [Option.some.injEq] at h
    exact ⟨-z, Itv.mem_neg.1 (Itv.mem_of_subset h hz), congrArg some (neg_neg z)⟩
  · exact absurd h (by simp)

/-! ### transcendental operators `iexp ilog iatan iasin iacos`: what the comparison with the oracle bounds means -/

theorem oracleFwdOk_bounds {lowB upB : Ext} {ls us : Bool} {Z : Itv} (h : oracleFwdOk lowB ls upB us Z = true)
    {z : ℝ} (hz : z ∈ Z) :
    (if ls then lowB.toE < (z : EReal) else lowB.toE ≤ (z : EReal)) ∧
    (if us then (z : EReal) < upB.toE else (z : EReal) ≤ upB.toE) := by
  cases Z with
  | empty => exact absurd hz (Itv.not_mem_empty _)
  | mk l u =>
    simp only [oracleFwdOk, Bool.and_eq_true] at h
    obtain ⟨⟨_, hl⟩, hu⟩ := h
    constructor
    · cases ls
      · simp only [Bool.false_eq_true, ↓reduceIte] at hl ⊢
        exact le_trans ((Ext.le_iff _ _).1 hl) hz.1
      · simp only [↓reduceIte] at hl ⊢
        exact lt_of_lt_of_le ((Ext.lt_iff _ _).1 hl) hz.1
    · cases us
      · simp only [Bool.false_eq_true, ↓reduceIte] at hu ⊢
        exact le_trans hz.2 ((Ext.le_iff _ _).1 hu)
      · simp only [↓reduceIte] at hu ⊢
        exact lt_of_le_of_lt hz.2 ((Ext.lt_iff _ _).1 hu)

/-- **Acceptance of a transcendental forward inner answer** for a monotone continuous `f` on the
    domain part `s` of `X`: the hypotheses `horL` / `horU` on the lower / upper oracle bound state
    what the two bounds sent by the harness mean (`RU f(lower end)`, `RD f(upper end)` computed by MPFR, limits for infinite ends): every
    accepted `z` has a point of `s` whose image is below it and one whose image is above it, hence
    is attained on `s`. -/
theorem oracleFwd_sound {f : ℝ → ℝ} {s : Set ℝ} (hs : s.OrdConnected) (hf : ContinuousOn f s)
    {lowB upB : Ext} {ls us : Bool} {Z : Itv} (h : oracleFwdOk lowB ls upB us Z = true)
    (horL : ∀ z : ℝ, (if ls then lowB.toE < (z : EReal) else lowB.toE ≤ (z : EReal)) → ∃ x1 ∈ s, f x1 ≤ z)
    (horU : ∀ z : ℝ, (if us then (z : EReal) < upB.toE else (z : EReal) ≤ upB.toE) → ∃ x2 ∈ s, z ≤ f x2)
    {z : ℝ} (hz : z ∈ Z) : ∃ x ∈ s, f x = z := by
  obtain ⟨h1, h2⟩ := oracleFwdOk_bounds h hz
  exact ivt_ordConnected hs hf (horL z h1) (horU z h2)

/-- the usual meaning of a finite lower oracle bound `q`, strict or not: `q ≥ f a` for a point `a`
    of the domain (`q = RU (f a)` computed by MPFR) -/
theorem lowBound_of_point {f : ℝ → ℝ} {s : Set ℝ} {a : ℝ} (ha : a ∈ s) {q : ℚ} (hq : f a ≤ (q : ℝ)) {strict : Bool}
    (z : ℝ) (hz : if strict then (Ext.fin q).toE < (z : EReal) else (Ext.fin q).toE ≤ (z : EReal)) :
    ∃ x1 ∈ s, f x1 ≤ z := by
  have : ((q : ℝ) : EReal) ≤ z := by cases strict; exacts [hz, le_of_lt hz]
  exact ⟨a, ha, hq.trans (EReal.coe_le_coe_iff.1 this)⟩

theorem upBound_of_point {f : ℝ → ℝ} {s : Set ℝ} {b : ℝ} (hb : b ∈ s) {q : ℚ} (hq : (q : ℝ) ≤ f b) {strict : Bool}
    (z : ℝ) (hz : if strict then (z : EReal) < (Ext.fin q).toE else (z : EReal) ≤ (Ext.fin q).toE) :
    ∃ x2 ∈ s, z ≤ f x2 := by
  have : (z : EReal) ≤ ((q : ℝ) : EReal) := by cases strict; exacts [hz, le_of_lt hz]
  exact ⟨b, hb, (EReal.coe_le_coe_iff.1 this).trans hq⟩

theorem oracleFwd_points {f : ℝ → ℝ} {s : Set ℝ} (hs : s.OrdConnected) (hf : ContinuousOn f s) {a b : ℝ}
    (ha : a ∈ s) (hb : b ∈ s) {qa qb : ℚ} (hqa : f a ≤ qa) (hqb : (qb : ℝ) ≤ f b) {ls us : Bool} {Z : Itv}
    (h : oracleFwdOk (.fin qa) ls (.fin qb) us Z = true) {z : ℝ} (hz : z ∈ Z) : ∃ x ∈ s, f x = z :=
  oracleFwd_sound hs hf h (lowBound_of_point ha hqa) (upBound_of_point hb hqb) hz

theorem exp_le_on_Iic (b : ℝ) {z : ℝ} (hz : 0 < z) : ∃ x ∈ Set.Iic b, Real.exp x ≤ z :=
  ⟨Min.min (Real.log z) b, Set.mem_Iic.2 (min_le_right _ _),
    (Real.exp_le_exp.2 (min_le_left _ _)).trans_eq (Real.exp_log hz)⟩

theorem iexp_sound {a b : ℝ} (hab : a ≤ b) {qa qb : ℚ} (ha : Real.exp a ≤ qa) (hb : (qb : ℝ) ≤ Real.exp b)
    {Z : Itv} (h : oracleFwdOk (.fin qa) false (.fin qb) false Z = true) {z : ℝ} (hz : z ∈ Z) :
    ∃ x ∈ Set.Icc a b, Real.exp x = z :=
  oracleFwd_points Set.ordConnected_Icc Real.continuous_exp.continuousOn (Set.left_mem_Icc.2 hab) (Set.right_mem_Icc.2 hab)
    ha hb h hz

/-- `iexp` on `(-∞,b]`: the lower oracle bound is the limit 0, strict (an accepted answer does not
    contain 0) -/
theorem iexp_bot_sound {b : ℝ} {qb : ℚ} (hb : (qb : ℝ) ≤ Real.exp b)
    {Z : Itv} (h : oracleFwdOk (.fin 0) true (.fin qb) false Z = true) {z : ℝ} (hz : z ∈ Z) :
    ∃ x ∈ Set.Iic b, Real.exp x = z :=
  oracleFwd_sound Set.ordConnected_Iic Real.continuous_exp.continuousOn h
    (fun z hz => exp_le_on_Iic b (by simpa using hz))
    (upBound_of_point (Set.mem_Iic.2 (le_refl b)) hb) hz

theorem ilog_sound {a b : ℝ} (ha0 : 0 < a) (hab : a ≤ b) {qa qb : ℚ} (ha : Real.log a ≤ qa) (hb : (qb : ℝ) ≤ Real.log b)
    {Z : Itv} (h : oracleFwdOk (.fin qa) false (.fin qb) false Z = true) {z : ℝ} (hz : z ∈ Z) :
    ∃ x ∈ Set.Icc a b, Real.log x = z := by
  refine oracleFwd_points Set.ordConnected_Icc ?_ (Set.left_mem_Icc.2 hab) (Set.right_mem_Icc.2 hab) ha hb h hz
  exact Real.continuousOn_log.mono (fun x hx => ne_of_gt (lt_of_lt_of_le ha0 hx.1))

theorem iatan_sound {a b : ℝ} (hab : a ≤ b) {qa qb : ℚ} (ha : Real.arctan a ≤ qa) (hb : (qb : ℝ) ≤ Real.arctan b)
    {Z : Itv} (h : oracleFwdOk (.fin qa) false (.fin qb) false Z = true) {z : ℝ} (hz : z ∈ Z) :
    ∃ x ∈ Set.Icc a b, Real.arctan x = z :=
  oracleFwd_points Set.ordConnected_Icc Real.continuous_arctan.continuousOn (Set.left_mem_Icc.2 hab) (Set.right_mem_Icc.2 hab)
    ha hb h hz

theorem iasin_sound {a b : ℝ} (hab : a ≤ b) {qa qb : ℚ} (ha : Real.arcsin a ≤ qa) (hb : (qb : ℝ) ≤ Real.arcsin b)
    {Z : Itv} (h : oracleFwdOk (.fin qa) false (.fin qb) false Z = true) {z : ℝ} (hz : z ∈ Z) :
    ∃ x ∈ Set.Icc a b, Real.arcsin x = z :=
  oracleFwd_points Set.ordConnected_Icc Real.continuous_arcsin.continuousOn (Set.left_mem_Icc.2 hab) (Set.right_mem_Icc.2 hab)
    ha hb h hz

/-- `iacos` on `[a,b]` (decreasing: the lower oracle bound is taken at `b`) -/
theorem iacos_sound {a b : ℝ} (hab : a ≤ b) {qa qb : ℚ} (hb : Real.arccos b ≤ qb) (ha : (qa : ℝ) ≤ Real.arccos a)
    {Z : Itv} (h : oracleFwdOk (.fin qb) false (.fin qa) false Z = true) {z : ℝ} (hz : z ∈ Z) :
    ∃ x ∈ Set.Icc a b, Real.arccos x = z :=
  oracleFwd_points Set.ordConnected_Icc Real.continuous_arccos.continuousOn (Set.right_mem_Icc.2 hab)
    (Set.left_mem_Icc.2 hab) hb ha h hz

end Inner
end Ibex
