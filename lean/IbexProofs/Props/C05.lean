/-
  C05 — The search loses no solution: every solution of the system inside the initial box is inside a
  box of the output paving.

  What runs at run time: the real solver is observed through logging wrappers (cell buffer:
  `push` / `top` / `pop` / `flush`; contractor: one event `ctc i o` per call with the input and the
  output box).  The driver replays the log with `Cover.check cert pv log` (`IbexModel/Cover.lean`)
  against the final paving `pv` (every output box, existence boxes of solutions included, and the
  (existence box, unicity box, variables) triples of the certified solutions).

  `cover_sound` says what an accepted log means, for EVERY log (induction over the event list: no
  bound on the number of events, of cells, on the dimension): if
    * every logged contraction keeps the solutions of its input box (property C04, checked per call),
    * the replacement certificate `cert c (E,U,vars)` is sound (a solution in `c` is in `E`),
    * a solution inside a unicity box is inside the corresponding existence box,
    * existence boxes belong to the paving,
  then every solution of the root box belongs to a box of the paving.

  The invariant is `Cover.Inv` (`IbexProofs/Cover.lean`).  The other run-time rules on the solver output (inner
  boxes, unknown boxes, status) are stated at the end.
-/
import IbexProofs.Cover
import IbexProofs.Props.C02

namespace Ibex.C05
open Ibex Ibex.Cover

/-! ## the cover certificate -/

/-- **Soundness of the cover certificate**, for all logs. -/
theorem cover_sound (Sol : Set (List ℝ)) (cert : Box → Box × Box × List Nat → Bool)
    (pv : Cover.Paving) (root : Box) (rest : List Cover.Ev) (k : Nat)
    (hacc : Cover.check cert pv (.push root :: rest) = .ok k)
    (hleaf : ∀ i o, Cover.Ev.ctc i o ∈ rest → ∀ p ∈ Sol, Box.Mem p i → Box.Mem p o)
    (hcert : ∀ c eu, cert c eu = true → eu ∈ pv.unicity → ∀ p ∈ Sol, Box.Mem p c → Box.Mem p eu.1)
    (huni : ∀ eu ∈ pv.unicity, ∀ p ∈ Sol, Box.Mem p eu.2.1 → Box.Mem p eu.1)
    (hE : ∀ eu ∈ pv.unicity, eu.1 ∈ pv.boxes) :
    ∀ p ∈ Sol, Box.Mem p root → ∃ b ∈ pv.boxes, Box.Mem p b :=
  Cover.check_sound ⟨hcert, huni, hE⟩ hacc hleaf

/-- the same for the Boolean used by the driver (`checkOk`: the log starts by pushing the initial
    box and is accepted) -/
theorem checkOk_sound (Sol : Set (List ℝ)) (cert : Box → Box × Box × List Nat → Bool)
    (pv : Cover.Paving) (root : Box) (log : List Cover.Ev)
    (hacc : Cover.checkOk cert pv root log = true)
    (hleaf : ∀ i o, Cover.Ev.ctc i o ∈ log → ∀ p ∈ Sol, Box.Mem p i → Box.Mem p o)
    (hcert : ∀ c eu, cert c eu = true → eu ∈ pv.unicity → ∀ p ∈ Sol, Box.Mem p c → Box.Mem p eu.1)
    (huni : ∀ eu ∈ pv.unicity, ∀ p ∈ Sol, Box.Mem p eu.2.1 → Box.Mem p eu.1)
    (hE : ∀ eu ∈ pv.unicity, eu.1 ∈ pv.boxes) :
    ∀ p ∈ Sol, Box.Mem p root → ∃ b ∈ pv.boxes, Box.Mem p b := by
  unfold Cover.checkOk at hacc
  split at hacc
  · rename_i b rest
    simp only [Bool.and_eq_true, beq_iff_eq] at hacc
    obtain ⟨hb, hacc⟩ := hacc
    subst hb
    split at hacc
    · rename_i k hk
      exact cover_sound Sol cert pv b rest k hk
        (fun i o h => hleaf i o (List.mem_cons_of_mem _ h)) hcert huni hE
    · cases hacc
  · cases hacc

/-- without equations (no certified solution: `pv.unicity = []`) only the contractions matter -/
theorem cover_sound_no_unicity (Sol : Set (List ℝ)) (cert : Box → Box × Box × List Nat → Bool)
    (boxes : List Box) (root : Box) (rest : List Cover.Ev) (k : Nat)
    (hacc : Cover.check cert ⟨boxes, []⟩ (.push root :: rest) = .ok k)
    (hleaf : ∀ i o, Cover.Ev.ctc i o ∈ rest → ∀ p ∈ Sol, Box.Mem p i → Box.Mem p o) :
    ∀ p ∈ Sol, Box.Mem p root → ∃ b ∈ boxes, Box.Mem p b :=
  cover_sound Sol cert ⟨boxes, []⟩ root rest k hacc hleaf
    (fun _ _ _ h => by cases h) (fun _ h => by cases h) (fun _ h => by cases h)

theorem split2Ok_sound {c l r : Box} (h : Cover.split2Ok c l r = true) {p : List ℝ}
    (hp : Box.Mem p c) : Box.Mem p l ∨ Box.Mem p r := Cover.split2Ok_sound h hp

theorem storedOk_sound {pv : Cover.Paving} {c : Box} (h : Cover.storedOk pv c = true) {p : List ℝ}
    (hp : Box.Mem p c) :
    (∃ b ∈ pv.boxes, Box.Mem p b) ∨ (∃ eu ∈ pv.unicity, Box.Mem p eu.2.1) :=
  Cover.storedOk_sound h hp

/-! ## non-vacuity: concrete logs -/

section Examples

def iv (a b : Int) : Itv := .mk (.fin a) (.fin b)

def noCert : Box → Box × Box × List Nat → Bool := fun _ _ => false

/-- root `[0,4]`, contracted to `[1,3]`, bisected into `[1,2]` and `[2,3]`; `[1,2]` is emptied by the
    contractor, `[2,3]` is stored in the paving -/
def log1 : List Ev :=
  [.push [iv 0 4], .top [iv 0 4], .ctc [iv 0 4] [iv 1 3], .pop [iv 1 3],
   .push [iv 2 3], .push [iv 1 2],
   .top [iv 1 2], .ctc [iv 1 2] [.empty], .pop [.empty],
   .top [iv 2 3], .ctc [iv 2 3] [iv 2 3], .pop [iv 2 3], .flush]

def pv1 : Paving := ⟨[[iv 2 3]], []⟩

example : checkOk noCert pv1 [iv 0 4] log1 = true := by decide +kernel

/-- the same log without the contraction that empties `[1,2]` is rejected (`[1,2]` is dropped) -/
example : checkOk noCert pv1 [iv 0 4]
    [.push [iv 0 4], .top [iv 0 4], .ctc [iv 0 4] [iv 1 3], .pop [iv 1 3],
     .push [iv 2 3], .push [iv 1 2],
     .top [iv 1 2], .pop [iv 1 2],
     .top [iv 2 3], .pop [iv 2 3], .flush] = false := by decide +kernel

/-- children that do not cover the cell are rejected (`[1,3]` split into `[1,2]` and `[5/2,3]`) -/
example : checkOk noCert ⟨[[iv 1 2], [.mk (.fin (5/2)) (.fin 3)]], []⟩ [iv 0 4]
    [.push [iv 0 4], .top [iv 0 4], .ctc [iv 0 4] [iv 1 3], .pop [iv 1 3],
     .push [.mk (.fin (5/2)) (.fin 3)], .push [iv 1 2],
     .top [iv 1 2], .pop [iv 1 2],
     .top [.mk (.fin (5/2)) (.fin 3)], .pop [.mk (.fin (5/2)) (.fin 3)], .flush] = false := by
  decide +kernel

/-- a popped box that is not the result of the logged contractions is rejected -/
example : checkOk noCert pv1 [iv 0 4]
    [.push [iv 0 4], .top [iv 0 4], .pop [iv 2 3], .flush] = false := by decide +kernel

/-- a cell left in the buffer at the end must be covered (interrupted search): accepted with the
    pending box in the paving, rejected without -/
example : checkOk noCert ⟨[[iv 2 3], [iv 1 2]], []⟩ [iv 0 4]
    [.push [iv 0 4], .top [iv 0 4], .ctc [iv 0 4] [iv 1 3], .pop [iv 1 3],
     .push [iv 2 3], .push [iv 1 2]] = true := by decide +kernel
example : checkOk noCert pv1 [iv 0 4]
    [.push [iv 0 4], .top [iv 0 4], .ctc [iv 0 4] [iv 1 3], .pop [iv 1 3],
     .push [iv 2 3], .push [iv 1 2]] = false := by decide +kernel

/-- a two-dimensional bisection along the second coordinate -/
example : checkOk noCert ⟨[[iv 0 1, iv 0 1], [iv 0 1, iv 1 2]], []⟩ [iv 0 1, iv 0 2]
    [.push [iv 0 1, iv 0 2], .top [iv 0 1, iv 0 2], .pop [iv 0 1, iv 0 2],
     .push [iv 0 1, iv 1 2], .push [iv 0 1, iv 0 1],
     .top [iv 0 1, iv 0 1], .pop [iv 0 1, iv 0 1],
     .top [iv 0 1, iv 1 2], .pop [iv 0 1, iv 1 2]] = true := by decide +kernel

/-- a cell inside the unicity box of a solution is discharged; the existence box is in the paving -/
example : checkOk noCert ⟨[[iv 1 2]], [([iv 1 2], [iv 0 4], [0])]⟩ [iv 0 4]
    [.push [iv 0 4], .top [iv 0 4], .pop [iv 0 4]] = true := by decide +kernel

theorem mem_iv {t : ℝ} {a b : Int} : Box.Mem [t] [iv a b] ↔ (a : ℝ) ≤ t ∧ t ≤ (b : ℝ) := by
  rw [Box.mem_cons]
  simp only [iv, Itv.mem_mk, Ext.toE_fin, EReal.coe_le_coe_iff, Rat.cast_intCast]
  constructor
  · rintro ⟨h, -⟩; exact h
  · intro h; exact ⟨h, Box.mem_nil⟩

/-- the hypotheses of `cover_sound` are satisfiable on `log1` with a non-empty solution set:
    `Sol = {5/2}`; the conclusion is not vacuous (`5/2` is in the root) -/
example : ∃ b ∈ pv1.boxes, Box.Mem [(5/2 : ℝ)] b := by
  refine cover_sound {[(5/2 : ℝ)]} noCert pv1 [iv 0 4] log1.tail 0 (by decide +kernel) ?_
    (fun _ _ h => by cases h) (fun _ h => by cases h) (fun _ h => by cases h)
    [(5/2 : ℝ)] rfl (mem_iv.2 (by norm_num))
  intro i o h p hp hi
  have hp : p = [(5/2 : ℝ)] := hp
  subst hp
  simp only [log1, List.tail_cons, List.mem_cons, Ev.ctc.injEq, reduceCtorEq, false_or,
    List.not_mem_nil, or_false] at h
  rcases h with ⟨rfl, rfl⟩ | ⟨rfl, rfl⟩ | ⟨rfl, rfl⟩
  · exact mem_iv.2 (by norm_num)
  · exact absurd (mem_iv.1 hi) (by norm_num)
  · exact hi

end Examples

/-! ## the other run-time rules on the solver output -/

def SignHolds (spec : String) (x : ℝ) : Prop :=
  (spec = "leq" ∧ x ≤ 0) ∨ (spec = "lt" ∧ x < 0) ∨ (spec = "geq" ∧ 0 ≤ x) ∨ (spec = "gt" ∧ 0 < x)

theorem signProved_sound {spec : String} {z : Itv} (h : signProved spec z = true) {x : ℝ}
    (hx : x ∈ z) : SignHolds spec x := by
  unfold signProved at h
  split at h
  · rename_i lo hi
    rw [Ext.le_iff] at h
    exact Or.inl ⟨rfl, by simpa using le_trans hx.2 h⟩
  · rename_i lo hi
    rw [Ext.lt_iff] at h
    exact Or.inr (Or.inl ⟨rfl, by simpa using lt_of_le_of_lt hx.2 h⟩)
  · rename_i lo hi
    rw [Ext.le_iff] at h
    exact Or.inr (Or.inr (Or.inl ⟨rfl, by simpa using le_trans h hx.1⟩))
  · rename_i lo hi
    rw [Ext.lt_iff] at h
    exact Or.inr (Or.inr (Or.inr ⟨rfl, by simpa using lt_of_lt_of_le h hx.1⟩))
  · cases h

theorem signs_of_enclosure {spec : String} {v : Mat ℝ} {z : Mat Itv} (hm : MatMem v z)
    (h : z.d.all (signProved spec) = true) : ∀ x ∈ v.d, SignHolds spec x := by
  obtain ⟨-, -, hd⟩ := hm
  intro x hx
  obtain ⟨i, hi, rfl⟩ := List.getElem_of_mem hx
  have hi' : i < z.d.length := hd.length_eq ▸ hi
  have hxI : v.d[i] ∈ z.d[i] := (forall₂_iff_getElem?.1 hd).2 i _ _
    (List.getElem?_eq_getElem hi) (List.getElem?_eq_getElem hi')
  exact signProved_sound (List.all_eq_true.1 h _ (List.getElem_mem hi')) hxI

/-- **Inner boxes**: when `provedOnBox funs dag spec box` holds, the constraint `dag spec 0` holds
    at EVERY real point of the box at which the expression is defined (every component of its value,
    for a vector-valued constraint). -/
theorem provedOnBox_sound {funs : List Dag} {dag : Dag} {spec : String} {box : Box}
    (h : provedOnBox funs dag spec box = true) {p : List ℝ} (hp : Box.Mem p box) {v : Mat ℝ}
    (hv : Eval.root Alg.real p (Eval.buildCalls Alg.real funs) dag = some v) :
    ∀ x ∈ v.d, SignHolds spec x := by
  unfold provedOnBox at h
  split at h
  · rename_i z hz
    exact signs_of_enclosure (C02.root_encl hp hv hz) h
  · cases h

theorem innerOk_sound {cs : List ((List Dag × Dag) × String)} {box : Box}
    (h : innerOk cs box = true) {p : List ℝ} (hp : Box.Mem p box) :
    ∀ c ∈ cs, ∀ v, Eval.root Alg.real p (Eval.buildCalls Alg.real c.1.1) c.1.2 = some v →
      ∀ x ∈ v.d, SignHolds c.2 x :=
  fun c hc _ hv => provedOnBox_sound (List.all_eq_true.1 h c hc) hp hv

/-- **Unknown boxes**: the rule, index-wise -/
theorem unknownSmall_iff {b : Box} {eps : List Ext} :
    unknownSmall b eps = true ↔
      b.length = eps.length ∧ ∀ (i : Nat) I e, b[i]? = some I → eps[i]? = some e →
        Ext.le (Box.diamUp I) e = true ∨ Box.bisectable I = false := by
  simp only [unknownSmall, Bool.and_eq_true, beq_iff_eq, List.all_eq_true, Bool.or_eq_true,
    Bool.not_eq_true']
  constructor
  · rintro ⟨hl, h⟩
    refine ⟨hl, fun i I e hI he => h (I, e) ?_⟩
    rw [List.mem_iff_getElem?]
    exact ⟨i, by simp [List.getElem?_zip_eq_some, hI, he]⟩
  · rintro ⟨hl, h⟩
    refine ⟨hl, fun q hq => ?_⟩
    obtain ⟨i, hi⟩ := List.mem_iff_getElem?.1 hq
    obtain ⟨h1, h2⟩ := List.getElem?_zip_eq_some.1 hi
    exact h i q.1 q.2 h1 h2

theorem diamUp_sound {I : Itv} {x y : ℝ} (hx : x ∈ I) (hy : y ∈ I) :
    ((x - y : ℝ) : EReal) ≤ (Box.diamUp I).toE := by
  cases I with
  | empty => exact absurd hx (Itv.not_mem_empty x)
  | mk a b =>
    have h2 : ((-y : ℝ) : EReal) ≤ (Ext.neg a).toE := by
      rw [Ext.toE_neg, EReal.coe_neg]
      exact EReal.neg_le_neg_iff.2 hy.1
    have := le_addHi b (Ext.neg a) x (-y) hx.2 h2
    rwa [← sub_eq_add_neg] at this

theorem unknownSmall_dist {I : Itv} {e : Ext} (h : Ext.le (Box.diamUp I) e = true) {x y : ℝ}
    (hx : x ∈ I) (hy : y ∈ I) : ((|x - y| : ℝ) : EReal) ≤ e.toE := by
  rw [Ext.le_iff] at h
  rcases abs_cases (x - y) with ⟨e1, -⟩ | ⟨e1, -⟩
  · rw [e1]; exact le_trans (diamUp_sound hx hy) h
  · rw [e1, neg_sub]; exact le_trans (diamUp_sound hy hx) h

/-- **Status**: the rule, status by status -/
theorem statusOk_success {nsol nbnd nunk npend ninner : Nat} :
    statusOk "SUCCESS" nsol nbnd nunk npend ninner = true ↔ nunk = 0 ∧ npend = 0 := by
  simp [statusOk]

theorem statusOk_infeasible {nsol nbnd nunk npend ninner : Nat} :
    statusOk "INFEASIBLE" nsol nbnd nunk npend ninner = true ↔
      nsol = 0 ∧ nbnd = 0 ∧ nunk = 0 ∧ npend = 0 ∧ ninner = 0 := by
  simp [statusOk]; omega

theorem statusOk_not_all_validated {nsol nbnd nunk npend ninner : Nat} :
    statusOk "NOT_ALL_VALIDATED" nsol nbnd nunk npend ninner = true ↔ npend = 0 ∧ 0 < nunk := by
  simp [statusOk]

theorem statusOk_interrupted {nsol nbnd nunk npend ninner : Nat} :
    statusOk "CELL_OVERFLOW" nsol nbnd nunk npend ninner = true ∧
      statusOk "TIME_OUT" nsol nbnd nunk npend ninner = true := by
  simp [statusOk]

/-- no other status is accepted -/
theorem statusOk_cases {st : String} {nsol nbnd nunk npend ninner : Nat}
    (h : statusOk st nsol nbnd nunk npend ninner = true) :
    st = "SUCCESS" ∨ st = "INFEASIBLE" ∨ st = "NOT_ALL_VALIDATED" ∨ st = "CELL_OVERFLOW" ∨
      st = "TIME_OUT" := by
  unfold statusOk at h
  split at h <;> simp_all

end Ibex.C05
