/-
  C04 (model half) — the HC4Revise model `HC4.revise` is a contractor for the constraint
  `root(dag) ∈ rhs`, over the reals, for every scalar DAG of the supported fragment
  (var const add sub mul div max min minus sqr sqrt abs sign pow1 pow2; any size, any sharing of
  sub-expressions, aliased arguments such as x*x included), every box, every right-hand side:

  * `hc4_sub`    the returned box is inside the input box;
  * `hc4_keeps`  a point of the box whose node values put the root in `rhs` is never lost
                 (the answer is not `empty`, and a returned box contains the point).

  Together with the run-time check `HC4.reviseOk` (the output `out` of the real contractor contains
  the model's box and is inside the input) this gives `accepted_hc4_keeps`: an accepted output of
  the library keeps every feasible point.  Proofs: IbexProofs/HC4.lean.
-/
import IbexProofs.HC4
import IbexProofs.CtcAbstract

namespace Ibex.C04
open Ibex Ibex.Ctc

/-- contraction: the box computed by the model is inside the input box -/
theorem hc4_sub {dag : Dag} {rhs : Itv} {box b : List Itv} (h : HC4.revise dag rhs box = .box b) :
    ∀ p, Box.Mem p b → Box.Mem p box :=
  HC4.revise_sub h

/-- no feasible point is lost: `p ∈ box`, `vals` = real values of the nodes at `p`, root value in
    `rhs` ⇒ the model does not answer `empty` and its box contains `p` -/
theorem hc4_keeps {dag : Dag} {rhs : Itv} {box : List Itv} {p : List ℝ} {vals : Array ℝ} {t : ℝ}
    (hp : Box.Mem p box) (hs : HC4.Sem dag p vals) (hroot : vals.back? = some t) (ht : t ∈ rhs) :
    HC4.revise dag rhs box ≠ .empty ∧ ∀ b, HC4.revise dag rhs box = .box b → Box.Mem p b :=
  HC4.revise_keeps hp hs hroot ht

/-- the feasible set of the constraint `root(dag) ∈ rhs` -/
def Feasible (dag : Dag) (rhs : Itv) : Set Pt :=
  {p | ∃ (vals : Array ℝ) (t : ℝ), HC4.Sem dag p vals ∧ vals.back? = some t ∧ t ∈ rhs}

/-- an accepted `hc4` line of the driver (`reviseOk`: the library's output contains the model's box)
    on a supported DAG: the library's output keeps every feasible point of the input box -/
theorem accepted_hc4_keeps {dag : Dag} {rhs : Itv} {x out : Box}
    (h : HC4.reviseOk dag rhs x out = true) (hsup : HC4.revise dag rhs x ≠ .unsupported)
    {p : List ℝ} (hp : Box.Mem p x) (hf : p ∈ Feasible dag rhs) : Box.Mem p out := by
  obtain ⟨vals, t, hs, hroot, ht⟩ := hf
  obtain ⟨hne, hk⟩ := hc4_keeps (rhs := rhs) hp hs hroot ht
  unfold HC4.reviseOk at h
  simp only [Bool.and_eq_true] at h
  cases hr : HC4.revise dag rhs x with
  | unsupported => exact absurd hr hsup
  | empty => exact absurd hr hne
  | box m =>
    rw [hr] at h
    exact Box.subset_sound h.2 (hk m hr)

/-- the model as a function on boxes (`empty` ↦ a box of empty components, `unsupported` ↦ identity) -/
def reviseCtc (dag : Dag) (rhs : Itv) (x : Box) : Box :=
  match HC4.revise dag rhs x with
  | .box b => b
  | .empty => x.map fun _ => Itv.empty
  | .unsupported => x

theorem reviseCtc_sound (dag : Dag) (rhs : Itv) : Sound (reviseCtc dag rhs) (Feasible dag rhs) := by
  intro x p hp hf
  obtain ⟨vals, t, hs, hroot, ht⟩ := hf
  obtain ⟨hne, hk⟩ := hc4_keeps (rhs := rhs) hp hs hroot ht
  unfold reviseCtc
  cases hr : HC4.revise dag rhs x with
  | unsupported => exact hp
  | empty => exact absurd hr hne
  | box m => exact hk m hr

theorem reviseCtc_contracting (dag : Dag) (rhs : Itv) : Contracting (reviseCtc dag rhs) := by
  intro x p hp
  unfold reviseCtc at hp
  cases hr : HC4.revise dag rhs x with
  | unsupported => rw [hr] at hp; exact hp
  | empty =>
    rw [hr] at hp
    dsimp only at hp
    cases x with
    | nil => exact hp
    | cons I xs =>
      cases p with
      | nil => cases hp
      | cons t ps => exact absurd (Box.mem_cons.1 hp).1 (Itv.not_mem_empty t)
  | box m => rw [hr] at hp; exact hc4_sub hr p hp

/-! ### non-vacuity -/

private def I (a b : Rat) : Itv := .mk (.fin a) (.fin b)
private def sc (k : NodeK) : Node := ⟨k, 1, 1⟩

/-- x + y -/
private def exDag : Dag := #[sc (.var 0), sc (.var 1), sc (.bin "add" 0 1)]

-- x + y = 1 on [0,2]² is contracted to [0,1]²
example : (HC4.revise exDag (I 1 1) [I 0 2, I 0 2] == .box [I 0 1, I 0 1]) = true := by decide +kernel
-- x + y = 5 on [0,2]² has no solution
example : (HC4.revise exDag (I 5 5) [I 0 2, I 0 2] == .empty) = true := by decide +kernel

/-- the node values of x + y at the point (1/4, 3/4) -/
private theorem exSem : HC4.Sem exDag [1/4, 3/4] #[1/4, 3/4, 1] := by
  refine ⟨rfl, fun i h => ?_⟩
  have h3 : i < 3 := h
  rcases i with _ | _ | _ | i
  · simp [exDag, sc, HC4.NodeSem]
  · simp [exDag, sc, HC4.NodeSem]
  · simp only [exDag, sc, HC4.NodeSem]
    norm_num
  · omega

/-- so the theorem applies: the feasible point (1/4, 3/4) is in whatever box the model returns -/
example : ∀ b, HC4.revise exDag (I 1 1) [I 0 2, I 0 2] = .box b → Box.Mem [1/4, 3/4] b := by
  have hp : Box.Mem [1/4, 3/4] [I 0 2, I 0 2] := by
    refine Box.mem_cons.2 ⟨?_, Box.mem_cons.2 ⟨?_, Box.mem_nil⟩⟩ <;>
      simp only [I, Itv.mem_mk, Ext.toE_fin, EReal.coe_le_coe_iff] <;> norm_num
  have ht : (1 : ℝ) ∈ I 1 1 := by
    simp only [I, Itv.mem_mk, Ext.toE_fin, EReal.coe_le_coe_iff]; norm_num
  exact (hc4_keeps hp exSem (t := 1) (by simp) ht).2

/-- shared sub-expression with an aliased argument: x*x − y (node 2 = mul 0 0) -/
private def exDag2 : Dag := #[sc (.var 0), sc (.var 1), sc (.bin "mul" 0 0), sc (.bin "sub" 2 1)]

example : (HC4.revise exDag2 (I 0 0) [I 1 2, I 0 2] == .box [I 1 2, I 1 2]) = true := by decide +kernel
example : (HC4.revise exDag2 (I 0 0) [I 3 4, I 0 2] == .empty) = true := by decide +kernel

/-- max(√(x/y), |x|) ∈ [1,2] on [−4,4]×[1,2]: division, square root, absolute value, max -/
private def exDag3 : Dag :=
  #[sc (.var 0), sc (.var 1), sc (.bin "div" 0 1), sc (.un "sqrt" 2), sc (.un "abs" 0), sc (.bin "max" 3 4)]

example : (HC4.revise exDag3 (I 1 2) [I (-4) 4, I 1 2] == .box [I 0 2, I 1 2]) = true := by decide +kernel

end Ibex.C04
