/-
  C01, interval vectors and matrices — sums, differences, scalings, dot / outer / matrix-vector /
  vector-matrix / matrix-matrix products, Hadamard product, transposition.

  Run time (`vecop` lines of `h_itv c01vec`): the result `R` of the real `IntervalVector` /
  `IntervalMatrix` operator must contain, entry by entry, the EXACT interval result of the model
  (`VecOps.vecopOk`).  The theorems say what acceptance means for all real arguments:
  `mulOk_sound` (every product family), `mapOk2_sound` (entrywise operators), `scaleOk_sound`, `transOk_sound`.
  Since each variable occurs once per entry, the exact interval result is the range of the real operation, so
  a correct implementation is never rejected (any summation order, any outward rounding).
-/
import IbexProofs.ArithG
import IbexProofs.EvalRel
import IbexProofs.Bwd

namespace Ibex.C01
open Ibex Ibex.VecOps List

/-- real dot product of the common prefix -/
def dotRR (x y : List ℝ) : ℝ := ((List.zip x y).map fun q => q.1 * q.2).sum

abbrev Mem (x : ℝ) (X : Itv) : Prop := x ∈ X

/-- **dot product**: `Σ xₖ·yₖ ∈ dotX u v` for all reals `xₖ ∈ uₖ`, `yₖ ∈ vₖ` (any length) -/
theorem dotX_encl {x y : List ℝ} {u v : List Itv} (hx : Forall₂ Mem x u) (hy : Forall₂ Mem y v) :
    dotRR x y ∈ dotX u v :=
  Itv.dot_encl Rnd.exact_sound hx hy

/-- **accepted product** (dot, outer, matrix-vector, vector-matrix, matrix-matrix): entry `(i,j)` of the
    implementation's result contains `Σ xₖ·yₖ` for all reals in row `i` of `A` and column `j` of `B` -/
theorem mulOk_sound {A B R : Mat Itv} (h : mulOk A B R = true) {i j : ℕ} (hi : i < A.r) (hj : j < B.c)
    {x y : List ℝ} (hx : Forall₂ Mem x (A.row i)) (hy : Forall₂ Mem y (B.col j)) :
    ∃ r, R.get? i j = some r ∧ dotRR x y ∈ r := by
  simp only [mulOk, Bool.and_eq_true, List.all_eq_true, List.mem_range] at h
  have := h.2 i hi j hj
  split at this
  · rename_i r hr
    exact ⟨r, hr, Itv.mem_of_subset this (dotX_encl hx hy)⟩
  · cases this

/-- **accepted entrywise operator** (sum, difference, Hadamard product, opposite): entry `k` of the result
    contains `g x y` for all reals of the `k`-th entries, when `f` encloses `g` -/
theorem mapOk2_sound {f : Itv → Itv → Itv} {g : ℝ → ℝ → ℝ}
    (hf : ∀ {a b : Itv} {x y : ℝ}, x ∈ a → y ∈ b → g x y ∈ f a b)
    {A B R : Mat Itv} (h : mapOk2 f A B R = true) {k : ℕ} {a b r : Itv}
    (ha : A.d[k]? = some a) (hb : B.d[k]? = some b) (hr : R.d[k]? = some r) {x y : ℝ}
    (hx : x ∈ a) (hy : y ∈ b) : g x y ∈ r := by
  simp only [mapOk2, Bool.and_eq_true] at h
  have hab : (List.zip A.d B.d)[k]? = some (a, b) := List.getElem?_zip_eq_some.2 ⟨ha, hb⟩
  exact Itv.mem_of_subset (zip_all h.2 hab hr) (hf hx hy)

theorem add_entry {A B R : Mat Itv} (h : vecopOk "add" A B R = true) {k : ℕ} {a b r : Itv}
    (ha : A.d[k]? = some a) (hb : B.d[k]? = some b) (hr : R.d[k]? = some r) {x y : ℝ}
    (hx : x ∈ a) (hy : y ∈ b) : x + y ∈ r :=
  mapOk2_sound (g := (· + ·)) (fun hx hy => Itv.addG_encl Rnd.exact_sound hx hy) (by simpa [vecopOk] using h) ha hb hr hx hy

theorem sub_entry {A B R : Mat Itv} (h : vecopOk "sub" A B R = true) {k : ℕ} {a b r : Itv}
    (ha : A.d[k]? = some a) (hb : B.d[k]? = some b) (hr : R.d[k]? = some r) {x y : ℝ}
    (hx : x ∈ a) (hy : y ∈ b) : x - y ∈ r :=
  mapOk2_sound (g := (· - ·)) (fun hx hy => Itv.subG_encl Rnd.exact_sound hx hy) (by simpa [vecopOk] using h) ha hb hr hx hy

theorem hadamard_entry {A B R : Mat Itv} (h : vecopOk "had" A B R = true) {k : ℕ} {a b r : Itv}
    (ha : A.d[k]? = some a) (hb : B.d[k]? = some b) (hr : R.d[k]? = some r) {x y : ℝ}
    (hx : x ∈ a) (hy : y ∈ b) : x * y ∈ r :=
  mapOk2_sound (g := (· * ·)) (fun hx hy => Itv.mulG_encl Rnd.exact_sound hx hy) (by simpa [vecopOk] using h) ha hb hr hx hy

theorem neg_entry {A B R : Mat Itv} (h : vecopOk "neg" A B R = true) {k : ℕ} {a r : Itv}
    (ha : A.d[k]? = some a) (hr : R.d[k]? = some r) {x : ℝ} (hx : x ∈ a) : -x ∈ r := by
  have := mapOk2_sound (g := fun x _ => 0 - x) (f := fun a _ => Itv.subG Rnd.exact (Itv.point 0) a)
    (fun hx _ => Itv.subG_encl Rnd.exact_sound (Itv.mem_point_zero.2 rfl) hx)
    (by simpa [vecopOk] using h) ha ha hr hx hx
  simpa using this

/-- **accepted scaling** `s·B` -/
theorem scaleOk_sound {s : Itv} {B R : Mat Itv} (h : scaleOk s B R = true) {k : ℕ} {b r : Itv}
    (hb : B.d[k]? = some b) (hr : R.d[k]? = some r) {t y : ℝ} (ht : t ∈ s) (hy : y ∈ b) : t * y ∈ r := by
  simp only [scaleOk, Bool.and_eq_true] at h
  have : Itv.subset (Itv.mulG Rnd.exact s b) r = true := by
    have hall := h.2
    rw [List.all_eq_true] at hall
    apply hall (b, r)
    rw [List.mem_iff_getElem?]
    exact ⟨k, by simp [List.getElem?_zip_eq_some, hb, hr]⟩
  exact Itv.mem_of_subset this (Itv.mulG_encl Rnd.exact_sound ht hy)

/-- **accepted transposition**: entry `k` of the result contains entry `k` of the transposed operand -/
theorem transOk_sound {A R : Mat Itv} (h : transOk A R = true) {k : ℕ} {a r : Itv}
    (ha : A.transpose.d[k]? = some a) (hr : R.d[k]? = some r) {x : ℝ} (hx : x ∈ a) : x ∈ r := by
  simp only [transOk, Bool.and_eq_true] at h
  have : Itv.subset a r = true := by
    have hall := h.2
    rw [List.all_eq_true] at hall
    apply hall (a, r)
    rw [List.mem_iff_getElem?]
    exact ⟨k, by simp [List.getElem?_zip_eq_some, ha, hr]⟩
  exact Itv.mem_of_subset this hx

/-! ### non-vacuity -/

section Examples
def iv (a b : Int) : Itv := .mk (.fin a) (.fin b)

/-- `([1,2], [−1,1]) · ([3,4], [2,2])ᵀ = [1,10]` exactly; `[1,10]` and `[0,11]` are accepted, `[2,10]` is not -/
example : dotX [iv 1 2, iv (-1) 1] [iv 3 4, iv 2 2] = iv 1 10 := by decide +kernel
example : vecopOk "mul" ⟨1, 2, [iv 1 2, iv (-1) 1]⟩ ⟨2, 1, [iv 3 4, iv 2 2]⟩ ⟨1, 1, [iv 0 11]⟩ = true := by decide +kernel
example : vecopOk "mul" ⟨1, 2, [iv 1 2, iv (-1) 1]⟩ ⟨2, 1, [iv 3 4, iv 2 2]⟩ ⟨1, 1, [iv 2 10]⟩ = false := by decide +kernel
/-- an outer product and a transposition -/
example : vecopOk "mul" ⟨2, 1, [iv 1 2, iv (-1) 1]⟩ ⟨1, 2, [iv 3 4, iv 2 2]⟩
    ⟨2, 2, [iv 3 8, iv 2 4, iv (-4) 4, iv (-2) 2]⟩ = true := by decide +kernel
example : vecopOk "trans" ⟨2, 3, [iv 1 1, iv 2 2, iv 3 3, iv 4 4, iv 5 5, iv 6 6]⟩ ⟨0, 0, []⟩
    ⟨3, 2, [iv 1 1, iv 4 4, iv 2 2, iv 5 5, iv 3 3, iv 6 6]⟩ = true := by decide +kernel
/-- a result with the wrong shape is rejected -/
example : vecopOk "add" ⟨1, 2, [iv 1 2, iv 0 1]⟩ ⟨1, 2, [iv 1 1, iv 1 1]⟩ ⟨2, 1, [iv 2 3, iv 1 2]⟩ = false := by decide +kernel
end Examples

end Ibex.C01
