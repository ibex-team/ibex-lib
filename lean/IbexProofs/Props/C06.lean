/-
  C06 — Solver verdicts mean what they say.

  Run-time rules (driver ops `solbox`, `solveinner`, `solveunknown`, `solvestatus`, evaluated on every box of
  the pavings returned by real `Solver` runs) and what each ACCEPTED / REFUTING verdict means, for all real points:

  * inner boxes (inequality-only systems) and the inequalities of a solution box: `inner_box_sound`
    (interval evaluation by the model proves every constraint at every real point of the box);
  * solution boxes of systems with equations: the claim is `SolClaim eqs E U vars` — for every value of the
    parameters inside the existence box `E` there is exactly one zero with these parameters in `E`, and the
    unicity box `U` contains no other zero with these parameters.  The driver
      - CERTIFIES it with `certifiedByZero` (an exactly known rational zero inside `E`, `E ⊆ U`, uniqueness
        certificate `Newton.uniqueCert` on `U`: `claim_of_known_zero`), with the existence certificate of C09
        on a box `x ⊆ E` that has the parameter ranges of `E` (`certifiedBy`, `findCert`:
        `claim_of_certifiedBy`, `claim_of_findCert`), or with existence certificates on a subdivision of the
        parameter ranges (`certifiedSplit`: `claim_of_certifiedSplit`); the rules `…X` are the same with exact
        rational interval arithmetic (`claim_of_known_zeroX`, …);
      - REFUTES it with exactly known zeros (`refutedOutside_sound`: a zero in `U` with parameters in `E` but
        outside `E`; `refutedTwo_sound`: two zeros with the same parameters in `E`) — these are the
        violations reported;
    `solution_in_initial_box`: `E ⊆` initial box is `Box.subset` (sound for all reals);
  * inner boxes with exact arithmetic (`innerOkX_sound`), and an inner box REFUTED by a rational point at which
    a constraint is violated (`innerRefutedBy_sound`);
  * unknown boxes: `unknown_small_iff`, `unknown_small_dist`;  status: `status_success`, `status_infeasible`.
-/
import IbexProofs.Props.C09exist
import IbexProofs.Props.C09exact
import IbexProofs.Props.C05

namespace Ibex.C06
open Ibex Ibex.Verdict Ibex.C09

/-! ## the claim attached to a reported solution -/

/-- **what the solver claims** about a reported solution (existence box `e`, unicity box `u`, variables `vars`):
    every value of the parameters inside `e` is completed by exactly one zero inside `e`, and `u` contains no
    other zero with these parameters.  For a square system `vars` is everything: `e` contains exactly one zero
    and `u` no other. -/
def SolClaim (eqs : List (List Dag × Dag)) (e u : Box) (vars : List ℕ) : Prop :=
  ∀ π, ParamsIn vars π e → ∃ z, Box.Mem z e ∧ SameParams vars z π ∧ Zero eqs z ∧
    (∀ z', Box.Mem z' e → SameParams vars z' π → Zero eqs z' → z' = z) ∧
    (∀ z', Box.Mem z' u → SameParams vars z' π → Zero eqs z' → z' = z)

/-! ## exact rational data -/

def castL (p : List ℚ) : List ℝ := p.map (Rat.cast : ℚ → ℝ)

theorem castL_injective {p q : List ℚ} (h : castL p = castL q) : p = q :=
  List.map_injective_iff.2 Rat.cast_injective h

theorem ratIn_iff : ∀ {p : List ℚ} {b : Box}, ratIn p b = true ↔ Box.Mem (castL p) b
  | [], [] => by simp [ratIn, castL, Box.mem_nil]
  | [], _ :: _ => by
    simp only [ratIn, castL, List.map_nil, Bool.false_eq_true, false_iff]
    intro h; cases h
  | _ :: _, [] => by
    simp only [ratIn, castL, List.map_cons, Bool.false_eq_true, false_iff]
    intro h; cases h
  | q :: qs, I :: bs => by
    simp only [ratIn, Bool.and_eq_true, castL, List.map_cons, Box.mem_cons]
    exact and_congr Itv.containsExt_fin (ratIn_iff (p := qs) (b := bs))

theorem ratZero_sound {eqs : List (List Dag × Dag)} {p : List ℚ} (h : ratZero eqs p = true) :
    Zero eqs (castL p) := by
  intro q hq
  have hq' := List.all_eq_true.1 h q hq
  split at hq'
  · rename_i v hv
    obtain ⟨z, hz, -, -, hd⟩ := C02.rat_root_real hv
    refine ⟨z, hz, ?_⟩
    have hv0 : v.d = [0] := of_decide_eq_true hq'
    rw [hv0] at hd
    generalize z.d = zd at hd
    cases hd with
    | cons h1 h2 =>
      cases h2
      simp only [RCast] at h1
      simp [h1]
  · cases hq'

theorem getElem?_castL (p : List ℚ) (i : ℕ) : (castL p)[i]? = (p[i]?).map (Rat.cast : ℚ → ℝ) := by
  simp [castL]

theorem ratParamsIn_sound {vars : List ℕ} {p : List ℚ} {b : Box} (h : ratParamsIn vars p b = true) :
    ParamsIn vars (castL p) b := by
  simp only [ratParamsIn, Bool.and_eq_true, beq_iff_eq, List.all_eq_true, List.mem_range,
    Bool.or_eq_true, List.contains_iff_mem] at h
  refine ⟨by simpa [castL] using h.1, fun i t I hi ht hI => ?_⟩
  rw [getElem?_castL] at ht
  cases hp : p[i]? with
  | none => rw [hp] at ht; cases ht
  | some q =>
    rw [hp] at ht
    simp only [Option.map_some, Option.some.injEq] at ht
    have hlt : i < p.length := (List.getElem?_eq_some_iff.1 hp).1
    rcases h.2 i hlt with h1 | h1
    · exact absurd h1 hi
    · rw [hp, hI] at h1
      rw [← ht]
      exact Itv.containsExt_fin.1 h1

theorem ratSameParams_sound {vars : List ℕ} {p q : List ℚ} (h : ratSameParams vars p q = true) :
    SameParams vars (castL p) (castL q) := by
  simp only [ratSameParams, Bool.and_eq_true, beq_iff_eq, List.all_eq_true, List.mem_range,
    Bool.or_eq_true, List.contains_iff_mem, decide_eq_true_eq] at h
  intro i hi
  rw [getElem?_castL, getElem?_castL]
  by_cases hlt : i < p.length
  · rcases h.2 i hlt with h1 | h1
    · exact absurd h1 hi
    · rw [h1]
  · rw [List.getElem?_eq_none (by omega), List.getElem?_eq_none (by omega)]

theorem sameParams_refl (vars : List ℕ) (z : List ℝ) : SameParams vars z z := fun _ _ => rfl

/-! ## refutations: the violations reported by the check -/

/-- **a known zero in the unicity box, with parameters in the existence box, but outside the existence
    box refutes the claim** (either the existence box contains no zero for these parameters, or the unicity box
    contains two) -/
theorem refutedOutside_sound {eqs : List (List Dag × Dag)} {e u : Box} {vars : List ℕ} {q : List ℚ}
    (h : refutedOutside eqs e u vars q = true) : ¬ SolClaim eqs e u vars := by
  simp only [refutedOutside, Bool.and_eq_true, Bool.not_eq_true'] at h
  obtain ⟨⟨⟨hz, hu⟩, hne⟩, hpar⟩ := h
  intro hc
  obtain ⟨z, hze, -, -, -, huni⟩ := hc (castL q) (ratParamsIn_sound hpar)
  have := huni (castL q) (ratIn_iff.1 hu) (sameParams_refl _ _) (ratZero_sound hz)
  rw [← this] at hze
  rw [ratIn_iff.2 hze] at hne
  cases hne

/-- **two different known zeros with the same parameters inside the existence box refute the claim** -/
theorem refutedTwo_sound {eqs : List (List Dag × Dag)} {e u : Box} {vars : List ℕ} {p q : List ℚ}
    (h : refutedTwo eqs e vars p q = true) : ¬ SolClaim eqs e u vars := by
  simp only [refutedTwo, Bool.and_eq_true, decide_eq_true_eq] at h
  obtain ⟨⟨⟨⟨⟨hzp, hzq⟩, hpe⟩, hqe⟩, hsame⟩, hne⟩ := h
  intro hc
  have hpar : ParamsIn vars (castL p) e := by
    have hm := ratIn_iff.1 hpe
    refine ⟨hm.length_eq, fun i t I _ ht hI => ?_⟩
    exact (forall₂_iff_getElem?.1 hm).2 i t I ht hI
  obtain ⟨z, -, -, -, hin, -⟩ := hc (castL p) hpar
  have h1 := hin (castL p) (ratIn_iff.1 hpe) (sameParams_refl _ _) (ratZero_sound hzp)
  have h2 := hin (castL q) (ratIn_iff.1 hqe)
    (fun i hi => (ratSameParams_sound hsame i hi).symm) (ratZero_sound hzq)
  exact hne (castL_injective (h1.trans h2.symm))

theorem refuted_sound {eqs : List (List Dag × Dag)} {e u : Box} {vars : List ℕ} {zs : List (List ℚ)}
    (h : refuted eqs e u vars zs = true) : ¬ SolClaim eqs e u vars := by
  simp only [refuted, Bool.or_eq_true, List.any_eq_true] at h
  rcases h with ⟨q, -, hq⟩ | ⟨p, -, q, -, hpq⟩
  · exact refutedOutside_sound hq
  · exact refutedTwo_sound hpq

/-! ## certificates -/

/-- **uniqueness + existence ⇒ the claim**: `E ⊆ U`, two zeros in `U` with the same parameters are equal
    (C09 `unique_zero`, `unique_zeroX`: the interval Jacobian w.r.t. `vars` is regular on `U`), and every
    parameter value of `E` is completed by a zero in `E` (C09: existence certificate, or an exactly known
    zero in the square case below) -/
theorem claim_of_certificates {eqs : List (List Dag × Dag)} {e u : Box} {vars : List ℕ}
    (hsub : Box.subset e u = true)
    (huniq : ∀ {x y : List ℝ}, Box.Mem x u → Box.Mem y u → SameParams vars x y →
      Zero eqs x → Zero eqs y → x = y)
    (hE : ∀ π, ParamsIn vars π e → ∃ z, Box.Mem z e ∧ SameParams vars z π ∧ Zero eqs z) :
    SolClaim eqs e u vars := by
  intro π hπ
  obtain ⟨z, hze, hzp, hz0⟩ := hE π hπ
  have hzu := Box.subset_sound hsub hze
  refine ⟨z, hze, hzp, hz0, fun z' hz' hp' h0' => ?_, fun z' hz' hp' h0' => ?_⟩
  · exact huniq (Box.subset_sound hsub hz') hzu (fun k hk => (hp' k hk).trans (hzp k hk).symm) h0' hz0
  · exact huniq hz' hzu (fun k hk => (hp' k hk).trans (hzp k hk).symm) h0' hz0

theorem claim_of_rat_zero {eqs : List (List Dag × Dag)} {e u : Box} {p : List ℚ}
    (hz : ratZero eqs p = true) (hpe : ratIn p e = true) (hsub : Box.subset e u = true)
    (huniq : ∀ {x y : List ℝ}, Box.Mem x u → Box.Mem y u →
      SameParams (List.range e.length) x y → Zero eqs x → Zero eqs y → x = y) :
    SolClaim eqs e u (List.range e.length) := by
  refine claim_of_certificates hsub huniq fun π hπ =>
    ⟨castL p, ratIn_iff.1 hpe, fun i hi => ?_, ratZero_sound hz⟩
  have hi' : ¬ i < e.length := by simpa using hi
  have hl := (ratIn_iff.1 hpe).length_eq
  rw [List.getElem?_eq_none (by omega), List.getElem?_eq_none (by rw [hπ.1]; omega)]

/-- **square systems, a zero known exactly**: the rule `certifiedByZero` proves that the existence box
    contains exactly one zero and the unicity box no other -/
theorem claim_of_known_zero {eqs : List (List Dag × Dag)} {e u : Box} {p : List ℚ}
    (h : certifiedByZero eqs e u p = true) : SolClaim eqs e u (List.range e.length) := by
  simp only [certifiedByZero, Bool.and_eq_true, beq_iff_eq] at h
  obtain ⟨⟨⟨⟨hz, hpe⟩, hsub⟩, hu⟩, hlen⟩ := h
  have hu' : Newton.uniqueCertVars eqs u (List.range e.length) = true := by
    rw [hlen]; exact hu
  exact claim_of_rat_zero hz hpe hsub (unique_zero hu')

theorem pointConsts_eq (eqs : List (List Dag × Dag)) : Verdict.pointConsts eqs = C09.pointConsts eqs := rfl

theorem claim_of_sub_box {eqs : List (List Dag × Dag)} {e u : Box} {vars : List ℕ} {x : Box}
    (hxe : Box.subset x e = true) (heu : Box.subset e u = true)
    (huniq : ∀ {x y : List ℝ}, Box.Mem x u → Box.Mem y u → SameParams vars x y →
      Zero eqs x → Zero eqs y → x = y)
    (hlen : x.length = e.length)
    (hpar : ∀ i < e.length, i ∈ vars ∨
      (match x[i]?, e[i]? with | some a, some b => Itv.subset b a | _, _ => false) = true)
    (hex : ∀ π, ParamsIn vars π x → ∃ z, Box.Mem z x ∧ SameParams vars z π ∧ Zero eqs z) :
    SolClaim eqs e u vars := by
  refine claim_of_certificates heu huniq fun π hπ => ?_
  have hπx : ParamsIn vars π x := by
    refine ⟨hπ.1.trans hlen.symm, fun i t I hi ht hI => ?_⟩
    have hlt : i < e.length := by
      have := (List.getElem?_eq_some_iff.1 hI).1
      omega
    rcases hpar i hlt with h1 | h1
    · exact absurd h1 hi
    · rw [hI] at h1
      cases hE : e[i]? with
      | none => rw [hE] at h1; cases h1
      | some J =>
        rw [hE] at h1
        exact Itv.mem_of_subset h1 (hπ.2 i t J hi ht hE)
  obtain ⟨z, hz, hzp, hz0⟩ := hex π hπx
  exact ⟨z, Box.subset_sound hxe hz, hzp, hz0⟩

/-- **full certificate** (no known zero needed; square or under-constrained): the Krawczyk existence
    certificate holds on a box `x ⊆ E` with the parameter ranges of `E`, `E ⊆ U`, uniqueness certificate on `U`:
    every parameter value of `E` is completed by exactly one zero in `E`, and `U` contains no other -/
theorem claim_of_certifiedBy {eqs : List (List Dag × Dag)} {e u : Box} {vars : List ℕ} {x : Box}
    (h : certifiedBy eqs e u vars x = true) : SolClaim eqs e u vars := by
  simp only [certifiedBy, Bool.and_eq_true, beq_iff_eq, List.all_eq_true, List.mem_range,
    Bool.or_eq_true, List.contains_iff_mem] at h
  obtain ⟨⟨⟨⟨⟨⟨hpc, hex⟩, hxe⟩, heu⟩, hun⟩, hlen⟩, hpar⟩ := h
  exact claim_of_sub_box hxe heu (unique_zero hun) hlen hpar fun π hπ =>
    exists_zero_of_cert ((pointConsts_eq eqs).symm.trans hpc) hex π hπ.1 hπ.2

theorem claim_of_findCert {eqs : List (List Dag × Dag)} {e u : Box} {vars : List ℕ} {tries k : ℕ}
    (h : findCert eqs e u vars tries = some k) : SolClaim eqs e u vars := by
  have := List.find?_some h
  exact claim_of_certifiedBy this

/-! ### existence for every parameter value by subdivision of the parameter ranges -/

theorem getElem?_setAt (e : Box) (i : ℕ) (J : Itv) (j : ℕ) :
    (setAt e i J)[j]? = (e[j]?).map fun I => if (j == i) = true then J else I := by
  simp only [setAt, List.getElem?_map, List.getElem?_zipIdx, Nat.zero_add]
  cases e[j]? <;> simp

theorem mem_of_mem_setAt {e : Box} {i : ℕ} {J I0 : Itv} {z : List ℝ} (hz : Box.Mem z (setAt e i J))
    (hI : e[i]? = some I0) (hsub : ∀ t : ℝ, t ∈ J → t ∈ I0) : Box.Mem z e := by
  rw [Box.Mem, forall₂_iff_getElem?] at hz ⊢
  obtain ⟨hlen, hall⟩ := hz
  refine ⟨by simpa [setAt] using hlen, fun j a I ha hIj => ?_⟩
  have := hall j a (if (j == i) = true then J else I) ha (by rw [getElem?_setAt, hIj]; rfl)
  by_cases hji : (j == i) = true
  · rw [if_pos hji] at this
    have hj : j = i := by simpa using hji
    subst hj
    rw [hI] at hIj
    injection hIj with hIj
    exact hIj ▸ hsub a this
  · rwa [if_neg hji] at this

theorem paramsIn_setAt {vars : List ℕ} {π : List ℝ} {e : Box} {i : ℕ} {J : Itv} (hπ : ParamsIn vars π e)
    (hJ : ∀ t, π[i]? = some t → t ∈ J) : ParamsIn vars π (setAt e i J) := by
  refine ⟨by simpa [setAt] using hπ.1, fun j t I hj ht hI => ?_⟩
  rw [getElem?_setAt] at hI
  cases hE : e[j]? with
  | none => rw [hE] at hI; cases hI
  | some I1 =>
    rw [hE] at hI
    simp only [Option.map_some, Option.some.injEq] at hI
    by_cases hji : (j == i) = true
    · rw [if_pos hji] at hI
      have hj : j = i := by simpa using hji
      subst hj
      exact hI ▸ hJ t ht
    · rw [if_neg hji] at hI
      exact hI ▸ hπ.2 j t I1 hj ht hE

theorem exists_of_setAt {eqs : List (List Dag × Dag)} {vars : List ℕ} {e : Box} {i : ℕ} {I0 J : Itv}
    {π : List ℝ} (hπ : ParamsIn vars π e) (hI : e[i]? = some I0) (hsub : ∀ t : ℝ, t ∈ J → t ∈ I0)
    (hJ : ∀ t, π[i]? = some t → t ∈ J)
    (hex : ParamsIn vars π (setAt e i J) →
      ∃ z, Box.Mem z (setAt e i J) ∧ SameParams vars z π ∧ Zero eqs z) :
    ∃ z, Box.Mem z e ∧ SameParams vars z π ∧ Zero eqs z := by
  obtain ⟨z, hz, hzp, hz0⟩ := hex (paramsIn_setAt hπ hJ)
  exact ⟨z, mem_of_mem_setAt hz hI hsub, hzp, hz0⟩

/-- **existence for every parameter value by subdivision**: `S` is a test that accepts a box when the
    existence test `E` accepts it, or (depth permitting) when it accepts both halves of the box cut at the
    middle of a parameter range (`existSplit`, `existSplitX`) -/
theorem split_sound {eqs : List (List Dag × Dag)} {vars : List ℕ} {E : Box → Bool} {S : ℕ → Box → Bool}
    (hE : ∀ {e : Box}, E e = true →
      ∀ π, ParamsIn vars π e → ∃ z, Box.Mem z e ∧ SameParams vars z π ∧ Zero eqs z)
    (h0 : ∀ e, S 0 e = E e)
    (hs : ∀ d e, S (d + 1) e = (E e ||
      (match widestParam e vars with
       | some (i, a, b) =>
         !vars.contains i && decide (a ≤ b) && decide (e[i]? = some (.mk (.fin a) (.fin b))) &&
         S d (setAt e i (.mk (.fin a) (.fin ((a + b) / 2)))) &&
         S d (setAt e i (.mk (.fin ((a + b) / 2)) (.fin b)))
       | none => false))) :
    ∀ (d : ℕ) {e : Box}, S d e = true →
      ∀ π, ParamsIn vars π e → ∃ z, Box.Mem z e ∧ SameParams vars z π ∧ Zero eqs z := by
  intro d
  induction d with
  | zero => intro e h; exact hE (by rwa [h0] at h)
  | succ d ih =>
    intro e h π hπ
    rw [hs] at h
    simp only [Bool.or_eq_true] at h
    rcases h with h | h
    · exact hE h π hπ
    · split at h
      · rename_i i a b _
        simp only [Bool.and_eq_true, Bool.not_eq_true', decide_eq_true_eq] at h
        obtain ⟨⟨⟨⟨hi, hab⟩, hI⟩, hl⟩, hr⟩ := h
        have hiv : i ∉ vars := fun hm => by
          rw [List.contains_iff_mem.2 hm] at hi; cases hi
        have hlt : i < π.length := by
          rw [hπ.1]; exact (List.getElem?_eq_some_iff.1 hI).1
        have hπi : π[i]? = some π[i] := List.getElem?_eq_getElem hlt
        have hmem : (a : ℝ) ≤ π[i] ∧ π[i] ≤ (b : ℝ) := mem_fin_iff.1 (hπ.2 i _ _ hiv hπi hI)
        have habR : (a : ℝ) ≤ (b : ℝ) := by exact_mod_cast hab
        have hm : (((a + b) / 2 : ℚ) : ℝ) = ((a : ℝ) + b) / 2 := by push_cast; ring
        by_cases hcase : π[i] ≤ ((a : ℝ) + b) / 2
        · refine exists_of_setAt hπ hI (fun t ht => ?_) (fun t ht => ?_) (ih hl π)
          · have := mem_fin_iff.1 ht
            rw [hm] at this
            exact mem_fin_iff.2 ⟨this.1, by linarith [this.2]⟩
          · rw [hπi] at ht
            cases ht
            exact mem_fin_iff.2 ⟨hmem.1, by rw [hm]; exact hcase⟩
        · refine exists_of_setAt hπ hI (fun t ht => ?_) (fun t ht => ?_) (ih hr π)
          · have := mem_fin_iff.1 ht
            rw [hm] at this
            exact mem_fin_iff.2 ⟨by linarith [this.1], this.2⟩
          · rw [hπi] at ht
            cases ht
            exact mem_fin_iff.2 ⟨by rw [hm]; linarith, hmem.2⟩
      · cases h

/-- **existence for every parameter value**, from the subdivision certificate -/
theorem existSplit_sound {eqs : List (List Dag × Dag)} {vars : List ℕ} (hpc : Verdict.pointConsts eqs = true) :
    ∀ (d : ℕ) {e : Box}, existSplit eqs vars d e = true →
      ∀ π, ParamsIn vars π e → ∃ z, Box.Mem z e ∧ SameParams vars z π ∧ Zero eqs z :=
  split_sound (E := fun e => Newton.existCertVars eqs e vars) (S := existSplit eqs vars)
    (fun hex π hπ => exists_zero_of_cert ((pointConsts_eq eqs).symm.trans hpc) hex π hπ.1 hπ.2)
    (fun _ => rfl) (fun _ _ => rfl)

/-- **full certificate with subdivision of the parameter ranges** -/
theorem claim_of_certifiedSplit {eqs : List (List Dag × Dag)} {e u : Box} {vars : List ℕ} {d : ℕ}
    (h : certifiedSplit eqs e u vars d = true) : SolClaim eqs e u vars := by
  simp only [certifiedSplit, Bool.and_eq_true] at h
  obtain ⟨⟨⟨hpc, hex⟩, hsub⟩, hun⟩ := h
  exact claim_of_certificates hsub (unique_zero hun) (existSplit_sound hpc d hex)

/-! ## initial box, inner boxes, unknown boxes, status -/

theorem solution_in_initial_box {e root : Box} (h : Box.subset e root = true) {p : List ℝ}
    (hp : Box.Mem p e) : Box.Mem p root := Box.subset_sound h hp

/-- **inner boxes** (and the inequalities of a solution box): every constraint holds at every real point of
    the box at which it is defined -/
theorem inner_box_sound {cs : List ((List Dag × Dag) × String)} {box : Box}
    (h : Cover.innerOk cs box = true) {p : List ℝ} (hp : Box.Mem p box) :
    ∀ c ∈ cs, ∀ v, Eval.root Alg.real p (Eval.buildCalls Alg.real c.1.1) c.1.2 = some v →
      ∀ x ∈ v.d, C05.SignHolds c.2 x := C05.innerOk_sound h hp

/-- **inner boxes, exact arithmetic** (enclosure theorem of the exact interval algebra `Alg.real_itvX`) -/
theorem innerOkX_sound {cs : List ((List Dag × Dag) × String)} {box : Box}
    (h : innerOkX cs box = true) {p : List ℝ} (hp : Box.Mem p box) :
    ∀ c ∈ cs, ∀ v, Eval.root Alg.real p (Eval.buildCalls Alg.real c.1.1) c.1.2 = some v →
      ∀ x ∈ v.d, C05.SignHolds c.2 x := by
  intro c hc v hv x hx
  have hc' := List.all_eq_true.1 h c hc
  unfold provedOnBoxX at hc'
  split at hc'
  · rename_i z hz
    exact C05.signs_of_enclosure
      (Eval.root_rel Alg.real_itvX hp (Eval.buildCalls_rel Alg.real_itvX c.1.1) hv hz) hc' x hx
  · cases hc'

theorem specViolated_sound {spec : String} {v : Mat ℚ} (h : specViolated spec v = true) :
    ∃ q ∈ v.d, ¬ C05.SignHolds spec ((q : ℚ) : ℝ) := by
  have key : ∀ (name : String) (P : ℚ → Prop) [DecidablePred P],
      (∀ q : ℚ, P q → ¬ C05.SignHolds name ((q : ℚ) : ℝ)) → (spec == name) = true →
      v.d.any (fun q => decide (P q)) = true → ∃ q ∈ v.d, ¬ C05.SignHolds spec ((q : ℚ) : ℝ) :=
    fun name P _ hP hs hany => by
      obtain ⟨q, hq, hd⟩ := List.any_eq_true.1 hany
      have hs' : spec = name := by simpa using hs
      exact ⟨q, hq, hs' ▸ hP q (of_decide_eq_true hd)⟩
  unfold specViolated at h
  split at h
  · refine key "leq" (0 < ·) (fun q hq hh => ?_) ‹_› h
    have : (0 : ℝ) < q := by exact_mod_cast hq
    simp [C05.SignHolds] at hh
    linarith
  · split at h
    · refine key "lt" (0 ≤ ·) (fun q hq hh => ?_) ‹_› h
      have : (0 : ℝ) ≤ q := by exact_mod_cast hq
      simp [C05.SignHolds] at hh
      linarith
    · split at h
      · refine key "geq" (· < 0) (fun q hq hh => ?_) ‹_› h
        have : (q : ℝ) < 0 := by exact_mod_cast hq
        simp [C05.SignHolds] at hh
        linarith
      · split at h
        · refine key "gt" (· ≤ 0) (fun q hq hh => ?_) ‹_› h
          have : (q : ℝ) ≤ 0 := by exact_mod_cast hq
          simp [C05.SignHolds] at hh
          linarith
        · cases h

/-- **an inner box refuted**: the rule `innerRefutedBy` exhibits a real point of the box at which a constraint is
    defined and violated (some component of its value does not satisfy the sign condition) -/
theorem innerRefutedBy_sound {cs : List ((List Dag × Dag) × String)} {b : Box} {p : List ℚ}
    (h : innerRefutedBy cs b p = true) :
    Box.Mem (castL p) b ∧ ∃ c ∈ cs, ∃ v, Eval.root Alg.real (castL p) (Eval.buildCalls Alg.real c.1.1) c.1.2 = some v ∧
      ∃ x ∈ v.d, ¬ C05.SignHolds c.2 x := by
  simp only [innerRefutedBy, Bool.and_eq_true, List.any_eq_true] at h
  obtain ⟨hin, c, hc, hv⟩ := h
  refine ⟨ratIn_iff.1 hin, c, hc, ?_⟩
  split at hv
  · rename_i v hev
    obtain ⟨z, hz, -, -, hd⟩ := C02.rat_root_real hev
    obtain ⟨q, hq, hnot⟩ := specViolated_sound hv
    obtain ⟨i, hi, rfl⟩ := List.getElem_of_mem hq
    have hi' : i < z.d.length := hd.length_eq ▸ hi
    have := (forall₂_iff_getElem?.1 hd).2 i _ _ (List.getElem?_eq_getElem hi) (List.getElem?_eq_getElem hi')
    simp only [RCast] at this
    exact ⟨z, hz, z.d[i], List.getElem_mem hi', this ▸ hnot⟩
  · cases hv

/-- **unknown boxes**: every component is not wider than the minimal width, or cannot be bisected -/
theorem unknown_small_iff {b : Box} {eps : List Ext} :
    Cover.unknownSmall b eps = true ↔
      b.length = eps.length ∧ ∀ (i : Nat) I e, b[i]? = some I → eps[i]? = some e →
        Ext.le (Box.diamUp I) e = true ∨ Box.bisectable I = false := C05.unknownSmall_iff

theorem unknown_small_dist {I : Itv} {e : Ext} (h : Ext.le (Box.diamUp I) e = true) {x y : ℝ}
    (hx : x ∈ I) (hy : y ∈ I) : ((|x - y| : ℝ) : EReal) ≤ e.toE := C05.unknownSmall_dist h hx hy

/-- **status**: success implies no unknown and no pending box; infeasible implies no box at all -/
theorem status_success {nsol nbnd nunk npend ninner : Nat}
    (h : Cover.statusOk "SUCCESS" nsol nbnd nunk npend ninner = true) : nunk = 0 ∧ npend = 0 :=
  C05.statusOk_success.1 h

theorem status_infeasible {nsol nbnd nunk npend ninner : Nat}
    (h : Cover.statusOk "INFEASIBLE" nsol nbnd nunk npend ninner = true) :
    nsol = 0 ∧ nbnd = 0 ∧ nunk = 0 ∧ npend = 0 ∧ ninner = 0 := C05.statusOk_infeasible.1 h

/-! ## non-vacuity -/

section Examples
open Ibex.C09 (I)

/-- `x² − 4`; nodes: 0 = x, 1 = x², 2 = 4, 3 = x² − 4 -/
def sq4 : Dag :=
  #[⟨.var 0, 1, 1⟩, ⟨.un "sqr" 0, 1, 1⟩, ⟨.const [Itv.point 4], 1, 1⟩, ⟨.bin "sub" 1 2, 1, 1⟩]

/-- existence box `[15/8, 17/8]`, unicity box `[1, 3]`, known zero 2: certified -/
example : certifiedByZero [([], sq4)] [I (15/8) (17/8)] [I 1 3] [2] = true := by decide +kernel
/-- hence the claim holds (the conclusion is not vacuous: the theorem applies) -/
example : SolClaim [([], sq4)] [I (15/8) (17/8)] [I 1 3] (List.range 1) :=
  claim_of_known_zero (p := [2]) (by decide +kernel)
/-- a unicity box `[−3, 3]` that contains the other zero −2 (outside the existence box): refuted -/
example : refuted [([], sq4)] [I (15/8) (17/8)] [I (-3) 3] [0] [[2], [-2]] = true := by decide +kernel
example : ¬ SolClaim [([], sq4)] [I (15/8) (17/8)] [I (-3) 3] [0] :=
  refuted_sound (zs := [[2], [-2]]) (by decide +kernel)
/-- an "existence box" `[−3, 3]` with two zeros: refuted -/
example : refuted [([], sq4)] [I (-3) 3] [I (-3) 3] [0] [[2], [-2]] = true := by decide +kernel
/-- the same solution certified without any known zero (Krawczyk existence + regular Jacobian) -/
example : findCert [([], sq4)] [I (15/8) (17/8)] [I 1 3] [0] 3 = some 0 := by decide +kernel
/-- nothing is refuted for the correct boxes -/
example : refuted [([], sq4)] [I (15/8) (17/8)] [I 1 3] [0] [[2], [-2]] = false := by decide +kernel

end Examples

/-! ## the rules evaluated with exact rational interval arithmetic (`certifiedByX`, `findCertX`, ...) -/

/-- **square systems, a zero known exactly**, exact uniqueness certificate -/
theorem claim_of_known_zeroX {eqs : List (List Dag × Dag)} {e u : Box} {p : List ℚ}
    (h : certifiedByZeroX eqs e u p = true) : SolClaim eqs e u (List.range e.length) := by
  simp only [certifiedByZeroX, Bool.and_eq_true, beq_iff_eq] at h
  obtain ⟨⟨⟨⟨hz, hpe⟩, hsub⟩, hu⟩, hlen⟩ := h
  have hu' : Newton.uniqueCertVarsX eqs u (List.range e.length) = true := by
    rw [hlen]; exact hu
  exact claim_of_rat_zero hz hpe hsub (unique_zeroX hu')

/-- **full certificate, exact interval arithmetic** -/
theorem claim_of_certifiedByX {eqs : List (List Dag × Dag)} {e u : Box} {vars : List ℕ} {x : Box}
    (h : certifiedByX eqs e u vars x = true) : SolClaim eqs e u vars := by
  simp only [certifiedByX, Bool.and_eq_true, beq_iff_eq, List.all_eq_true, List.mem_range,
    Bool.or_eq_true, List.contains_iff_mem] at h
  obtain ⟨⟨⟨⟨⟨⟨hpc, hex⟩, hxe⟩, heu⟩, hun⟩, hlen⟩, hpar⟩ := h
  exact claim_of_sub_box hxe heu (unique_zeroX hun) hlen hpar fun π hπ =>
    exists_zero_of_certX ((pointConsts_eq eqs).symm.trans hpc) hex π hπ

theorem claim_of_findCertX {eqs : List (List Dag × Dag)} {e u : Box} {vars : List ℕ} {tries k : ℕ}
    (h : findCertX eqs e u vars tries = some k) : SolClaim eqs e u vars := by
  have := List.find?_some h
  exact claim_of_certifiedByX this

/-- **existence for every parameter value**, from the subdivision certificate (exact interval arithmetic) -/
theorem existSplitX_sound {eqs : List (List Dag × Dag)} {vars : List ℕ} (hpc : Verdict.pointConsts eqs = true) :
    ∀ (d : ℕ) {e : Box}, existSplitX eqs vars d e = true →
      ∀ π, ParamsIn vars π e → ∃ z, Box.Mem z e ∧ SameParams vars z π ∧ Zero eqs z :=
  split_sound (E := fun e => Newton.existCertVarsX eqs e vars) (S := existSplitX eqs vars)
    (fun hex π hπ => exists_zero_of_certX ((pointConsts_eq eqs).symm.trans hpc) hex π hπ)
    (fun _ => rfl) (fun _ _ => rfl)

/-- **full certificate with subdivision of the parameter ranges**, exact interval arithmetic -/
theorem claim_of_certifiedSplitX {eqs : List (List Dag × Dag)} {e u : Box} {vars : List ℕ} {d : ℕ}
    (h : certifiedSplitX eqs e u vars d = true) : SolClaim eqs e u vars := by
  simp only [certifiedSplitX, Bool.and_eq_true] at h
  obtain ⟨⟨⟨hpc, hex⟩, hsub⟩, hun⟩ := h
  exact claim_of_certificates hsub (unique_zeroX hun) (existSplitX_sound hpc d hex)

section ExamplesX
open Ibex.C09 (I B52)

/-- `x² − 2`: the existence box of 2 ulps around `1.4142135623730951` (what the library reports), unicity box
    `[1,2]`: certified with exact arithmetic at the first try, NOT certified by the rounded rules -/
example : certifiedByX [([], C09.sqDag)] [B52 6369051672525772 6369051672525774] [I 1 2] [0]
    [B52 6369051672525772 6369051672525774] = true := by decide +kernel
example : findCertX [([], C09.sqDag)] [B52 6369051672525772 6369051672525774] [I 1 2] [0] 3 = some 0 := by
  decide +kernel
example : findCert [([], C09.sqDag)] [B52 6369051672525772 6369051672525774] [I 1 2] [0] 3 = none := by
  decide +kernel
example : SolClaim [([], C09.sqDag)] [B52 6369051672525772 6369051672525774] [I 1 2] [0] :=
  claim_of_findCertX (tries := 3) (k := 0) (by decide +kernel)
/-- a wrong existence box (1 ulp, next to the zero) is not certified; `x² − 4` as for the rounded rules -/
example : findCertX [([], C09.sqDag)] [B52 6369051672525773 6369051672525774] [I 1 2] [0] 3 = none := by
  decide +kernel
example : findCertX [([], sq4)] [I (15/8) (17/8)] [I 1 3] [0] 3 = some 0 := by decide +kernel
example : certifiedByZeroX [([], sq4)] [I (15/8) (17/8)] [I 1 3] [2] = true := by decide +kernel
example : certifiedByZeroX [([], sq4)] [I (15/8) (17/8)] [I (-3) 3] [2] = false := by decide +kernel

end ExamplesX

end Ibex.C06
