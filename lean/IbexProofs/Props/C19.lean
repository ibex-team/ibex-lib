/-
  C19 — contractor and separator combinators realise the set operation they name.

  Vocabulary (IbexProofs/Comb.lean): `Mem p b` = the real point `p : List ℝ` belongs to the box `b`;
  `CtcOK c S` = contractor contract of `c` w.r.t. the set `S` (result is a sub-box of the input;
  no point of `S ∩ input` is lost; INACTIVE reported only if nothing is removed);
  `SepOK n s S` = separator contract for boxes of dimension `n` (two sub-boxes; points outside `S` stay in the inner box,
  points of `S` stay in the outer box); `PdcOK t S` = predicate contract (YES / NO claims are true).

-/
import IbexProofs.CombTree

namespace Ibex.C19.Props
open Ibex Ibex.Comb Ibex.C19

/-! ## Part 1 — combinators over arbitrary sub-contractors -/

/-- every contractor meeting the contract returns a sub-box of its input -/
theorem sub_box {c : CtcFn} {S : Set Pt} (h : CtcOK c S) (x : Box) (imp : Imp) (p : Pt) :
    Mem p (c x imp).box → Mem p x := h.contracting x imp p

/-- composition keeps every point kept by all the components -/
theorem compo {cs : List CtcFn} {Ss : List (Set Pt)} (h : List.Forall₂ CtcOK cs Ss) :
    CtcOK (compoF cs) {p | ∀ S ∈ Ss, p ∈ S} := compo_ok h

/-- union keeps every point kept by at least one component -/
theorem union {cs : List CtcFn} {Ss : List (Set Pt)} (h : List.Forall₂ CtcOK cs Ss) :
    CtcOK (unionF cs) {p | ∃ S ∈ Ss, p ∈ S} := union_ok h

/-- fix-point keeps every point its argument keeps: any number of iterations (`fuel`), any ratio -/
theorem fixpoint {c : CtcFn} {S : Set Pt} (h : CtcOK c S) (fuel : Nat) (ratio : Ext) :
    CtcOK (fixF fuel c ratio) S := fix_ok h fuel ratio

/-- q-intersection keeps every point kept by at least `q` of the components
    (`atLeast q Ss` = there is a sub-list of `q` sets all containing the point) -/
theorem qinter {cs : List CtcFn} {Ss : List (Set Pt)} (h : List.Forall₂ CtcOK cs Ss) (q : Nat) :
    CtcOK (qinterF cs q) (atLeast q Ss) := qinter_ok h q

/-- the specification of `qinter` on boxes: every point lying in `q` of the boxes is in the result -/
theorem qinter_boxes {x : Box} {boxes sub : List Box} {p : Pt} (hx : Mem p x) (hs : sub.Sublist boxes)
    (hp : ∀ b ∈ sub, Mem p b) : Mem p (qinterSpec x boxes sub.length) := mem_qinterSpec hx hs rfl hp

/-- the integer contractor keeps the points whose selected components are integers -/
theorem integer (mask : List Bool) :
    CtcOK (integerF mask) {p | List.Forall₂ (fun (b : Bool) (v : ℝ) => b = true → ∃ n : ℤ, v = n) mask p} :=
  integer_ok mask

theorem identity : CtcOK idF Set.univ := id_ok
theorem empty : CtcOK emptyF (∅ : Set Pt) := empty_ok

/-- exists: keeps every `x` such that `(x,y) ∈ S` for some `y` of the parameter box — any sub-contractor,
    any covering bisection `bis`, any sampling function, any precision, any fuel -/
theorem exists_ {c : CtcFn} {S : Set Pt} (h : CtcOK c S) (fuel : Nat) (m : List Bool) (yinit : Box) (prec : Ext)
    (bis : Box → Option (Box × Box)) (samp : Box → Box) (hbis : BisOK bis) (hsamp : ∀ y, (samp y).length = y.length) :
    CtcOK (existF fuel c m yinit prec bis samp) {p | ∃ q, Mem q yinit ∧ merge m p q ∈ S} :=
  exist_ok h fuel m yinit prec bis samp hbis hsamp

/-- for all: keeps every `x` such that `(x,y) ∈ S` for all `y` of the (non-empty) parameter box -/
theorem for_all {c : CtcFn} {S : Set Pt} (h : CtcOK c S) (fuel : Nat) (m : List Bool) (yinit : Box) (prec : Ext)
    (bis : Box → Option (Box × Box)) (samp : Box → Box) (hbis : BisOK bis) (hsamp : SampOK samp)
    (hne : ∃ q, Mem q yinit) :
    CtcOK (forallF fuel c m yinit prec bis samp) {p | ∀ q, Mem q yinit → merge m p q ∈ S} :=
  forall_ok h fuel m yinit prec bis samp hbis hsamp hne

/-- the bisection / sampling functions of the model (`LargestFirst`, midpoint) satisfy the hypotheses -/
theorem model_bisection (prec : Ext) (ratio : Rat) : BisOK (lfBisect prec ratio) := lfBisect_ok prec ratio
theorem model_sampling : SampOK midBox := midBox_ok

/-- not-in: union of contractors for pieces covering the complement of `Y` -/
theorem not_in {cs : List CtcFn} {Ss : List (Set Pt)} (h : List.Forall₂ CtcOK cs Ss) (Y : Set Pt)
    (hcover : ∀ p, p ∉ Y → ∃ S ∈ Ss, p ∈ S) : CtcOK (notInF cs) Yᶜ := notIn_ok h Y hcover

/-- the pieces computed by `Interval::complementary` do cover the complement (scalar case) -/
theorem not_in_pieces (y : Itv) (v : ℝ) (hv : ¬ v ∈ y) : ∃ J ∈ Itv.complementary y, v ∈ J := Itv.compl_cover hv

/-- inverse image by `f`, given an enclosing forward and a conservative backward operator -/
theorem inverse {c : CtcFn} {S : Set Pt} (h : CtcOK c S) (f : Pt → Pt) (fwd : Box → Box) (bwd : Box → Box → Box)
    (hfwd : ∀ x p, Mem p x → Mem (f p) (fwd x))
    (hbwd : ∀ y x p, Mem p x → Mem (f p) y → Mem p (bwd y x))
    (hsub : ∀ y x, BSub (bwd y x) x) :
    CtcOK (inverseF c fwd bwd) {p | f p ∈ S} := inverse_ok h f fwd bwd hfwd hbwd hsub

theorem of_pdc {t : PdcFn} {S : Set Pt} (h : PdcOK t S) : CtcOK (ofPdcF t) Sᶜ := ofPdc_ok h

/-! separators (for boxes of dimension `n`) -/

/-- each point removed from the inner box belongs to the set, each point removed from the outer one does not -/
theorem sep_removed {n : Nat} {s : SepFn} {S : Set Pt} (h : SepOK n s S) (x : Box) (hx : x.length = n) (p : Pt)
    (hp : Mem p x) : (¬ Mem p (s x).xin → p ∈ S) ∧ (¬ Mem p (s x).xout → p ∉ S) :=
  ⟨h.removed_inner hx hp, h.removed_outer hx hp⟩

/-- both results are sub-boxes -/
theorem sep_sub_boxes {n : Nat} {s : SepFn} {S : Set Pt} (h : SepOK n s S) (x : Box) (hx : x.length = n) (p : Pt) :
    (Mem p (s x).xin → Mem p x) ∧ (Mem p (s x).xout → Mem p x) :=
  ⟨(h.subIn x hx).mem, (h.subOut x hx).mem⟩

theorem sep_pair (n : Nat) {cin cout : CtcFn} {S : Set Pt} (hi : CtcOK cin Sᶜ) (ho : CtcOK cout S) :
    SepOK n (sepPairF cin cout) S := sepPair_ok n hi ho (fun _ _ hp => hp) (fun _ hp => hp)

theorem sep_inter {n : Nat} {ss : List SepFn} {Ss : List (Set Pt)} (h : List.Forall₂ (SepOK n) ss Ss) :
    SepOK n (sepInterF ss) {p | ∀ S ∈ Ss, p ∈ S} := sepInter_ok h

theorem sep_union {n : Nat} {ss : List SepFn} {Ss : List (Set Pt)} (h : List.Forall₂ (SepOK n) ss Ss) :
    SepOK n (sepUnionF ss) {p | ∃ S ∈ Ss, p ∈ S} := sepUnion_ok h

theorem sep_not {n : Nat} {s : SepFn} {S : Set Pt} (h : SepOK n s S) : SepOK n (sepNotF s) Sᶜ := sepNot_ok h

/-- `SepQInter(list,q)`: the points belonging to all the sets but at most `q` of them -/
theorem sep_qinter {n : Nat} {ss : List SepFn} {Ss : List (Set Pt)} (h : List.Forall₂ (SepOK n) ss Ss) (q : Nat) :
    SepOK n (sepQInterF ss q) (atLeast (ss.length - q) Ss) := sepQInter_ok h q

/-! predicates (three-valued) -/

theorem pdc_and {ps : List PdcFn} {Ss : List (Set Pt)} (h : List.Forall₂ PdcOK ps Ss) :
    PdcOK (pdcAndF ps) {p | ∀ S ∈ Ss, p ∈ S} := pdcAnd_ok h
theorem pdc_or {ps : List PdcFn} {Ss : List (Set Pt)} (h : List.Forall₂ PdcOK ps Ss) :
    PdcOK (pdcOrF ps) {p | ∃ S ∈ Ss, p ∈ S} := pdcOr_ok h
theorem pdc_not {t : PdcFn} {S : Set Pt} (h : PdcOK t S) : PdcOK (pdcNotF t) Sᶜ := pdcNot_ok h

/-- the driver accepts an implementation answer equal to the logical answer, or MAYBE: then a YES
    (resp. NO) answer means that all (resp. no) points of the box are in the set -/
theorem pdc_check {t : PdcFn} {S : Set Pt} (h : PdcOK t S) (x : Box) (impl : BoolItv)
    (hacc : BoolItv.okFor (t x) impl = true) :
    (impl = .yes → ∀ q, Mem q x → q ∈ S) ∧ (impl = .no → ∀ q, Mem q x → q ∉ S) :=
  PdcVal.of_okFor hacc (h x)

/-! ## Part 2 — all trees -/

/-- any well-formed contractor tree over any leaves meeting the contract: the model evaluator meets the
    contract for the logical set of the tree (`ctcSet`), with any fuel -/
theorem tree_ctc (env : Env) (E : SetEnv) (hL : ∀ i, CtcOK (env.ctc i) (E.ctc i))
    (hP : ∀ i, PdcOK (env.pdc i) (E.pdc i)) (fuel : Nat) (t : Ctc) (ht : ctcWF t) :
    CtcOK (Ctc.eval env fuel t) (ctcSet E t) := ctc_eval_ok env E hL hP fuel t ht

/-- any well-formed separator tree (dimension `n`) -/
theorem tree_sep (env : Env) (E : SetEnv) (n : Nat) (hL : ∀ i, CtcOK (env.ctc i) (E.ctc i))
    (hP : ∀ i, PdcOK (env.pdc i) (E.pdc i)) (hS : ∀ i, SepOK n (env.sep i) (E.sep i)) (fuel : Nat)
    (t : Sep) (ht : sepWF E n t) : SepOK n (Sep.eval env fuel t) (sepSet E t) :=
  sep_eval_ok env E n hL hP hS fuel t ht

/-- any predicate tree -/
theorem tree_pdc (env : Env) (E : SetEnv) (hP : ∀ i, PdcOK (env.pdc i) (E.pdc i)) (t : Pdc) :
    PdcOK (Pdc.eval env.pdc t) (pdcSet E t) := pdc_eval_ok env E hP t

/-! ## Part 3 — the driver's acceptance on synthetic leaves -/

/-- the sets denoted by synthetic leaves (`sep`: the union `U`; `pdc`: the complement of the union `V`) -/
def synSets (L : SynLeaves) : SetEnv :=
  { ctc := fun i => unionSet (L.ctc i).boxes
    sep := fun i => unionSet (L.sep i).1
    pdc := fun i => (unionSet (L.pdc i).2)ᶜ }

/-- the pairs `(U,V)` of the separator leaves cover the `n`-dimensional space; those of each predicate
    leaf cover the space of its dimension -/
def Covering (L : SynLeaves) (n : Nat) : Prop :=
  (∀ i (p : Pt), p.length = n → p ∉ unionSet (L.sep i).2 → p ∈ unionSet (L.sep i).1) ∧
  (∀ i, ∃ k, (∀ b ∈ (L.pdc i).2, b.length = k) ∧
    ∀ p : Pt, p.length = k → p ∈ unionSet (L.pdc i).1 ∨ p ∈ unionSet (L.pdc i).2)

theorem syn_ctc (L : SynLeaves) (i : Nat) : CtcOK (L.env.ctc i) ((synSets L).ctc i) := leaf_ok (L.ctc i)
theorem syn_pdc (L : SynLeaves) {n : Nat} (h : Covering L n) (i : Nat) : PdcOK (L.env.pdc i) ((synSets L).pdc i) := by
  obtain ⟨k, hk, hc⟩ := h.2 i
  exact pdcLeaf_ok k _ _ hk hc
theorem syn_sep (L : SynLeaves) {n : Nat} (h : Covering L n) (i : Nat) : SepOK n (L.env.sep i) ((synSets L).sep i) :=
  sepLeaf_ok n _ _ _ (h.1 i) (fun _ hp => hp)

/-- the relation checked by the driver on printed boxes: both empty, or identical -/
def sameBox (a b : Box) : Prop := (Box.isEmpty a = true ∧ Box.isEmpty b = true) ∨ a = b

theorem sameBox.mem_iff {a b : Box} (h : sameBox a b) (p : Pt) : Mem p a ↔ Mem p b :=
  boxEq_mem_iff (by simpa [sameBox, boxEq] using h) p

/-- an implementation result accepted by the driver (same box as the model) is a sub-box of the input
    that contains every point of the input box belonging to the logical set of the tree -/
theorem comb_accept (L : SynLeaves) {n : Nat} (hcov : Covering L n) (t : Ctc) (ht : ctcWF t) (fuel : Nat) (x impl : Box)
    (h : sameBox impl (Ctc.eval L.env fuel t x (allImp x)).box) :
    (∀ p, Mem p impl → Mem p x) ∧ (∀ p, Mem p x → p ∈ ctcSet (synSets L) t → Mem p impl) := by
  have ok := tree_ctc L.env (synSets L) (syn_ctc L) (syn_pdc L hcov) fuel t ht
  exact ⟨fun p hp => ok.contracting x _ p ((h.mem_iff p).1 hp), fun p hp hS => (h.mem_iff p).2 (ok.sound x _ p hp hS)⟩

/-- same for separators: each point removed from the accepted inner box is in the set, each point
    removed from the accepted outer box is not -/
theorem sep_accept (L : SynLeaves) {n : Nat} (hcov : Covering L n) (t : Sep) (ht : sepWF (synSets L) n t) (fuel : Nat)
    (x iin iout : Box) (hx : x.length = n)
    (hin : sameBox iin (Sep.eval L.env fuel t x).xin) (hout : sameBox iout (Sep.eval L.env fuel t x).xout) :
    (∀ p, Mem p iin → Mem p x) ∧ (∀ p, Mem p iout → Mem p x) ∧
    (∀ p, Mem p x → ¬ Mem p iin → p ∈ sepSet (synSets L) t) ∧
    (∀ p, Mem p x → ¬ Mem p iout → p ∉ sepSet (synSets L) t) := by
  have ok := tree_sep L.env (synSets L) n (syn_ctc L) (syn_pdc L hcov) (syn_sep L hcov) fuel t ht
  refine ⟨fun p hp => (ok.subIn x hx).mem ((hin.mem_iff p).1 hp), fun p hp => (ok.subOut x hx).mem ((hout.mem_iff p).1 hp), ?_, ?_⟩
  · intro p hp hn
    exact ok.removed_inner hx hp (fun h => hn ((hin.mem_iff p).2 h))
  · intro p hp hn
    exact ok.removed_outer hx hp (fun h => hn ((hout.mem_iff p).2 h))

/-! ## Part 4 — non-vacuity: concrete leaves, a concrete tree, a concrete box, a concrete point -/

namespace Example
def I (a b : Int) : Itv := .mk (.fin a) (.fin b)
/-- leaf 0 = [0,1] ∪ [4,5], leaf 1 = [2,3] (dimension 1); separator / predicate leaves: U = ℝ, V = ∅ -/
def L : SynLeaves :=
  { ctc := fun i => if i = 0 then { boxes := [[I 0 1], [I 4 5]] } else { boxes := [[I 2 3]], setInact := true }
    sep := fun _ => ([[Itv.all]], [])
    pdc := fun _ => ([[Itv.all]], []) }
/-- union(compo(L0, integer), qinter[1](L1, L0)) -/
def t : Ctc := .union [.compo [.leaf 0, .integer [true]], .qinter [.leaf 1, .leaf 0] 1]
/-- inter(S0, not(pair(empty, id))) -/
def ts : Sep := .inter [.leaf 0, .not (.pair .id .empty)]

theorem all1 (p : Pt) (hp : p.length = 1) : p ∈ unionSet [[Itv.all]] := by
  match p, hp with
  | [v], _ => exact ⟨[Itv.all], by simp, List.Forall₂.cons (by simp [Itv.all, Itv.mem_mk]) List.Forall₂.nil⟩

/-- the hypotheses of `comb_accept` / `sep_accept` are satisfiable -/
example : ctcWF t := by simp [t, ctcWF, ctcWFList]
theorem cov : Covering L 1 :=
  ⟨fun _ p hp _ => all1 p hp, fun _ => ⟨1, by simp [L], fun p hp => Or.inl (all1 p hp)⟩⟩
example : sepWF (synSets L) 1 ts := by
  simp only [ts, sepWF, sepWFList, ctcWF, ctcSet, and_true, true_and]
  intro p _ _; exact Set.mem_univ p

/-- the model evaluator on a concrete input: [-1,3] is contracted to [0,3] -/
example : (Ctc.eval L.env 10 t [I (-1) 3] [true]).box = [I 0 3] := by decide +kernel

/-- the point 1 is in the box and in the set, hence in every accepted result -/
example : (1 : ℝ) ∈ I 0 3 := by
  refine (Itv.mem_mk _ _ _).2 ⟨?_, ?_⟩
  · simp [I]
  · simp only [I, Ext.toE_fin]
    exact_mod_cast (show (1 : ℝ) ≤ 3 by norm_num)
example : ([1] : Pt) ∈ ctcSet (synSets L) t := by
  refine ⟨_, List.mem_cons_self .., ?_⟩
  intro S hS
  simp only [ctcSetList, List.mem_cons, List.not_mem_nil, or_false] at hS
  rcases hS with rfl | rfl
  · exact ⟨[I 0 1], by simp [L], List.Forall₂.cons (by simp [I, Itv.mem_mk]) List.Forall₂.nil⟩
  · exact List.Forall₂.cons (fun _ => ⟨1, by simp⟩) List.Forall₂.nil
end Example

end Ibex.C19.Props
