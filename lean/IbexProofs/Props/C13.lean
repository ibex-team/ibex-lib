/-
  C13 — derived systems describe the same problem as the original.

  MODEL (`IbexModel/Sys.lean`): `normalize`, `extend`, `copyCtrs`, `mergeCtrs` on lists of
  constraints `(expression DAG, op)`, a constraint `f(x) op 0` holding at a real point when `f` is
  defined there and every entry of its (scalar / vector / matrix) value satisfies `op`
  (`Ctr.Sat`, `SatAll`; `IbexProofs/SysSem.lean`).  The theorems of part 1 hold for every real
  algebra that is `RealLike`: `Alg.real` (`realLike_real`) and `Alg.realWith ch` for every
  selection `ch` of a member of each thick interval constant (`realLike_realWith`) — thick
  right-hand sides `f(x) = [a,b]` are covered through the latter.

  TIE (part 2): the driver dumps the real derived system (`ctrs[i].f`, `ctrs[i].op`, `f_ctrs`,
  `ops[]`, goal, box, arguments) and runs the verified checkers `ctrsCheckT` (position by
  position: same operator, and the DAG of the real system and the DAG of the model have equal
  rational-function normal forms — the algorithm of `Equiv.check` (C11) where, in addition, a
  thick interval constant is an atom) and `flatCheckT` (entries of `f_ctrs` with `ops[]` = entries
  of the constraints up to their order).  `accepted_*`: an accepted dump has, at EVERY real point where the constraint
  functions involved are defined, exactly the solutions stated by the property.
  (Definedness — e.g. a simplification removing a division — and the operators outside the
  rational fragment are covered by exact evaluation at sample points only.)
-/
import IbexProofs.Sys
import IbexProofs.SysT

namespace Ibex.C13
open Ibex Ibex.Eval Ibex.Sys

variable {A : Alg ℝ}

/-! ## 1. the model has the property -/

/-- **Normalized system.**  A point satisfies the normalized constraints exactly when it
    satisfies the original inequalities and every entry of every original equality is within
    `eps` of 0. -/
theorem normalized_iff (hA : RealLike A) (eps : ℚ) (heps : 0 ≤ eps) (cs : List Ctr) (ρ : List ℝ) :
    SatAll A (normalize eps cs) ρ ↔
      (∀ c ∈ cs, c.op ≠ .eq → c.Sat A ρ) ∧ (∀ c ∈ cs, c.op = .eq → c.SatEps A (eps : ℝ) ρ) :=
  Sys.normalized_iff hA eps heps cs ρ

/-- … exactly the solutions of the original system when `eps = 0`. -/
theorem normalized_exact (hA : RealLike A) (cs : List Ctr) (ρ : List ℝ) :
    SatAll A (normalize 0 cs) ρ ↔ SatAll A cs ρ :=
  Sys.normalized_zero_iff hA cs ρ

/-- **Extended system** (goal variable `y` appended last, constraint `goal(x) - y = 0` first):
    `(x, y)` satisfies it exactly when `x` satisfies the normalized system and `y` is the value
    of the objective at `x`. -/
theorem extended_iff (hA : RealLike A) (n : ℕ) (goal : Prog) (eps : ℚ) (cs : List Ctr)
    (ρ : List ℝ) (y : ℝ) (hn : ρ.length = n) (hg : varsWithin n goal.main = true)
    (hv : ∀ c ∈ cs, varsWithin n c.f.main = true) :
    SatAll A (extend n goal eps cs) (ρ ++ [y]) ↔
      SatAll A (normalize eps cs) ρ ∧ evalR A goal ρ = some ⟨1, 1, [y]⟩ :=
  Sys.extended_iff hA n goal eps cs ρ y hn hg hv

/-- the goal of the extended system is the added variable -/
theorem extended_goal (n : ℕ) (ρ : List ℝ) (y : ℝ) (hn : ρ.length = n) :
    evalR A (varProg n) (ρ ++ [y]) = some ⟨1, 1, [y]⟩ :=
  Sys.evalR_varProg n ρ y hn

/-- **Copies** keep exactly the constraints selected by the mode (all of them for `COPY`), in the
    original order … -/
theorem copy_exactly (m : CopyMode) (cs : List Ctr) :
    (∀ c, c ∈ copyCtrs m cs ↔ c ∈ cs ∧ m.keeps c.op = true) ∧ (copyCtrs m cs).Sublist cs ∧
      copyCtrs .copy cs = cs :=
  ⟨Sys.mem_copyCtrs m cs, Sys.copyCtrs_sublist m cs, Sys.copy_all cs⟩

/-- … hence have exactly the solutions of the selected constraints. -/
theorem copy_keeps (m : CopyMode) (cs : List Ctr) (ρ : List ℝ) :
    SatAll A (copyCtrs m cs) ρ ↔ ∀ c ∈ cs, m.keeps c.op = true → c.Sat A ρ :=
  Sys.copy_keeps m cs ρ

/-- **Merged system**: a point of the merged system is a solution exactly when its first `n₁`
    coordinates solve the first system and the coordinates read through the variable names
    (`env₂`) solve the second one. -/
theorem merge_keeps (bs : List Block) (n₁ n : ℕ) (cs₁ cs₂ : List Ctr) (p : List ℝ)
    (hp : p.length = n) (hn : n₁ ≤ n) (h₁ : ∀ c ∈ cs₁, varsWithin n₁ c.f.main = true)
    (hb : blocksOK n 0 bs = true) (h₂ : ∀ c ∈ cs₂, varsAreBlocks bs c.f.main = true) :
    SatAll A (mergeCtrs bs cs₁ cs₂) p ↔ SatAll A cs₁ (p.take n₁) ∧ SatAll A cs₂ (env₂ bs p) :=
  Sys.merge_keeps bs n₁ n cs₁ cs₂ p hp hn h₁ hb h₂

/-- `read_ext_box (write_ext_box box ext) = box`, wherever the goal variable is. -/
theorem ext_box_roundtrip {α : Type} (gv : ℕ) (box ext : List α) (hg : gv ≤ box.length)
    (he : gv < ext.length) : readExt gv (writeExt gv box ext) = box :=
  Sys.readExt_writeExt gv box ext hg he

/-! ## 2. accepted dumps of the real systems

  `ch` is ANY selection of a member of each thick interval constant (`ChOK ch`: a degenerate
  constant denotes its value); `tbl` is the table of the thick constants treated as atoms by the
  checkers (any table; the driver uses all the thick constants of the two systems).  The real
  semantics without thick constants, `Alg.real`, is the instance `ch = realOfItv`
  (`realWith_realOfItv`, `chOK_realOfItv`). -/

variable {ch : Itv → Option ℝ} {tbl : List Itv}

/-- accepted lists of constraints have the same solutions -/
theorem accepted_same_solutions {nv : ℕ} {real model : List Ctr} (hch : ChOK ch)
    (h : ctrsCheckT tbl nv real model = some true) {ρ : List ℝ} (hρ : ρ.length = nv)
    (hr : Defined (Alg.realWith ch) real ρ) (hm : Defined (Alg.realWith ch) model ρ) :
    SatAll (Alg.realWith ch) real ρ ↔ SatAll (Alg.realWith ch) model ρ :=
  Sys.ctrsCheckT_sound hch h hρ hr hm

/-- accepted `f_ctrs` / `ops[]`: satisfaction through them is satisfaction of `ctrs` -/
theorem accepted_fctrs {nv : ℕ} {cs : List Ctr} {f : Prog} {ops : List Cmp} (hch : ChOK ch)
    (h : flatCheckT tbl nv cs f ops = some true) {ρ : List ℝ} (hρ : ρ.length = nv)
    (hd : Defined (Alg.realWith ch) cs ρ) {w : Mat ℝ} (hw : evalR (Alg.realWith ch) f ρ = some w) :
    SatF (Alg.realWith ch) f ops ρ ↔ SatAll (Alg.realWith ch) cs ρ :=
  Sys.flatCheckTB_sound hch h hρ hd hw

/-- accepted goal: same objective value -/
theorem accepted_goal {nv : ℕ} {real model : Prog} (hch : ChOK ch)
    (h : progCheckT tbl nv real model = some true) {ρ : List ℝ} (hρ : ρ.length = nv)
    {v₁ v₂ : Mat ℝ} (h₁ : evalR (Alg.realWith ch) real ρ = some v₁)
    (h₂ : evalR (Alg.realWith ch) model ρ = some v₂) : v₁ = v₂ :=
  Sys.progCheckTB_sound hch h hρ h₁ h₂

theorem realLike_of_chOK (hch : ChOK ch) (hdef : ∀ q : ℚ, (ch (Itv.point q)).isSome) :
    RealLike (Alg.realWith ch) :=
  realLike_realWith fun q => by
    obtain ⟨x, hx⟩ := Option.isSome_iff_exists.1 (hdef q)
    rw [hx, hch (Itv.point q) q x (by simp [ratOfItv, Itv.point]) hx]

/-- **Normalized system, real code.**  If the dump `real` of `NormalizedSystem(sys, eps).ctrs`
    is accepted against the model applied to the dump `orig` of `sys.ctrs`, then at every real
    point (where the functions are defined) `real` is satisfied exactly when the original
    inequalities hold and the original equalities hold up to `eps`. -/
theorem accepted_normalized {nv : ℕ} {real orig : List Ctr} {eps : ℚ} (hch : ChOK ch)
    (hA : RealLike (Alg.realWith ch)) (heps : 0 ≤ eps)
    (h : ctrsCheckT tbl nv real (normalize eps orig) = some true) {ρ : List ℝ} (hρ : ρ.length = nv)
    (hr : Defined (Alg.realWith ch) real ρ) (hm : Defined (Alg.realWith ch) (normalize eps orig) ρ) :
    SatAll (Alg.realWith ch) real ρ ↔
      (∀ c ∈ orig, c.op ≠ .eq → c.Sat (Alg.realWith ch) ρ) ∧
      (∀ c ∈ orig, c.op = .eq → c.SatEps (Alg.realWith ch) (eps : ℝ) ρ) :=
  (accepted_same_solutions hch h hρ hr hm).trans (Sys.normalized_iff hA eps heps orig ρ)

/-- **Extended system, real code.** -/
theorem accepted_extended {n : ℕ} {real orig : List Ctr} {goal : Prog} {eps : ℚ} (hch : ChOK ch)
    (hA : RealLike (Alg.realWith ch))
    (h : ctrsCheckT tbl (n + 1) real (extend n goal eps orig) = some true) {ρ : List ℝ} {y : ℝ}
    (hρ : ρ.length = n) (hg : varsWithin n goal.main = true)
    (hv : ∀ c ∈ orig, varsWithin n c.f.main = true)
    (hr : Defined (Alg.realWith ch) real (ρ ++ [y]))
    (hm : Defined (Alg.realWith ch) (extend n goal eps orig) (ρ ++ [y])) :
    SatAll (Alg.realWith ch) real (ρ ++ [y]) ↔
      SatAll (Alg.realWith ch) (normalize eps orig) ρ ∧
      evalR (Alg.realWith ch) goal ρ = some ⟨1, 1, [y]⟩ :=
  (accepted_same_solutions hch h (by simp [hρ]) hr hm).trans
    (Sys.extended_iff hA n goal eps orig ρ y hρ hg hv)

/-- **Copies, real code.** -/
theorem accepted_copy {nv : ℕ} {real orig : List Ctr} {m : CopyMode} (hch : ChOK ch)
    (h : ctrsCheckT tbl nv real (copyCtrs m orig) = some true) {ρ : List ℝ} (hρ : ρ.length = nv)
    (hr : Defined (Alg.realWith ch) real ρ) (hm : Defined (Alg.realWith ch) (copyCtrs m orig) ρ) :
    SatAll (Alg.realWith ch) real ρ ↔ ∀ c ∈ orig, m.keeps c.op = true → c.Sat (Alg.realWith ch) ρ :=
  (accepted_same_solutions hch h hρ hr hm).trans (Sys.copy_keeps m orig ρ)

/-- **Merged system, real code.** -/
theorem accepted_merge {n₁ n : ℕ} {real cs₁ cs₂ : List Ctr} {bs : List Block} (hch : ChOK ch)
    (h : ctrsCheckT tbl n real (mergeCtrs bs cs₁ cs₂) = some true) {p : List ℝ} (hp : p.length = n)
    (hn : n₁ ≤ n) (h₁ : ∀ c ∈ cs₁, varsWithin n₁ c.f.main = true) (hb : blocksOK n 0 bs = true)
    (h₂ : ∀ c ∈ cs₂, varsAreBlocks bs c.f.main = true)
    (hr : Defined (Alg.realWith ch) real p) (hm : Defined (Alg.realWith ch) (mergeCtrs bs cs₁ cs₂) p) :
    SatAll (Alg.realWith ch) real p ↔
      SatAll (Alg.realWith ch) cs₁ (p.take n₁) ∧ SatAll (Alg.realWith ch) cs₂ (env₂ bs p) :=
  (accepted_same_solutions hch h hp hr hm).trans (Sys.merge_keeps bs n₁ n cs₁ cs₂ p hp hn h₁ hb h₂)

/-- the instance without thick constants: `Alg.real` -/
theorem accepted_normalized_real {nv : ℕ} {real orig : List Ctr} {eps : ℚ} (heps : 0 ≤ eps)
    (h : ctrsCheckT [] nv real (normalize eps orig) = some true) {ρ : List ℝ} (hρ : ρ.length = nv)
    (hr : Defined Alg.real real ρ) (hm : Defined Alg.real (normalize eps orig) ρ) :
    SatAll Alg.real real ρ ↔
      (∀ c ∈ orig, c.op ≠ .eq → c.Sat Alg.real ρ) ∧
      (∀ c ∈ orig, c.op = .eq → c.SatEps Alg.real (eps : ℝ) ρ) :=
  accepted_normalized (ch := realOfItv) chOK_realOfItv realLike_real heps h hρ hr hm

/-! ## 3. non-vacuity -/

def k (q : Rat) : Node := ⟨.const [Itv.point q], 1, 1⟩
def x : Node := ⟨.var 0, 1, 1⟩
def x1 : Node := ⟨.var 1, 1, 1⟩

/-- `x - 1 = 0` and `x >= 0` -/
def cEq : Ctr := ⟨⟨[], #[x, k 1, ⟨.bin "sub" 0 1, 1, 1⟩]⟩, .eq⟩
def cGe : Ctr := ⟨⟨[], #[x]⟩, .geq⟩
def orig : List Ctr := [cEq, cGe]

/-- what a simplifying implementation could produce for `eps = 1/2`:
    `x + (-3/2) <= 0`, `1/2 - x <= 0`, `-x <= 0` -/
def realNorm : List Ctr :=
  [⟨⟨[], #[x, k (-3/2), ⟨.bin "add" 0 1, 1, 1⟩]⟩, .leq⟩,
   ⟨⟨[], #[k (1/2), x, ⟨.bin "sub" 0 1, 1, 1⟩]⟩, .leq⟩,
   ⟨⟨[], #[x, ⟨.un "minus" 0, 1, 1⟩]⟩, .leq⟩]

example : ctrsCheckT [] 1 realNorm (normalize (1/2) orig) = some true := by decide +kernel
/-- a sign error is rejected: `x <= 0` instead of `-x <= 0` -/
example : ctrsCheckT [] 1
    [⟨⟨[], #[x, k (-3/2), ⟨.bin "add" 0 1, 1, 1⟩]⟩, .leq⟩,
     ⟨⟨[], #[k (1/2), x, ⟨.bin "sub" 0 1, 1, 1⟩]⟩, .leq⟩, ⟨⟨[], #[x]⟩, .leq⟩]
    (normalize (1/2) orig) = some false := by decide +kernel
/-- with `eps = 0` the equality is kept -/
example : (normalize 0 orig).map (·.op) = [.eq, .leq] := by decide +kernel
example : (normalize (1/2) orig).map (·.op) = [.leq, .leq, .leq] := by decide +kernel

/-- `f_ctrs = (x - 1, x)` with `ops = (=, >=)`, also accepted in the other order -/
def fc : Prog := ⟨[], #[x, k 1, ⟨.bin "sub" 0 1, 1, 1⟩, ⟨.vec false [2, 0], 2, 1⟩]⟩
def fc' : Prog := ⟨[], #[x, k 1, ⟨.bin "sub" 0 1, 1, 1⟩, ⟨.vec false [0, 2], 2, 1⟩]⟩
example : flatCheckT [] 1 orig fc [.eq, .geq] = some true := by decide +kernel
example : flatCheckT [] 1 orig fc' [.geq, .eq] = some true := by decide +kernel
example : flatCheckT [] 1 orig fc' [.eq, .geq] = some false := by decide +kernel

/-- a thick right-hand side `x = [1,2]`, i.e. `x - [1,2] = 0`; the implementation could produce
    `(x - 1/2) - [1,2] <= 0` and `([1,2] - x) - 1/2 <= 0`: accepted with the constant as an atom,
    nothing claimed without -/
def K12 : Itv := .mk (.fin 1) (.fin 2)
def kK : Node := ⟨.const [K12], 1, 1⟩
def cThick : Ctr := ⟨⟨[], #[x, kK, ⟨.bin "sub" 0 1, 1, 1⟩]⟩, .eq⟩
def realThick : List Ctr :=
  [⟨⟨[], #[x, k (1/2), ⟨.bin "sub" 0 1, 1, 1⟩, kK, ⟨.bin "sub" 2 3, 1, 1⟩]⟩, .leq⟩,
   ⟨⟨[], #[kK, x, ⟨.bin "sub" 0 1, 1, 1⟩, k (1/2), ⟨.bin "sub" 2 3, 1, 1⟩]⟩, .leq⟩]
example : ctrsCheckT [K12] 1 realThick (normalize (1/2) [cThick]) = some true := by decide +kernel
example : ctrsCheckT [] 1 realThick (normalize (1/2) [cThick]) = none := by decide +kernel
example : tableOf (realThick.map (·.f)) = [K12] := by decide +kernel

/-- extended system of `min x` s.t. `orig`: `x - y = 0` first -/
def goal : Prog := ⟨[], #[x]⟩
def realExt : List Ctr :=
  [⟨⟨[], #[x, x1, ⟨.bin "sub" 0 1, 1, 1⟩]⟩, .eq⟩, cEq, ⟨⟨[], #[x, ⟨.un "minus" 0, 1, 1⟩]⟩, .leq⟩]
example : ctrsCheckT [] 2 realExt (extend 1 goal 0 orig) = some true := by decide +kernel
example : varsWithin 1 goal.main = true ∧ ∀ c ∈ orig, varsWithin 1 c.f.main = true := by decide +kernel

/-- the constraint functions of the example are defined everywhere … -/
theorem cGe_eval (t : ℝ) : evalR Alg.real cGe.f [t] = some ⟨1, 1, [t]⟩ :=
  evalR_varProg 0 [] t rfl

/-- `cEq.f` is `x - 1` as the model builds it -/
theorem cEq_eval (t : ℝ) : evalR Alg.real cEq.f [t] = some ⟨1, 1, [t - 1]⟩ := by
  have e : cEq.f = cGe.f.subConst 1 := rfl
  rw [e, evalR_subConst realLike_real, cGe_eval]
  simp

/-- … the original system has the solution `x = 1` … -/
example : SatAll Alg.real orig [1] := by
  intro c hc
  simp only [orig, List.mem_cons, List.mem_nil_iff, or_false] at hc
  rcases hc with rfl | rfl
  · exact ⟨_, cEq_eval 1, by simp [cEq, Cmp.holds]⟩
  · exact ⟨_, cGe_eval 1, by simp [cGe, Cmp.holds]⟩

/-- … and the model's normalized system with `eps = 1/2` accepts `x = 5/4` (which the original
    system does not): the statement of `normalized_iff` is not vacuous in either direction. -/
example : SatAll Alg.real (normalize (1/2) orig) [5/4] := by
  rw [Sys.normalized_iff realLike_real (1/2) (by norm_num)]
  refine ⟨fun c hc hne => ?_, fun c hc he => ?_⟩
  · simp only [orig, List.mem_cons, List.mem_nil_iff, or_false] at hc
    rcases hc with rfl | rfl
    · exact absurd rfl hne
    · exact ⟨_, cGe_eval _, by simp [cGe, Cmp.holds]; norm_num⟩
  · simp only [orig, List.mem_cons, List.mem_nil_iff, or_false] at hc
    rcases hc with rfl | rfl
    · refine ⟨_, cEq_eval _, ?_⟩
      simp only [List.mem_singleton, forall_eq]
      rw [abs_le]
      constructor <;> norm_num
    · exact absurd he (by simp [cGe])

example : ¬ SatAll Alg.real orig [5/4] := by
  intro h
  obtain ⟨v, hv, hx⟩ := h cEq (by simp [orig])
  rw [cEq_eval] at hv
  cases hv
  have := hx (5/4 - 1) (by simp)
  simp [cEq, Cmp.holds] at this
  norm_num at this

end Ibex.C13
