/-
  C17 — cell buffers behave as priority multisets over every operation history.

  `checkTrace cfg evs` is what the driver evaluates on a history `evs` logged from the REAL C++
  buffer (`CellStack`, `CellList`, `CellHeap`, `Heap<T>`, `SharedHeap<T>`, `DoubleHeap<T>`,
  `CellDoubleHeap`, `CellBeamSearch`): every event carries the operation and what the implementation
  answered (the cell it handed out, the minimum it reported, the cells whose destructor ran …).
  `after cfg pre` is the abstract multiset (`Spec.run`) after the logged prefix `pre`.

  The theorems about one answer have the form  `checkTrace cfg (pre ++ e :: post) = true → P (after cfg pre) e`:
  whenever the checker accepts a history — of ANY length, with any costs (ties, ±∞) — each of its
  answers satisfies the property in the multiset state reached at that moment; those about conservation speak
  of a whole accepted history, the last ones of the specification itself.  Orders are stated in
  `EReal` through `Ext.toE` (the exact value of the logged double).
-/
import IbexProofs.Buffers
import Mathlib.Tactic.Abel

namespace Ibex.C17
open Ibex Ibex.Buffers

abbrev after (cfg : Config) (pre : List Event) : State := Spec.run cfg (init cfg) pre

/-! ## no cell is lost, duplicated or handed out twice -/

/-- an accepted history stays accepted when cut anywhere: everything below holds at every prefix -/
theorem every_prefix_accepted {cfg : Config} {pre post : List Event}
    (h : checkTrace cfg (pre ++ post) = true) : checkTrace cfg pre = true :=
  checkTrace_prefix h

/-- **conservation**: at the end of an accepted history (hence at every prefix), the stored cells,
    the cells handed out by `pop`, the cells destroyed by `contract`/`flush` (observed destructor
    calls) and the cells erased are, together, exactly the cells pushed — as multisets of ids — and
    no id was pushed twice.  So nothing is lost, nothing is duplicated. -/
theorem no_loss_no_dup {cfg : Config} {evs : List Event} (h : checkTrace cfg evs = true) :
    (ids (after cfg evs).cells ++ handedOut evs ++ destroyed evs ++ erased evs).Perm (pushedIds evs)
      ∧ (pushedIds evs).Nodup := by
  have hc := conservation_from (inv_init cfg) h
  have hn := pushed_nodup_from (inv_init cfg) h
  simp only [init, ids, List.map_nil, List.nil_append, Multiset.coe_nil, zero_add] at hc hn
  refine ⟨?_, hn⟩
  rw [← Multiset.coe_eq_coe, ← hc]
  simp [ids, after, init]

/-- the same as a subtraction: stored = pushed − handed out − destroyed − erased -/
theorem stored_eq_pushed_minus_removed {cfg : Config} {evs : List Event} (h : checkTrace cfg evs = true) :
    (ids (after cfg evs).cells : Multiset Nat)
      = (pushedIds evs : Multiset Nat) - (handedOut evs : Multiset Nat) - (destroyed evs : Multiset Nat)
          - (erased evs : Multiset Nat) := by
  have hc := conservation_from (inv_init cfg) h
  have h0 : ((ids (init cfg).cells : List Nat) : Multiset Nat) = 0 := rfl
  rw [h0, zero_add] at hc
  have hc' : (pushedIds evs : Multiset Nat) = (ids (after cfg evs).cells : Multiset Nat)
      + ((handedOut evs : Multiset Nat) + ((destroyed evs : Multiset Nat) + (erased evs : Multiset Nat))) := by
    rw [← hc]; abel
  rw [hc', tsub_tsub, tsub_tsub, add_tsub_cancel_right]

/-- no cell is handed out twice, destroyed twice, or both handed out and destroyed / still stored -/
theorem never_handed_out_twice {cfg : Config} {evs : List Event} (h : checkTrace cfg evs = true) :
    (ids (after cfg evs).cells ++ handedOut evs ++ destroyed evs ++ erased evs).Nodup :=
  let ⟨hp, hn⟩ := no_loss_no_dup h
  hp.nodup_iff.mpr hn

/-- every popped cell was pushed before, is still stored at that moment, and was neither handed
    out, destroyed nor erased before -/
theorem popped_was_pushed_and_not_removed {cfg : Config} {pre post : List Event} {sel w id : Nat}
    {mv : List Nat} (h : checkTrace cfg (pre ++ .pop sel w id mv :: post) = true) :
    id ∈ ids (after cfg pre).cells ∧ id ∈ pushedIds pre ∧ id ∉ handedOut pre ∧ id ∉ destroyed pre
      ∧ id ∉ erased pre := by
  obtain ⟨_, hc⟩ := accepted_at h
  simp only [check, Bool.and_eq_true] at hc
  have hm : id ∈ ids (after cfg pre).cells := frontOk_mem hc.1.2
  have hpre := every_prefix_accepted h
  have ⟨hp, _⟩ := no_loss_no_dup hpre
  have hnd := never_handed_out_twice hpre
  rw [List.append_assoc, List.append_assoc] at hnd
  -- a stored id occurs in none of the three ledgers
  have key : id ∉ handedOut pre ++ (destroyed pre ++ erased pre) :=
    fun hx => (List.nodup_append.mp hnd).2.2 id hm id hx rfl
  simp only [List.mem_append, not_or] at key
  exact ⟨hm, hp.subset (by simp [hm]), key.1, key.2.1, key.2.2⟩

/-! ## pop / top return a cell of minimal cost for the criterion in force -/

/-- what `pop` and `top` of a heap or double heap have in common: an admissible selector and front cell -/
theorem front_minimal {cfg : Config} {s : State} {sel w id : Nat} (hi : Inv cfg s)
    (hk : cfg.kind = .heap ∨ cfg.kind = .dheap) (hs : selOk cfg s sel w = true)
    (hf : frontOk cfg s w id = true) :
    (w = 0 ∨ w = 1) ∧ (cfg.kind = .heap → w = 0) ∧
    ∃ c ∈ s.cells, c.id = id ∧ ∀ d ∈ s.cells, (cost w c).toE ≤ (cost w d).toE := by
  obtain ⟨hw, hw0⟩ := selOk_which hs
  obtain ⟨c, hcm, hid, hmin⟩ := frontOk_global hi hk hf
  exact ⟨hw, fun hh => (hw0 (by simp [hh])).1, c, hcm, hid,
    fun d hd => (Ext.le_iff _ _).mp (hmin d hd)⟩

/-- `Heap<T>`, `CellHeap`, `SharedHeap<T>`, `DoubleHeap<T>`, `CellDoubleHeap`: the popped cell is
    stored and its cost for the criterion `w` of the heap the implementation used (`w = 0`: first,
    `w = 1`: second; a single heap only has `w = 0`) is `≤` the cost of every stored cell.
    Both heaps of a double heap are judged against the SAME multiset of stored cells. -/
theorem pop_minimal {cfg : Config} {pre post : List Event} {sel w id : Nat} {mv : List Nat}
    (hk : cfg.kind = .heap ∨ cfg.kind = .dheap)
    (h : checkTrace cfg (pre ++ .pop sel w id mv :: post) = true) :
    (w = 0 ∨ w = 1) ∧ (cfg.kind = .heap → w = 0) ∧
    ∃ c ∈ (after cfg pre).cells, c.id = id ∧
      ∀ d ∈ (after cfg pre).cells, (cost w c).toE ≤ (cost w d).toE := by
  obtain ⟨hi, hc⟩ := accepted_at h
  simp only [check, Bool.and_eq_true] at hc
  exact front_minimal hi hk hc.1.1 hc.1.2

theorem top_minimal {cfg : Config} {pre post : List Event} {sel w id : Nat}
    (hk : cfg.kind = .heap ∨ cfg.kind = .dheap)
    (h : checkTrace cfg (pre ++ .top sel w id :: post) = true) :
    (w = 0 ∨ w = 1) ∧ (cfg.kind = .heap → w = 0) ∧
    ∃ c ∈ (after cfg pre).cells, c.id = id ∧
      ∀ d ∈ (after cfg pre).cells, (cost w c).toE ≤ (cost w d).toE := by
  obtain ⟨hi, hc⟩ := accepted_at h
  simp only [check, Bool.and_eq_true] at hc
  exact front_minimal hi hk hc.1 hc.2

/-- `pop1()` / `pop2()` of a double heap use the first / the second criterion -/
theorem pop_selected_heap {cfg : Config} {pre post : List Event} {sel w id : Nat} {mv : List Nat}
    (hk : cfg.kind = .dheap) (h : checkTrace cfg (pre ++ .pop sel w id mv :: post) = true) :
    (sel = 1 → w = 0) ∧ (sel = 2 → w = 1) := by
  obtain ⟨_, hc⟩ := accepted_at h
  simp only [check, Bool.and_eq_true] at hc
  have := hc.1.1
  unfold selOk at this
  simp only [hk] at this
  constructor
  · intro hs; subst hs; simpa using this
  · intro hs; subst hs; simpa using this

/-- `critpr = 0`: a double heap serves every `pop()` from its first heap (unless `top2()` was
    called explicitly before, which selects the second heap until the next pop) -/
theorem critpr_zero_first_heap_only {cfg : Config} {pre post : List Event} {w id : Nat} {mv : List Nat}
    (hk : cfg.kind = .dheap) (h0 : cfg.critpr = 0)
    (hnotop2 : ∀ e ∈ pre, ∀ w' i, e ≠ .top 2 w' i)
    (h : checkTrace cfg (pre ++ .pop 0 w id mv :: post) = true) : w = 0 := by
  obtain ⟨_, hc⟩ := accepted_at h
  simp only [check, Bool.and_eq_true] at hc
  have h1 : (after cfg pre).cur = 0 :=
    cur_zero_run hk h0 pre (init cfg) (every_prefix_accepted h) (by simp [init, hk, h0]) hnotop2
  rcases selOk_dheap hk hc.1.1 with ⟨-, hcur, -⟩ | ⟨h', -⟩ | ⟨h', -⟩
  · rw [h1] at hcur
    exact (hcur.resolve_left (by decide)).symm
  · cases h'
  · cases h'

/-- `CellBeamSearch`: the popped cell comes from the sub-buffer that has priority (current, else
    future, else the global heap) and has minimal cost among the cells of that sub-buffer -/
theorem beam_pop_minimal {cfg : Config} {pre post : List Event} {sel w id : Nat} {mv : List Nat}
    (hk : cfg.kind = .beam) (h : checkTrace cfg (pre ++ .pop sel w id mv :: post) = true) :
    w = 0 ∧ ∃ c ∈ (after cfg pre).cells, c.id = id ∧ c.tag = src cfg (after cfg pre).cells ∧
      ∀ d ∈ (after cfg pre).cells, d.tag = c.tag → c.c1.toE ≤ d.c1.toE := by
  obtain ⟨_, hc⟩ := accepted_at h
  simp only [check, Bool.and_eq_true] at hc
  obtain ⟨_, hw0⟩ := selOk_which hc.1.1
  have hw : w = 0 := (hw0 (by simp [hk])).1
  obtain ⟨c, hcm, hid, htag, hmin⟩ := frontOk_heap (Or.inr (Or.inr hk)) hc.1.2
  refine ⟨hw, c, hcm, hid, htag, fun d hd hdt => ?_⟩
  have := (Ext.le_iff _ _).mp (hmin d hd (hdt.trans htag))
  simpa [cost, hw] using this

/-- `CellStack`: pop returns the most recently pushed stored cell (ids grow with push time) -/
theorem stack_lifo {cfg : Config} {pre post : List Event} {sel w id : Nat} {mv : List Nat}
    (hk : cfg.kind = .stack) (h : checkTrace cfg (pre ++ .pop sel w id mv :: post) = true) :
    id ∈ ids (after cfg pre).cells ∧ ∀ j ∈ ids (after cfg pre).cells, j ≤ id := by
  obtain ⟨hi, hc⟩ := accepted_at h
  simp only [check, Bool.and_eq_true] at hc
  exact frontOk_stack hi hk hc.1.2

/-- `CellList`: pop returns the oldest stored cell -/
theorem list_fifo {cfg : Config} {pre post : List Event} {sel w id : Nat} {mv : List Nat}
    (hk : cfg.kind = .list) (h : checkTrace cfg (pre ++ .pop sel w id mv :: post) = true) :
    id ∈ ids (after cfg pre).cells ∧ ∀ j ∈ ids (after cfg pre).cells, id ≤ j := by
  obtain ⟨hi, hc⟩ := accepted_at h
  simp only [check, Bool.and_eq_true] at hc
  exact frontOk_list hi hk hc.1.2

/-- push order really is id order: every pushed id is the next fresh one -/
theorem pushed_ids_increase {cfg : Config} {evs : List Event} (h : checkTrace cfg evs = true) :
    (pushedIds evs).Pairwise (· < ·) :=
  (pushed_sorted_from h).1

/-! ## `minimum` is the least cost among ALL stored cells -/

theorem minimum_least {cfg : Config} {pre post : List Event} {k : Nat} {v : Ext}
    (h : checkTrace cfg (pre ++ .minimum k v :: post) = true) :
    (∃ c ∈ (after cfg pre).cells, cost k c = v) ∧
      ∀ d ∈ (after cfg pre).cells, v.toE ≤ (cost k d).toE := by
  obtain ⟨_, hc⟩ := accepted_at h
  obtain ⟨h1, h2⟩ := minimum_sound hc
  exact ⟨h1, fun d hd => (Ext.le_iff _ _).mp (h2 d hd)⟩

/-- buffers whose first criterion is the objective lower bound (`CellHeap`, `CellDoubleHeap`,
    `CellBeamSearch`): `minimum()` is the smallest objective lower bound among the stored cells.
    For the beam search the stored cells are those of all three internal heaps (any `tag`). -/
theorem minimum_is_least_lower_bound {cfg : Config} {pre post : List Event} {v : Ext}
    (hl : cfg.lbFirst = true) (h : checkTrace cfg (pre ++ .minimum 0 v :: post) = true) :
    (∃ c ∈ (after cfg pre).cells, c.lb = v) ∧ ∀ d ∈ (after cfg pre).cells, v.toE ≤ d.lb.toE := by
  obtain ⟨hi, _⟩ := accepted_at h
  obtain ⟨⟨c, hc, hcv⟩, h2⟩ := minimum_least h
  refine ⟨⟨c, hc, ?_⟩, fun d hd => ?_⟩
  · rw [← hi.lbs hl c hc]; simpa [cost] using hcv
  · have := h2 d hd
    rw [← hi.lbs hl d hd]; simpa [cost] using this

/-- beam search: the reported minimum is not above the cost of any cell of any of the three
    internal heaps (`tag` = 0 future, 1 current, 2 global) -/
theorem beam_minimum_all {cfg : Config} {pre post : List Event} {v : Ext}
    (_hk : cfg.kind = .beam) (h : checkTrace cfg (pre ++ .minimum 0 v :: post) = true) :
    ∀ t : Nat, ∀ d ∈ (after cfg pre).cells, d.tag = t → v.toE ≤ d.c1.toE := by
  intro t d hd _
  have := (minimum_least h).2 d hd
  simpa [cost] using this

/-! ## `contract v` removes exactly the cells whose (first) cost exceeds `v` -/

/-- the cells whose destructor ran are exactly the stored cells with cost `> v` (strictly), the
    cells that remain are exactly those with cost `≤ v`; the spec state after the contraction is the
    filtered multiset -/
theorem contract_exact {cfg : Config} {pre post : List Event} {v : Ext} {del : List Nat}
    (h : checkTrace cfg (pre ++ .contract v del :: post) = true) :
    (∀ c ∈ (after cfg pre).cells, (c.id ∈ del ↔ v.toE < c.c1.toE)) ∧
    (∀ c ∈ (after cfg pre).cells,
        (c.id ∈ ids (after cfg (pre ++ [.contract v del])).cells ↔ c.c1.toE ≤ v.toE)) ∧
    (after cfg (pre ++ [.contract v del])).cells
        = (after cfg pre).cells.filter (fun c => Ext.le c.c1 v) ∧
    del.Nodup := by
  obtain ⟨hi, hc⟩ := accepted_at h
  obtain ⟨hdel, h1, h2⟩ := contract_sound hi hc
  refine ⟨fun c hcm => ?_, fun c hcm => ?_, ?_, ?_⟩
  · rw [h1 c hcm, ext_not_le]
  · have := h2 c hcm
    rw [← Ext.le_iff, ← this]
    simp [after, run_append, Spec.run]
  · simp [after, run_append, Spec.run, Spec.step]
  · rw [hdel]; exact hi.nodup.sublist (ids_filter_sublist _ _)

theorem flush_empties {cfg : Config} {pre post : List Event} {del : List Nat}
    (h : checkTrace cfg (pre ++ .flush del :: post) = true) :
    del = ids (after cfg pre).cells ∧ (after cfg (pre ++ [.flush del])).cells = [] := by
  obtain ⟨_, hc⟩ := accepted_at h
  obtain ⟨h1, _⟩ := flush_sound hc
  exact ⟨h1, by simp [after, run_append, Spec.run, Spec.step]⟩

theorem size_agrees {cfg : Config} {pre post : List Event} {n : Nat}
    (h : checkTrace cfg (pre ++ .size n :: post) = true) : n = (after cfg pre).cells.length := by
  obtain ⟨_, hc⟩ := accepted_at h
  simpa [check] using hc

theorem empty_agrees {cfg : Config} {pre post : List Event} {b : Bool}
    (h : checkTrace cfg (pre ++ .empty b :: post) = true) : (b = true ↔ (after cfg pre).cells = []) := by
  obtain ⟨_, hc⟩ := accepted_at h
  simp only [check, beq_iff_eq] at hc
  rw [hc]; simp

/-- a push is refused (`CellBufferOverflow`) exactly when a bounded stack / list is full -/
theorem push_refused_iff_full {cfg : Config} {pre post : List Event} {c : Cell} {stored : Bool}
    (h : checkTrace cfg (pre ++ .push c stored :: post) = true) :
    (stored = false ↔ (cfg.kind = .stack ∨ cfg.kind = .list) ∧ 0 < cfg.capacity
        ∧ (after cfg pre).cells.length = cfg.capacity) := by
  obtain ⟨_, hc⟩ := accepted_at h
  simp only [check, Bool.and_eq_true, beq_iff_eq] at hc
  rw [hc.2]
  simp only [full, Bool.not_eq_eq_eq_not, Bool.not_false, Bool.and_eq_true, Bool.or_eq_true, beq_iff_eq,
    decide_eq_true_eq, and_assoc]

/-! ## the two heaps of a double heap hold the same cells; internal heap order -/

/-- the cells found by walking the first and the second internal heap are the stored cells -/
theorem double_heap_same_cells {cfg : Config} {pre post : List Event} {h1 h2 : List Nat}
    (h : checkTrace cfg (pre ++ .heaps h1 h2 :: post) = true) :
    h1 = h2 ∧ h1 = ids (after cfg pre).cells := by
  obtain ⟨_, hc⟩ := accepted_at h
  simp only [check, Bool.and_eq_true, beq_iff_eq] at hc
  exact ⟨hc.1.2.trans hc.2.symm, hc.1.2⟩

/-- an accepted level-order dump of an internal binary heap is a permutation of the stored cells
    whose root has minimal cost: the next `pop` through that heap is an admissible one -/
theorem internal_heap_root_minimal {cfg : Config} {pre post : List Event} {k : Nat} {o : List Nat}
    (h : checkTrace cfg (pre ++ .tree k o :: post) = true) :
    o.Perm (ids (after cfg pre).cells) ∧
      ∀ r, o.head? = some r → ∃ c ∈ (after cfg pre).cells, c.id = r ∧
        ∀ d ∈ (after cfg pre).cells, (cost k c).toE ≤ (cost k d).toE := by
  obtain ⟨hi, hc⟩ := accepted_at h
  obtain ⟨hp, hr⟩ := tree_sound hi hc
  refine ⟨hp, fun r hro => ?_⟩
  have hrm : r ∈ ids (after cfg pre).cells := hp.subset (List.mem_of_mem_head? hro)
  obtain ⟨c, hcm, hcr⟩ := mem_ids.mp hrm
  refine ⟨c, hcm, hcr, fun d hd => ?_⟩
  have := hr r hro d hd
  rw [← hcr, costOf_mem hi.nodup hcm] at this
  exact (Ext.le_iff _ _).mp this

/-! ## the specification itself is a priority queue -/

/-- popping any accepted sequence `l` out of a heap state yields non-decreasing costs, and `l`
    together with what remains is exactly the stored multiset -/
theorem spec_drain_sorted {cfg : Config} {s : State} (hi : Inv cfg s) (hk : cfg.kind = .heap)
    (l : List Nat) (h : go cfg s (popAll l) = true) :
    (l.map (costOf 0 s.cells)).Pairwise (fun a b => a.toE ≤ b.toE) ∧
      (ids (Spec.run cfg s (popAll l)).cells ++ l).Perm (ids s.cells) := by
  obtain ⟨h1, h2⟩ := drain_sorted hi hk l h
  exact ⟨h1.imp (fun h => (Ext.le_iff _ _).mp h), h2⟩

/-- … and such a complete drain exists from every state: the spec never blocks and loses nothing -/
theorem spec_drain_exists {cfg : Config} {s : State} (hi : Inv cfg s) (hk : cfg.kind = .heap) :
    ∃ l : List Nat, go cfg s (popAll l) = true ∧ l.Perm (ids s.cells)
      ∧ (l.map (costOf 0 s.cells)).Pairwise (fun a b => a.toE ≤ b.toE) := by
  obtain ⟨l, _, hgo, hnil⟩ := exists_drain hk s.cells.length s hi rfl
  obtain ⟨h1, h2⟩ := spec_drain_sorted hi hk l hgo
  rw [hnil] at h2
  exact ⟨l, hgo, by simpa [ids] using h2, h1⟩

/-! ## non-vacuity: concrete histories -/

section Examples
private def c (i : Nat) (a b : Ext) : Cell := { id := i, c1 := a, c2 := b, lb := a, tag := 0 }
private def hp : Config := { kind := .heap, lbFirst := true }
private def dh : Config := { kind := .dheap, critpr := 50, lbFirst := true }
private def bm : Config := { kind := .beam, beam := 2, lbFirst := true }

/-- a heap history with a tie, ±∞, a strict contraction and a flush is accepted -/
example : checkTrace hp
    [.push (c 0 (.fin 2) (.fin 2)) true, .push (c 1 (.fin 1) (.fin 1)) true, .push (c 2 (.fin 1) (.fin 1)) true,
     .push (c 3 .pinf .pinf) true, .push (c 4 .ninf .ninf) true, .size 5, .minimum 0 .ninf, .top 0 0 4,
     .pop 0 0 4 [], .tree 0 [2, 0, 1, 3], .pop 0 0 2 [], .minimum 0 (.fin 1), .contract (.fin 1) [0, 3], .size 1,
     .pop 0 0 1 [], .empty true, .push (c 5 (.fin 0) (.fin 0)) true, .flush [5], .size 0] = true := by
  decide +kernel

/-- popping a cell that is not minimal is rejected -/
example : checkTrace hp
    [.push (c 0 (.fin 2) (.fin 2)) true, .push (c 1 (.fin 1) (.fin 1)) true, .pop 0 0 0 []] = false := by
  decide +kernel
/-- handing the same cell out twice is rejected -/
example : checkTrace hp
    [.push (c 0 (.fin 2) (.fin 2)) true, .push (c 1 (.fin 2) (.fin 2)) true, .pop 0 0 0 [], .pop 0 0 0 []] = false := by
  decide +kernel
/-- a stale minimum is rejected -/
example : checkTrace hp
    [.push (c 0 (.fin 2) (.fin 2)) true, .push (c 1 (.fin 1) (.fin 1)) true, .pop 0 0 1 [], .minimum 0 (.fin 1)] = false := by
  decide +kernel
/-- a contraction that also removes the cells of cost `= v` (`>=` instead of `>`) is rejected -/
example : checkTrace hp
    [.push (c 0 (.fin 2) (.fin 2)) true, .push (c 1 (.fin 1) (.fin 1)) true, .contract (.fin 1) [0, 1]] = false := by
  decide +kernel
/-- a violated internal heap order is rejected -/
example : checkTrace hp
    [.push (c 0 (.fin 2) (.fin 2)) true, .push (c 1 (.fin 1) (.fin 1)) true, .tree 0 [0, 1]] = false := by
  decide +kernel

/-- double heap: pops through either heap, costs re-evaluated after a contraction -/
example : checkTrace dh
    [.push (c 0 (.fin 1) (.fin 9)) true, .push (c 1 (.fin 2) (.fin 5)) true, .push (c 2 (.fin 3) (.fin 7)) true,
     .heaps [0, 1, 2] [0, 1, 2], .top 1 0 0, .top 2 1 1, .pop 0 1 1 [], .minimum 1 (.fin 7),
     .contract (.fin 2) [2], .recost 1 [(0, .fin 4)], .minimum 1 (.fin 4), .pop 2 1 0 [], .empty true] = true := by
  decide +kernel
/-- … a cell popped through the second heap that is only minimal for the first criterion is rejected -/
example : checkTrace dh
    [.push (c 0 (.fin 1) (.fin 9)) true, .push (c 1 (.fin 2) (.fin 5)) true, .pop 2 1 0 []] = false := by
  decide +kernel

/-- beam search (beam size 2): the best remaining future cell moves to the current buffer, the
    minimum ranges over the three heaps -/
example : checkTrace bm
    [.push (c 0 (.fin 5) (.fin 5)) true, .push (c 1 (.fin 1) (.fin 1)) true, .push (c 2 (.fin 3) (.fin 3)) true,
     .pop 0 0 1 [2], .push (c 3 (.fin 4) (.fin 4)) true, .minimum 0 (.fin 3), .pop 0 0 2 [],
     .minimum 0 (.fin 4), .pop 0 0 3 [], .minimum 0 (.fin 5), .pop 0 0 0 [], .empty true] = true := by
  decide +kernel
/-- … a minimum that forgets the global heap is rejected -/
example : checkTrace bm
    [.push (c 0 (.fin 1) (.fin 1)) true, .push (c 1 (.fin 0) (.fin 0)) true, .push (c 2 (.fin 3) (.fin 3)) true,
     .pop 0 0 1 [0], .push (c 3 (.fin 4) (.fin 4)) true, .pop 0 0 0 [], .push (c 4 (.fin 9) (.fin 9)) true,
     .minimum 0 (.fin 9)] = false := by
  decide +kernel

/-- stack and list orders -/
example : checkTrace { kind := .stack, capacity := 2 }
    [.push (c 0 (.fin 1) (.fin 1)) true, .push (c 1 (.fin 0) (.fin 0)) true, .push (c 2 (.fin 0) (.fin 0)) false,
     .pop 0 0 1 [], .pop 0 0 0 []] = true := by decide +kernel
example : checkTrace { kind := .list }
    [.push (c 0 (.fin 1) (.fin 1)) true, .push (c 1 (.fin 0) (.fin 0)) true, .pop 0 0 1 []] = false := by
  decide +kernel
end Examples

end Ibex.C17
