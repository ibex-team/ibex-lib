/-
  C12 — symbolic differentiation: the value of the library's derivative DAG at a sample point is the
  TRUE derivative.

  What is checked at run time (Driver/OpsSym.lean, `diffpt`): at a rational point `p` where the
  dual-number evaluation `Deriv.dualEval` of the ORIGINAL DAG is defined, the exact rational value
  of the library's DERIVATIVE DAG equals the gradients computed by the dual numbers
  (`Deriv.diffEq`, verdict `derivative-equal`).
  The entries of `dualEval … p` are the values and the partial derivatives of the real denotation of the
  DAG at `p`, which is defined near `p` and Fréchet-differentiable at `p` (`dual_gradient_correct`, from
  `IbexProofs/DualCorrect.lean`: every operator, vectors/matrices, sharing, applied functions).  Hence,
  when the verdict is `derivative-equal`, the real semantics of the derivative DAG at `p` is defined and
  its entry `(i, j)` is the true partial derivative `∂f_i/∂x_j (p)` (`accepted_derivative_equal`).
  Not covered here: the fallback verdict `derivative-in-set-value` (derivative DAGs with thick
  interval constants, checked with `Alg.itvX`).
-/
import IbexProofs.DualCorrect

namespace Ibex.C12
open Ibex List Filter Topology

/-- the real denotation of the DAG is defined near `p`, with the shape of the dual value -/
theorem real_defined_near (funs : List Dag) (main : Dag) (p : List ℚ) {v : Mat Dual}
    (h : Deriv.dualEval funs main p = some v) :
    ∀ᶠ x in 𝓝 (ptR p), ∃ y, Eval.root Alg.real (List.ofFn x) (Eval.buildCalls Alg.real funs) main = some y ∧
      y.r = v.r ∧ y.c = v.c ∧ y.d.length = v.d.length :=
  (dual_entry_correct funs main p h).1

/-- **The dual numbers compute the true derivatives.**  For every output component `i` of
    `v = dualEval funs main p` and the real denotation `f_i = realEntry funs main i`:
    the gradient list has one entry per variable, `f_i(p) = v.d[i].v`, `f_i` is
    Fréchet-differentiable at `p` with derivative `u ↦ Σ_k g_k·u_k` (`g = v.d[i].g`), and for every
    variable `j` the partial derivative `∂f_i/∂x_j (p)` exists and is `g_j`. -/
theorem dual_gradient_correct (funs : List Dag) (main : Dag) (p : List ℚ) {v : Mat Dual}
    (h : Deriv.dualEval funs main p = some v) (i : ℕ) (hi : i < v.d.length) :
    v.d[i].g.length = p.length ∧
    realEntry funs main i (ptR p) = (v.d[i].v : ℝ) ∧
    HasFDerivAt (realEntry funs main i) (gradMap p.length v.d[i].g) (ptR p) ∧
    ∀ j : Fin p.length,
      HasDerivAt (fun t => realEntry funs main i (Function.update (ptR p) j t))
        ((v.d[i].g.getD j 0 : ℚ) : ℝ) (ptR p j) := by
  have hrel := (dual_entry_correct funs main p h).2 i hi
  exact ⟨hrel.1, hrel.2.1, hrel.2.2, fun j => hrel.partial j⟩

/-- the same, along the line `t ↦ p + t·e_j` at `t = 0` -/
theorem dual_gradient_correct_line (funs : List Dag) (main : Dag) (p : List ℚ) {v : Mat Dual}
    (h : Deriv.dualEval funs main p = some v) (i : ℕ) (hi : i < v.d.length) (j : Fin p.length) :
    HasDerivAt (fun t => realEntry funs main i (Function.update (ptR p) j (ptR p j + t)))
      ((v.d[i].g.getD j 0 : ℚ) : ℝ) 0 :=
  ((dual_entry_correct funs main p h).2 i hi).partial_line j

/-! ### the acceptance rule of `diffpt` -/

/-- **Accepted `diffpt` line (verdict `derivative-equal`).**  `v` is the dual value of the original
    DAG at `p`, `dv` the exact rational value of the library's derivative DAG at `p`, and the driver
    found them equal (`Deriv.diffEq`).  Then the derivative DAG has a real value `y` at `p`, and
    for every output component `i` and every variable `j`, the entry `i*n + j` of `y` is the TRUE
    partial derivative `∂f_i/∂x_j (p)` of the real denotation `f_i` of the original DAG. -/
theorem accepted_derivative_equal (funs dfuns : List Dag) (main dmain : Dag) (p : List ℚ)
    {v : Mat Dual} {dv : Mat ℚ} (hv : Deriv.dualEval funs main p = some v)
    (hdv : Eval.root Alg.rat p (Eval.buildCalls Alg.rat dfuns) dmain = some dv)
    (heq : Deriv.diffEq v dv = true) :
    ∃ y : Mat ℝ, Eval.root Alg.real (List.ofFn (ptR p)) (Eval.buildCalls Alg.real dfuns) dmain = some y ∧
      ∀ (i : ℕ), i < v.d.length → ∀ j : Fin p.length, ∃ D : ℝ, y.d[i * p.length + j]? = some D ∧
        HasDerivAt (fun t => realEntry funs main i (Function.update (ptR p) j t)) D (ptR p j) := by
  obtain ⟨y, hy, hrel⟩ := rat_root_real dfuns dmain p hdv
  refine ⟨y, hy, fun i hi j => ?_⟩
  obtain ⟨hlen, _, _, hpart⟩ := dual_gradient_correct funs main p hv i hi
  refine ⟨_, ?_, hpart j⟩
  -- locate the entry in the flattened Jacobian
  have hflat : dv.d = (v.d.map (·.g)).flatten := by
    unfold Deriv.diffEq at heq
    exact (eq_of_beq heq).symm
  have hrows : ∀ x ∈ v.d.map (·.g), x.length = p.length := by
    intro x hx
    simp only [List.mem_map] at hx
    obtain ⟨d, hd, rfl⟩ := hx
    obtain ⟨k, hk, rfl⟩ := List.getElem_of_mem hd
    exact (dual_gradient_correct funs main p hv k hk).1
  have hentry : dv.d[i * p.length + j]? = some (v.d[i].g.getD j 0) := by
    rw [hflat, getElem?_flatten_uniform _ hrows i j j.2]
    simp [List.getElem?_eq_getElem hi, List.getD_eq_getElem?_getD,
      List.getElem?_eq_getElem (by omega : (j : ℕ) < v.d[i].g.length)]
  obtain ⟨b, h2, hab⟩ := forall₂_getElem?_left hrel.2.2 hentry
  rw [h2, hab]

end Ibex.C12
