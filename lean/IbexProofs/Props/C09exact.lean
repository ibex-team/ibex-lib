/-
  C09 (exact certificates) — the instances of the theorems of `Props/C09.lean` and `Props/C09exist.lean`
  for the rounding-generic certificates `Newton.uniqueCertVarsG r`, `Newton.existCertVarsG r`,
  `Newton.existUniqueCertVarsG r`, `Newton.replaceCertG r` of IbexModel/Newton.lean with EXACT rational
  interval arithmetic (`Rnd.exact`: the certificates `…X`), and with `Rnd.dbl`.

  Why: the certificates `Newton.uniqueCertVars`, `Newton.existCertVars` evaluate the Krawczyk test with
  outward-rounded binary64 interval arithmetic; on an existence box that is only a few ulps wide (what
  the library reports) the rounding errors of the test are as large as the box, and the true claim is
  not certified.  With exact rational interval arithmetic the test is sharp (see the examples at the
  end: a box of 2 ulps, and even of 1 ulp, around √2 is accepted by `existCertVarsX` and rejected by
  `existCertVars`).
-/
import IbexProofs.Props.C09exist

namespace Ibex.C09
open Ibex List Filter Topology
open Ibex.C06 (ParamsIn SameParams)

variable {r : Rnd}

/-- **Soundness of the replacement certificate, real semantics, generic rounding** (existence in `e`
    assumed; see `replaceCertX_sound'`). -/
theorem replaceCertG_sound (hr : r.Sound) {progs : List (List Dag × Dag)} {c e : Box} {vars : List ℕ}
    (hcert : Newton.replaceCertG r progs c e vars = true)
    (hE : ∀ π : List ℝ, π.length = e.length →
      (∀ i t I, i ∉ vars → π[i]? = some t → e[i]? = some I → t ∈ I) →
      ∃ z, Box.Mem z e ∧ (∀ i, i ∉ vars → z[i]? = π[i]?) ∧ Zero progs z)
    {p : List ℝ} (hp : Box.Mem p c) (hz : Zero progs p) : Box.Mem p e :=
  replace_sound hr (jacobianG_sound hr) hcert (fun π hπ => hE π hπ.1 hπ.2) hp hz

/-! ### the instances for exact rational interval arithmetic -/

theorem jacobianX_encl {ch : Itv → Option ℝ} (hch : Sel ch) {progs : List (List Dag × Dag)}
    {h : Box} {J : List (List Itv)} (hJ : Newton.jacobianX progs h = some J) :
    Forall₂ (fun q row => row.length = h.length ∧ ∀ p : Fin h.length → ℝ, Box.Mem (List.ofFn p) h →
      (∃ m, rootW ch q (List.ofFn p) = some m ∧ m.d = [valW ch q p]) ∧
      ∃ g : List ℝ, g.length = h.length ∧ Forall₂ RMem g row ∧
        HasFDerivAt (valW ch q) (gradR h.length g) p) progs J :=
  jacobianG_encl Rnd.exact_sound hch hJ

/-- **at most one zero** for each value of the parameters (exact interval arithmetic) -/
theorem unique_zeroX {progs : List (List Dag × Dag)} {h : Box} {vars : List ℕ}
    (hcert : Newton.uniqueCertVarsX progs h vars = true) {x y : List ℝ}
    (hx : Box.Mem x h) (hy : Box.Mem y h) (hpar : SameParams vars x y)
    (hzx : Zero progs x) (hzy : Zero progs y) : x = y :=
  unique_zero_of_certOf Rnd.exact_sound (jacobianG_sound Rnd.exact_sound) hcert hx hy hpar hzx hzy

/-- **a zero for every value of the parameters** (exact interval arithmetic, no thick constant) -/
theorem exists_zero_of_certX {progs : List (List Dag × Dag)} {h : Box} {vars : List ℕ}
    (hpc : pointConsts progs = true)
    (hcert : Newton.existCertVarsX progs h vars = true) (π : List ℝ) (hπ : ParamsIn vars π h) :
    ∃ z, Box.Mem z h ∧ SameParams vars z π ∧ Zero progs z :=
  exists_zero_of_certOf Rnd.exact_sound (jacobianG_sound Rnd.exact_sound) (evalItv1G_sound Rnd.exact_sound)
    hpc hcert π hπ

/-- **exactly one zero** (exact interval arithmetic, no thick constant) -/
theorem exists_unique_zeroX {progs : List (List Dag × Dag)} {e u : Box} {vars : List ℕ}
    (hpc : pointConsts progs = true) (hcert : Newton.existUniqueCertVarsX progs e u vars = true)
    (π : List ℝ) (hπl : π.length = e.length)
    (hπ : ∀ i t I, i ∉ vars → π[i]? = some t → e[i]? = some I → t ∈ I) :
    ∃ z, (Box.Mem z e ∧ (∀ i, i ∉ vars → z[i]? = π[i]?) ∧ Zero progs z) ∧
      ∀ z', Box.Mem z' u → (∀ i, i ∉ vars → z'[i]? = π[i]?) → Zero progs z' → z' = z := by
  simp only [Newton.existUniqueCertVarsX, Newton.existUniqueCertVarsG, Bool.and_eq_true] at hcert
  exact exists_unique_zero_of_certOf Rnd.exact_sound (jacobianG_sound Rnd.exact_sound)
    (evalItv1G_sound Rnd.exact_sound) hpc hcert.1.1 hcert.1.2 hcert.2 π ⟨hπl, hπ⟩

theorem replaceCertX_sound' {progs : List (List Dag × Dag)} {c e : Box} {vars : List ℕ}
    (hcert : Newton.replaceCertX progs c e vars = true) (hE : Newton.existCertVarsX progs e vars = true)
    {p : List ℝ} (hp : Box.Mem p c) (hz : Zero progs p) : Box.Mem p e :=
  replace_sound' Rnd.exact_sound (jacobianG_sound Rnd.exact_sound) (evalItv1G_sound Rnd.exact_sound)
    hcert hE hp hz

/-- the instance `Rnd.dbl` (outward-rounded binary64) of the generic certificate is sound as well -/
theorem exists_zero_of_certDbl {progs : List (List Dag × Dag)} {h : Box} {vars : List ℕ}
    (hpc : pointConsts progs = true)
    (hcert : Newton.existCertVarsG Rnd.dbl progs h vars = true) (π : List ℝ) (hπl : π.length = h.length)
    (hπ : ∀ i t I, i ∉ vars → π[i]? = some t → h[i]? = some I → t ∈ I) :
    ∃ z, Box.Mem z h ∧ (∀ i, i ∉ vars → z[i]? = π[i]?) ∧ Zero progs z :=
  exists_zero_of_certOf Rnd.dbl_sound (jacobianG_sound Rnd.dbl_sound) (evalItv1G_sound Rnd.dbl_sound)
    hpc hcert π ⟨hπl, hπ⟩

/-! ### non-vacuity -/

/-- the interval between the doubles `a·2⁻⁵²` and `b·2⁻⁵²` -/
def B52 (a b : ℕ) : Itv := I (a / (2 ^ 52 : ℕ)) (b / (2 ^ 52 : ℕ))
/-- the interval between the doubles `a·2⁻⁵³` and `b·2⁻⁵³` -/
def B53 (a b : ℕ) : Itv := I (a / (2 ^ 53 : ℕ)) (b / (2 ^ 53 : ℕ))

/-- `x² − 2` on the box of the three consecutive doubles around `1.4142135623730951`
    (`6369051672525773·2⁻⁵²`; width 2 ulps): ACCEPTED with exact interval arithmetic, REJECTED by the
    outward-rounded test (`existCertVars`, and the instance `Rnd.dbl` of the generic test): the
    rounding errors of the rounded Krawczyk test are as large as the box -/
example : Newton.existCertVarsX [([], sqDag)] [B52 6369051672525772 6369051672525774] [0] = true := by
  decide +kernel
example : Newton.existCertVars [([], sqDag)] [B52 6369051672525772 6369051672525774] [0] = false := by
  decide +kernel
example : Newton.existCertVarsG Rnd.dbl [([], sqDag)] [B52 6369051672525772 6369051672525774] [0] = false := by
  decide +kernel
/-- even the box of 1 ulp that contains `√2` is accepted, the neighbouring box of 1 ulp (no zero) is
    rejected; the rounded test needs about 6 ulps -/
example : Newton.existCertVarsX [([], sqDag)] [B52 6369051672525772 6369051672525773] [0] = true := by
  decide +kernel
example : Newton.existCertVarsX [([], sqDag)] [B52 6369051672525773 6369051672525774] [0] = false := by
  decide +kernel
example : Newton.existCertVars [([], sqDag)] [B52 6369051672525770 6369051672525776] [0] = true := by
  decide +kernel
/-- the exact test accepts and rejects what the rounded test does on wide boxes -/
example : Newton.existCertX [([], sqDag)] [I (14/10) (145/100)] = true := by decide +kernel
example : Newton.existCertX [([], sqDag)] [I 1 2] = true := by decide +kernel
example : Newton.existCertX [([], sqDag)] [I (142/100) (145/100)] = false := by decide +kernel
example : Newton.existCertX [([], sqDag)] [I (-2) 2] = false := by decide +kernel
example : Newton.existCertX [([], sqDag)] [Itv.mk (.fin 1) .pinf] = false := by decide +kernel
example : Newton.existCertX [([], sqDag)] [I 2 1] = false := by decide +kernel
example : Newton.existCertX [([], sqP1)] [I (-1) 1] = false := by decide +kernel
/-- uniqueness: accepted on `[1,2]`, rejected on `[−2,2]` (two zeros) -/
example : Newton.jacobianX [([], sqDag)] [I 1 2] = some [[I 2 4]] := by decide +kernel
example : Newton.uniqueCertX [([], sqDag)] [I 1 2] = true := by decide +kernel
example : Newton.uniqueCertX [([], sqDag)] [I (-2) 2] = false := by decide +kernel
/-- existence in the box of 2 ulps, uniqueness in `[1,2]` -/
example : Newton.existUniqueCertVarsX [([], sqDag)] [B52 6369051672525772 6369051672525774] [I 1 2] [0] = true := by
  decide +kernel
/-- the cell `[1,3/2]` is replaced by the box of 2 ulps -/
example : Newton.replaceCertX [([], sqDag)] [I 1 (3/2)] [B52 6369051672525772 6369051672525774] [0] = true := by
  decide +kernel

/-- 2×2, circle and diagonal: the box of 2 ulps × 2 ulps around `(√½,√½)` (`√½ ≈ 6369051672525773·2⁻⁵³`)
    is accepted with exact arithmetic and rejected by the rounded test; `[−1,1]²` (two zeros, singular
    Jacobian) and a box without zero are rejected -/
example : Newton.existCertX [([], circ), ([], diag)]
    [B53 6369051672525772 6369051672525774, B53 6369051672525772 6369051672525774] = true := by decide +kernel
example : Newton.existCert [([], circ), ([], diag)]
    [B53 6369051672525772 6369051672525774, B53 6369051672525772 6369051672525774] = false := by decide +kernel
example : Newton.existCertX [([], circ), ([], diag)] [I (-1) 1, I (-1) 1] = false := by decide +kernel
example : Newton.existCertX [([], circ), ([], diag)] [I (8/10) 1, I (8/10) 1] = false := by decide +kernel
example : Newton.uniqueCertX [([], circ), ([], diag)] [I (1/2) 1, I (1/2) 1] = true := by decide +kernel
example : Newton.uniqueCertX [([], circ), ([], diag)] [I (-1) 1, I (-1) 1] = false := by decide +kernel

/-- a parameter: `x² + y² = 1`, variable `x`, parameter `y` in the 1-ulp range
    `[5404319552844595, 5404319552844596]·2⁻⁵³` (around `0.6`): for EVERY such `y` there is a zero with `x` in
    the 2-ulp range `[7205759403792792, 7205759403792794]·2⁻⁵³` (around `0.8`): accepted with exact
    arithmetic, rejected by the rounded test; a 1-ulp range for `x` that the zero leaves when `y` moves is
    rejected; a repeated variable is rejected; wide ranges as for the rounded test -/
example : Newton.existCertVarsX [([], circ)]
    [B53 7205759403792792 7205759403792794, B53 5404319552844595 5404319552844596] [0] = true := by
  decide +kernel
example : Newton.existCertVars [([], circ)]
    [B53 7205759403792792 7205759403792794, B53 5404319552844595 5404319552844596] [0] = false := by
  decide +kernel
example : Newton.existCertVarsX [([], circ)]
    [B53 7205759403792793 7205759403792794, B53 5404319552844595 5404319552844596] [0] = false := by
  decide +kernel
example : Newton.existCertVarsX [([], circ)]
    [B53 7205759403792792 7205759403792794, B53 5404319552844595 5404319552844596] [0, 0] = false := by
  decide +kernel
example : Newton.existCertVarsX [([], circ)] [I (78/100) (88/100), I (1/2) (6/10)] [0] = true := by
  decide +kernel
example : Newton.existCertVarsX [([], circ)] [I (1/2) (6/10), I (78/100) (88/100)] [1] = true := by
  decide +kernel
example : Newton.existCertVarsX [([], circ)] [I (84/100) (88/100), I (1/2) (6/10)] [0] = false := by
  decide +kernel
example : Newton.uniqueCertVarsX [([], circ)] [I (1/2) 1, I (1/2) 1] [0] = true := by decide +kernel

/-- a negative power and a division (`Itv.powIntG`, `Itv.divG`): `x⁻² − 1/2` and `2/x − x` have the
    zero `√2`; a denominator interval that contains 0, an ill-formed constant: no Jacobian -/
def invSq : Dag :=
  #[⟨.var 0, 1, 1⟩, ⟨.pow 0 (-2), 1, 1⟩, ⟨.const [Itv.point (1/2)], 1, 1⟩, ⟨.bin "sub" 1 2, 1, 1⟩]
def twoOver : Dag :=
  #[⟨.var 0, 1, 1⟩, ⟨.const [Itv.point 2], 1, 1⟩, ⟨.bin "div" 1 0, 1, 1⟩, ⟨.bin "sub" 2 0, 1, 1⟩]
example : Newton.existCertX [([], invSq)] [B52 6369051672525772 6369051672525774] = true := by decide +kernel
example : Newton.existCertX [([], twoOver)] [B52 6369051672525772 6369051672525774] = true := by decide +kernel
example : Newton.existCertX [([], invSq)] [I (-1) 2] = false := by decide +kernel
example : Newton.jacobianX [([], invDag)] [I (-1) 1] = none := by decide +kernel
example : Newton.jacobianX [([], invDag)] [I 1 2] = some [[I (-1) (-1/4)]] := by decide +kernel
example : Newton.jacobianX [([], #[⟨.const [I 3 1], 1, 1⟩])] [I 1 2] = none := by decide +kernel
/-- a thick constant: `x² − [2,3]`, accepted (existence for every selection of the constant) -/
example : Newton.existCertX [([], sqThick)] [I 1 2] = true := by decide +kernel

/-- end to end: the exact certificate PROVES that `x² − 2` has a zero between the doubles
    `6369051672525772·2⁻⁵²` and `6369051672525774·2⁻⁵²` (2 ulps around `1.4142135623730951`) -/
theorem sqrt_two_exists_2ulp : ∃ a : ℝ,
    (6369051672525772 / 2 ^ 52 ≤ a ∧ a ≤ 6369051672525774 / 2 ^ 52) ∧ a * a - 2 = 0 := by
  obtain ⟨a, ha, h0⟩ := sq_zero_of_exists (exists_zero_square Rnd.exact_sound
    (jacobianG_sound Rnd.exact_sound) (evalItv1G_sound Rnd.exact_sound) (progs := [([], sqDag)])
    (h := [B52 6369051672525772 6369051672525774]) (by decide +kernel) (by decide +kernel))
  norm_num at ha ⊢
  exact ⟨a, ha, h0⟩

/-- end to end with a parameter: for EVERY `y` in the 1-ulp range around `0.6` the circle has a point
    `(x,y)` with `x` in the 2-ulp range around `0.8` -/
theorem circle_param_2ulp (y : ℝ)
    (hy : 5404319552844595 / 2 ^ 53 ≤ y ∧ y ≤ 5404319552844596 / 2 ^ 53) :
    ∃ x : ℝ, (7205759403792792 / 2 ^ 53 ≤ x ∧ x ≤ 7205759403792794 / 2 ^ 53) ∧ x * x + y * y - 1 = 0 := by
  obtain ⟨x, hx, h0⟩ := circ_zero_of_exists (y := y)
    (a := 7205759403792792 / (2 ^ 53 : ℕ)) (b := 7205759403792794 / (2 ^ 53 : ℕ))
    (c := 5404319552844595 / (2 ^ 53 : ℕ)) (d := 5404319552844596 / (2 ^ 53 : ℕ))
    (by norm_num at hy ⊢; exact hy)
    (exists_zero_of_certX (progs := [([], circ)])
      (h := [B53 7205759403792792 7205759403792794, B53 5404319552844595 5404319552844596]) (vars := [0])
      (by decide +kernel) (by decide +kernel))
  norm_num at hx ⊢
  exact ⟨x, hx, h0⟩

end Ibex.C09
