/-
  C10 — Minibex text denotes the model it spells; exact serialisation round-trips.

  The driver compares what the real parser builds with what the model reads by a cascade (`Minibex.cmpExpr`,
  `Minibex.cmpFlat`): level `tree` (the structural comparison `Dag.sameTree`, the decision used for operators outside the
  rational fragment) and level `nf` (the verified normal-form checker of C11) are theorems below; the two weaker levels
  (`points`, `upoints`) are exact evaluations at the sample points: evidence, not theorems.
  The constants of the CURRENT sources (`strtoll`/`strtoull`, `x>=0`/`signbit`) and the keyword tables (`lexer.l`,
  `parser.yc`, `ibex_P_Expr.h`, `ibex_P_ExprGenerator.cpp`, `ibex_Expr.h`, `ibex_ExprPrinter.cpp`) are read at check time
  by the translator `translate/tokens.py` into `IbexGen/Tokens.lean`.

  Not modelled: the LALR automaton.  The grammar is modelled by the generator and the independent
  reference reader of the harness (`harness/mbx_ref.h`); their outputs are compared with the real
  parser by the verified checkers above.
-/
import IbexProofs.Minibex
import IbexProofs.Props.C11
import IbexGen.Tokens

namespace Ibex.C10
open Ibex Ibex.Minibex Ibex.Eval

/-! ### structural comparison -/

/-- **Soundness of `Dag.sameTree` for every number algebra.** -/
theorem sameTree_sound {α : Type} {d1 d2 : Dag} (h : Dag.sameTree d1 d2 = true) (A : Alg α)
    (env : List α) (call : Nat → List (Mat α) → Option (Mat α)) {v1 v2 : Mat α}
    (hv1 : root A env call d1 = some v1) (hv2 : root A env call d2 = some v2) : v1 = v2 :=
  Dag.sameTree_sound h A env call hv1 hv2

/-- **Soundness of `Dag.sameTree` for every node semantics** (any operator, known or not). -/
theorem sameTree_sound_gen {α : Type} {sem : Node → List (Mat α) → Option (Mat α)}
    {d1 d2 : Dag} (h : Dag.sameTree d1 d2 = true) {v1 v2 : Mat α}
    (hv1 : EvalG.root sem d1 = some v1) (hv2 : EvalG.root sem d2 = some v2) : v1 = v2 :=
  Dag.sameTree_sound_gen (fun _ _ _ _ hx hy => Option.some.inj (hx.symm.trans hy)) h hv1 hv2

/-! ### acceptance rules of the driver -/

/-- What an accepted verdict of `cmpExpr` rests on, by level: one walk down the cascade. -/
theorem cmpExpr_ok {a b : Prog} {nv : ℕ} {pts : List (List ℚ)} {l : Level}
    (h : cmpExpr a b nv pts = .ok l) :
    rootDims a = rootDims b ∧ (rootDims a).isSome ∧
      match l with
      | .tree => a.1 = b.1 ∧ Dag.sameTree a.2 b.2 = true
      | .nf => Equiv.check a.1 a.2 b.1 b.2 nv = some true
      | _ => True := by
  unfold cmpExpr at h
  split at h
  swap
  · exact nomatch h
  rename_i da db ha hb
  split at h
  · exact nomatch h
  rename_i hd
  obtain rfl : da = db := by simpa using hd
  refine ⟨by rw [ha, hb], by rw [ha]; rfl, ?_⟩
  split at h
  · rename_i ht
    cases h
    simpa using ht
  split at h
  · exact nomatch h
  split at h
  · exact nomatch h
  · rename_i hc
    split at h
    · exact nomatch h
    · cases h
      exact hc
  · split at h
    · exact nomatch h
    · cases h
      trivial
    · split at h
      · exact nomatch h
      · cases h
        trivial
      · cases h
        trivial

theorem accepted_dims {a b : Prog} {nv : ℕ} {pts : List (List ℚ)} {l : Level}
    (h : cmpExpr a b nv pts = .ok l) : rootDims a = rootDims b ∧ (rootDims a).isSome :=
  ⟨(cmpExpr_ok h).1, (cmpExpr_ok h).2.1⟩

/-- level `tree`: same applied functions, and the same value in every algebra -/
theorem accepted_tree {a b : Prog} {nv : ℕ} {pts : List (List ℚ)} (h : cmpExpr a b nv pts = .ok .tree) :
    a.1 = b.1 ∧ ∀ {α : Type} (A : Alg α) (env : List α) {v1 v2 : Mat α},
      root A env (buildCalls A a.1) a.2 = some v1 → root A env (buildCalls A b.1) b.2 = some v2 →
      v1 = v2 := by
  obtain ⟨_, _, hf, ht⟩ := cmpExpr_ok h
  refine ⟨hf, fun A env v1 v2 h1 h2 => ?_⟩
  rw [← hf] at h2
  exact Dag.sameTree_sound ht A env _ h1 h2

/-- level `nf`: the same real value at EVERY real point where both are defined -/
theorem accepted_nf {a b : Prog} {nv : ℕ} {pts : List (List ℚ)} (h : cmpExpr a b nv pts = .ok .nf)
    {ρ : List ℝ} (hρ : ρ.length = nv) {v1 v2 : Mat ℝ}
    (h1 : root Alg.real ρ (buildCalls Alg.real a.1) a.2 = some v1)
    (h2 : root Alg.real ρ (buildCalls Alg.real b.1) b.2 = some v2) : v1 = v2 :=
  C11.check_sound (cmpExpr_ok h).2.2 hρ h1 h2

/-- What an accepted verdict of `cmpFlat` rests on (it never answers `tree`). -/
theorem cmpFlat_ok {as bs : List Prog} {nv : ℕ} {pts : List (List ℚ)} {l : Level}
    (h : cmpFlat as bs nv pts = .ok l) :
    match l with
    | .nf => checkFlat as bs nv = some true
    | _ => True := by
  unfold cmpFlat at h
  split at h
  swap
  · exact nomatch h
  split at h
  · exact nomatch h
  split at h
  · exact nomatch h
  split at h
  · exact nomatch h
  · rename_i hc
    split at h
    · exact nomatch h
    · cases h
      exact hc
  · split at h
    · exact nomatch h
    · cases h
      trivial
    · split at h
      · exact nomatch h
      · cases h
        trivial
      · cases h
        trivial

/-- level `nf` of the flattened comparison (vector / matrix constraints against their scalar
    components, systems against their serialised form): at every real point where every
    expression of both lists is defined, the concatenated entries are the same reals -/
theorem accepted_flat_nf {as bs : List Prog} {nv : ℕ} {pts : List (List ℚ)}
    (h : cmpFlat as bs nv pts = .ok .nf) {ρ : List ℝ} (hρ : ρ.length = nv) {va vb : List (Mat ℝ)}
    (ha : List.Forall₂ (EvalsTo ρ) as va) (hb : List.Forall₂ (EvalsTo ρ) bs vb) :
    va.flatMap (·.d) = vb.flatMap (·.d) :=
  checkFlatB_sound (cmpFlat_ok h) hρ ha hb

/-! ### hexadecimal constants -/

/-- the reader and the sign test of the CURRENT sources (extracted by `translate/tokens.py`) -/
def reader : HexReader := HexReader.ofString Gen.Tokens.hexReader
def signBit : Bool := Gen.Tokens.printerSignBit

/-- **64-bit patterns**: `readHex (printHex u) = u` for every pattern the reader can represent. -/
theorem hex_roundtrip_bits {u : ℕ} (hu : u < 2 ^ 64) (h : reader = .strtoull ∨ u < 2 ^ 63) :
    readHex reader (printHex u) = some u :=
  readHex_printHex reader hu h

/-- **doubles**: every non-NaN binary64 survives `print_dbl` followed by the lexer — the only
    possible exception (`-0.0` under `x>=0` + `strtoll`) is explicit. -/
theorem hex_roundtrip {b : ℕ} (hb : notNaN b = true) :
    readDbl reader (printDbl signBit b) = some b ∨
      (reader = .strtoll ∧ signBit = false ∧ b = negZeroBits) :=
  readDbl_printDbl signBit reader hb

/-- the exception is a genuine misreading when it applies: `-0.0` comes back as a NaN pattern -/
theorem hex_negzero_misread :
    readDbl .strtoll (printDbl false negZeroBits) = some 0x7fffffffffffffff := negZero_misread

/-- either repair removes it -/
theorem hex_roundtrip_repaired (h : signBit = true ∨ reader = .strtoull) {b : ℕ}
    (hb : notNaN b = true) : readDbl reader (printDbl signBit b) = some b :=
  readDbl_printDbl_repaired h hb

/-! ### operator keywords -/

def tables : List (List (String × String)) :=
  [Gen.Tokens.lexer, Gen.Tokens.grammar, Gen.Tokens.pexpr, Gen.Tokens.generator, Gen.Tokens.builders]

/-- disagreements recorded on the pinned tree (genuine defects, reported with failing inputs by the
    round-trip workloads): `ExprLog` is printed `log(`, lexed as an identifier (`ln` is the keyword);
    `ExprSaw` is printed `saw(`, for which the lexer has no keyword -/
def recordedDisagreements : List String := ["ExprLog", "ExprSaw"]

/-- **every operator keyword the serialiser can emit is lexed back as that operator**
    (tables regenerated from the current sources; recorded exceptions explicit) -/
theorem tokens_agree :
    ∀ p ∈ Gen.Tokens.printer, p.1 ∈ recordedDisagreements ∨ relexes tables p = true := by
  decide +kernel

/-- the printer table is not trivially empty and covers the elementary functions -/
theorem tokens_cover : 20 ≤ Gen.Tokens.printer.length ∧
    ["ExprSin", "ExprCos", "ExprExp", "ExprLog", "ExprAtan2", "ExprChi", "ExprMax"].all
      (fun c => Gen.Tokens.printer.any fun p => p.1 == c) = true := by
  decide +kernel

/-! ### non-vacuity -/

def x : Node := ⟨.var 0, 1, 1⟩
def one : Node := ⟨.const [Itv.point 1], 1, 1⟩
/-- `sin(x+1) * sin(x+1)` with the factor shared … -/
def shared : Dag := #[x, one, ⟨.bin "add" 0 1, 1, 1⟩, ⟨.un "sin" 2, 1, 1⟩, ⟨.bin "mul" 3 3, 1, 1⟩]
/-- … and written twice -/
def unshared : Dag := #[x, one, ⟨.bin "add" 0 1, 1, 1⟩, ⟨.un "sin" 2, 1, 1⟩, x, one,
  ⟨.bin "add" 4 5, 1, 1⟩, ⟨.un "sin" 6, 1, 1⟩, ⟨.bin "mul" 3 7, 1, 1⟩]
/-- `sin(x+1) * cos(x+1)` -/
def other : Dag := #[x, one, ⟨.bin "add" 0 1, 1, 1⟩, ⟨.un "sin" 2, 1, 1⟩, ⟨.un "cos" 2, 1, 1⟩,
  ⟨.bin "mul" 3 4, 1, 1⟩]
/-- `atan2(x, 1)`: an operator no algebra of the project evaluates — the generic theorem applies -/
def at2 : Dag := #[x, one, ⟨.bin "atan2" 0 1, 1, 1⟩]

example : Dag.sameTree shared unshared = true := by decide +kernel
example : Dag.sameTree unshared shared = true := by decide +kernel
example : Dag.sameTree shared other = false := by decide +kernel
example : Dag.sameTree at2 at2 = true := by decide +kernel
/-- the constant is compared exactly -/
example : Dag.sameTree #[x, one, ⟨.bin "add" 0 1, 1, 1⟩]
    #[x, ⟨.const [Itv.point (1 + 1 / 2 ^ 52)], 1, 1⟩, ⟨.bin "add" 0 1, 1, 1⟩] = false := by decide +kernel

/-- the cascade on `(x+1)^2` against `x^2+2x+1` answers at level `nf`, on a pair with different
    sharing at level `tree`, and rejects `x*x` against `x^3` -/
example : (match cmpExpr ([], C11.sq1) ([], C11.sq2) 1 [[2]] with | .ok .nf => true | _ => false) = true := by
  decide +kernel
example : (match cmpExpr ([], shared) ([], unshared) 1 [[2]] with | .ok .tree => true | _ => false) = true := by
  decide +kernel
example : (match cmpExpr ([], C11.xx) ([], C11.x3) 1 [[2]] with | .fail _ => true | _ => false) = true := by
  decide +kernel
/-- uninterpreted points separate `sin·sin` from `sin·cos` -/
example : (match cmpExpr ([], shared) ([], other) 1 [[2], [1 / 2]] with | .fail _ => true | _ => false) = true := by
  decide +kernel

/-- a 2-vector constraint `(x+1 ; x*x)` against its two components -/
def vec2 : Dag := #[x, one, ⟨.bin "add" 0 1, 1, 1⟩, ⟨.bin "mul" 0 0, 1, 1⟩, ⟨.vec false [2, 3], 2, 1⟩]
example : (match cmpFlat [([], vec2)] [([], #[x, one, ⟨.bin "add" 0 1, 1, 1⟩]), ([], C11.xx)] 1 [[3]] with
    | .ok .nf => true | _ => false) = true := by decide +kernel

example : printDbl false 0x3fe0000000000000 = "#3fe0000000000000".toList := by decide +kernel
example : printDbl false 0xbfe0000000000000 = "-#3fe0000000000000".toList := by decide +kernel
example : readDbl .strtoll "-#3fe0000000000000".toList = some 0xbfe0000000000000 := by decide +kernel
example : printDbl false 0 = "#0".toList := by decide +kernel

end Ibex.C10
