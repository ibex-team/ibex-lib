/-
  C08 — interval gradients / Jacobians enclose the true derivatives; Hansen matrices are slope
  matrices.

  What is checked at run time (Driver/OpsSym.lean): at a rational point `p` of the box where the
  dual-number evaluation `Deriv.dualEval` is defined,
  * `gradpt` / `jacrows` / `jaccol`: the exact gradients computed by the dual numbers belong
    entrywise to the interval gradient / Jacobian rows / Jacobian column returned by the library
    (`Deriv.rowsIn`, `Deriv.colIn`);
  * `hansenpt`: `f(x) − f(x0) ∈ H·(x − x0)` with exact rational evaluation of `f` and exact
    interval arithmetic (`Deriv.hansenOk`).
  An accepted `gradpt` / `jacrows` / `jaccol` line means that the TRUE partial derivatives at `p` of the
  real denotation of the DAG belong to the intervals (via `IbexProofs/DualCorrect.lean`).  An accepted
  `hansenpt` line means `f_i(x) − f_i(x0) ∈ hansenRow (H.row i) (x − x0)` for the real denotation, a
  rejected one that `H` is NOT a slope matrix.  The mean value theorem, telescoped over the coordinates
  (`hansen_slope`), justifies the test: a matrix enclosing the partial derivatives on the (Hansen-style)
  sub-boxes between `x0` and `x` is a slope matrix, so a rejected line shows that some entry of the
  library's matrix does not enclose the partial derivative it should.
-/
import IbexProofs.Props.C12
import IbexProofs.Bwd
import Mathlib.Analysis.Calculus.Deriv.MeanValue

namespace Ibex.C08
open Ibex List Filter Topology

theorem ratIn_iff {q : ℚ} {X : Itv} : Deriv.ratIn q X = true ↔ (q : ℝ) ∈ X := Itv.containsExt_fin

/-! ### enclosure of gradients -/

/-- what `Deriv.rowsIn` establishes (for a well-formed matrix `z`, as produced by the parser) -/
theorem rowsIn_sound {g : List (List ℚ)} {z : Mat Itv} {n : ℕ} (h : Deriv.rowsIn g z = true)
    (hwf : z.d.length = z.r * z.c) (hn : ∀ row ∈ g, row.length = n) (k : ℕ) (hk : k < g.length)
    (j : ℕ) (hj : j < n) :
    ∃ Z, z.d[k * n + j]? = some Z ∧ ((g[k].getD j 0 : ℚ) : ℝ) ∈ Z := by
  unfold Deriv.rowsIn at h
  simp only [Bool.and_eq_true, beq_iff_eq, List.all_eq_true] at h
  obtain ⟨⟨hr, hc⟩, hall⟩ := h
  have hgk : g[k].length = n := hn _ (List.getElem_mem hk)
  have hzc : z.c = n := by rw [← hc _ (List.getElem_mem hk), hgk]
  have hflat : g.flatten[k * n + j]? = some (g[k].getD j 0) := by
    rw [getElem?_flatten_uniform g hn k j hj]
    simp [List.getElem?_eq_getElem hk, List.getD_eq_getElem?_getD,
      List.getElem?_eq_getElem (by omega : j < g[k].length)]
  have hlt : k * n + j < z.d.length := by
    rw [hwf, ← hr, hzc]
    calc k * n + j < (k + 1) * n := by rw [Nat.succ_mul]; omega
      _ ≤ g.length * n := Nat.mul_le_mul_right n hk
  refine ⟨z.d[k * n + j], List.getElem?_eq_getElem hlt, ?_⟩
  have := zip_all (f := fun q => Deriv.ratIn q.1 q.2)
    (List.all_eq_true.2 hall) hflat (List.getElem?_eq_getElem hlt)
  exact ratIn_iff.1 this

/-- **Accepted `gradpt` line (verdict `derivative-enclosed`).**  `z` is the interval gradient
    (scalar function) or Jacobian (vector function) returned by the library for a box containing
    `p`; the driver found the rows of exact gradients inside it.  Then for every output component
    `i` and variable `j`, the TRUE partial derivative `∂f_i/∂x_j (p)` of the real denotation exists
    and belongs to the entry `(i, j)` of `z`. -/
theorem accepted_gradient (funs : List Dag) (main : Dag) (p : List ℚ) {v : Mat Dual} {z : Mat Itv}
    (hv : Deriv.dualEval funs main p = some v) (hwf : z.d.length = z.r * z.c)
    (h : Deriv.rowsIn (v.d.map (·.g)) z = true) (i : ℕ) (hi : i < v.d.length) (j : Fin p.length) :
    ∃ (Z : Itv) (D : ℝ), z.d[i * p.length + j]? = some Z ∧ D ∈ Z ∧
      HasDerivAt (fun t => realEntry funs main i (Function.update (ptR p) j t)) D (ptR p j) := by
  have hrows : ∀ row ∈ v.d.map (·.g), row.length = p.length := by
    intro x hx
    simp only [List.mem_map] at hx
    obtain ⟨d, hd, rfl⟩ := hx
    obtain ⟨k, hk, rfl⟩ := List.getElem_of_mem hd
    exact (C12.dual_gradient_correct funs main p hv k hk).1
  obtain ⟨Z, hZ, hmem⟩ := rowsIn_sound h hwf hrows i (by simpa using hi) j j.2
  refine ⟨Z, _, hZ, ?_, (C12.dual_gradient_correct funs main p hv i hi).2.2.2 j⟩
  simpa using hmem

/-- **Accepted `jacrows` line.**  `sel` selects output components; row `k` of `z` encloses the true
    gradient of component `sel[k]`. -/
theorem accepted_jacrows (funs : List Dag) (main : Dag) (p : List ℚ) {v : Mat Dual} {z : Mat Itv}
    {sel : List ℕ} {rows : List (List ℚ)}
    (hv : Deriv.dualEval funs main p = some v) (hwf : z.d.length = z.r * z.c)
    (hrows : sel.mapM (fun i => (v.d[i]?).map (·.g)) = some rows)
    (h : Deriv.rowsIn rows z = true) (k : ℕ) (hk : k < sel.length) (j : Fin p.length) :
    ∃ (Z : Itv) (D : ℝ), z.d[k * p.length + j]? = some Z ∧ D ∈ Z ∧
      HasDerivAt (fun t => realEntry funs main sel[k] (Function.update (ptR p) j t)) D (ptR p j) := by
  have hf := mapM_eq_some_iff.1 hrows
  have hlen : ∀ row ∈ rows, row.length = p.length := by
    intro row hrow
    obtain ⟨m, hm, rfl⟩ := List.getElem_of_mem hrow
    have hm' : m < sel.length := hf.length_eq ▸ hm
    obtain ⟨_, hrel⟩ := forall₂_getElem hf hm'
    simp only [Option.map_eq_some_iff] at hrel
    obtain ⟨d, hd, hdg⟩ := hrel
    obtain ⟨hi, rfl⟩ := List.getElem?_eq_some_iff.1 hd
    rw [← hdg]
    exact (C12.dual_gradient_correct funs main p hv _ hi).1
  obtain ⟨hk', hrel⟩ := forall₂_getElem hf hk
  simp only [Option.map_eq_some_iff] at hrel
  obtain ⟨d, hd, hdg⟩ := hrel
  obtain ⟨hi, rfl⟩ := List.getElem?_eq_some_iff.1 hd
  obtain ⟨Z, hZ, hmem⟩ := rowsIn_sound h hwf hlen k hk' j j.2
  refine ⟨Z, _, hZ, ?_, (C12.dual_gradient_correct funs main p hv _ hi).2.2.2 j⟩
  rw [← hdg] at hmem
  exact hmem

/-- **Accepted `jaccol` line.**  Entry `i` of the interval column `z` encloses the true partial
    derivative of component `i` with respect to the variable `vv`. -/
theorem accepted_jaccol (funs : List Dag) (main : Dag) (p : List ℚ) {v : Mat Dual} {z : Mat Itv}
    {vv : ℕ} {col : List ℚ} (hv : Deriv.dualEval funs main p = some v)
    (hcol : v.d.mapM (fun d => d.g[vv]?) = some col) (h : Deriv.colIn col z = true)
    (i : ℕ) (hi : i < v.d.length) :
    ∃ (hvv : vv < p.length) (Z : Itv) (D : ℝ), z.d[i]? = some Z ∧ D ∈ Z ∧
      HasDerivAt (fun t => realEntry funs main i (Function.update (ptR p) ⟨vv, hvv⟩ t)) D (ptR p ⟨vv, hvv⟩) := by
  have hf := mapM_eq_some_iff.1 hcol
  obtain ⟨hi', hrel⟩ := forall₂_getElem hf hi
  obtain ⟨hg, hpart⟩ : v.d[i].g.length = p.length ∧ _ :=
    ⟨(C12.dual_gradient_correct funs main p hv i hi).1, (C12.dual_gradient_correct funs main p hv i hi).2.2.2⟩
  obtain ⟨hvv', hq⟩ := List.getElem?_eq_some_iff.1 hrel
  have hvv : vv < p.length := hg ▸ hvv'
  unfold Deriv.colIn at h
  simp only [Bool.and_eq_true, beq_iff_eq] at h
  have hlt : i < z.d.length := h.1 ▸ hi'
  have := zip_all (f := fun q => Deriv.ratIn q.1 q.2) h.2 (List.getElem?_eq_getElem hi')
    (List.getElem?_eq_getElem hlt)
  refine ⟨hvv, z.d[i], _, List.getElem?_eq_getElem hlt, ?_, hpart ⟨vv, hvv⟩⟩
  have e : v.d[i].g.getD vv 0 = col[i] := by
    rw [List.getD_eq_getElem?_getD, hrel]; rfl
  simp only [e]
  exact ratIn_iff.1 this

/-! ### Hansen matrices -/

/-- `Σ_j s_j·dx_j` over the common prefix of the two lists -/
def dotR (s : List ℝ) (dx : List ℚ) : ℝ := ((List.zip s dx).map fun q => q.1 * (q.2 : ℝ)).sum

theorem hansenRow_encl {s : List ℝ} {h : List Itv} (hs : Forall₂ (fun (x : ℝ) (X : Itv) => x ∈ X) s h)
    (dx : List ℚ) : dotR s dx ∈ Deriv.hansenRow h dx := by
  have := Itv.dot_encl Rnd.exact_sound hs (Itv.forall₂_mem_point dx)
  simpa only [dotR, Deriv.hansenRow, List.zip_map_right, List.map_map, List.foldl_map, Function.comp_def,
    Prod.map_fst, Prod.map_snd, id_eq] using this

/-- **Accepted `hansenpt` line.**  `v`, `v0` are the exact values of the DAG at the rational points
    `x`, `x0`.  If `Deriv.hansenOk` accepts then, for every row `i` of `H`, the real denotation
    satisfies `f_i(x) − f_i(x0) ∈ Σ_j H[i][j]·(x_j − x0_j)` (exact interval product-sum). -/
theorem accepted_hansen (funs : List Dag) (main : Dag) (x x0 : List ℚ) {v v0 : Mat ℚ} {H : Mat Itv}
    (hv : Eval.root Alg.rat x (Eval.buildCalls Alg.rat funs) main = some v)
    (hv0 : Eval.root Alg.rat x0 (Eval.buildCalls Alg.rat funs) main = some v0)
    (h : Deriv.hansenOk H v v0 (List.zipWith (· - ·) x x0) = true) (i : ℕ) (hi : i < H.r) :
    realEntry funs main i (ptR x) - realEntry funs main i (ptR x0) ∈
      Deriv.hansenRow (H.row i) (List.zipWith (· - ·) x x0) := by
  unfold Deriv.hansenOk at h
  rw [List.all_eq_true] at h
  have := h i (List.mem_range.2 hi)
  split at this
  · rename_i a b ha hb
    rw [realEntry_of_rat funs main x hv ha, realEntry_of_rat funs main x0 hv0 hb]
    have := ratIn_iff.1 this
    push_cast at this
    exact this
  · exact absurd this (by simp)

/-- **Rejected `hansenpt` line**: if the check fails at row `i` (and the values exist), then `H` is
    not a slope matrix between `x0` and `x`: there are no reals `s_j ∈ H[i][j]` with
    `f_i(x) − f_i(x0) = Σ_j s_j·(x_j − x0_j)`. -/
theorem rejected_hansen (funs : List Dag) (main : Dag) (x x0 : List ℚ) {v v0 : Mat ℚ} {H : Mat Itv}
    (hv : Eval.root Alg.rat x (Eval.buildCalls Alg.rat funs) main = some v)
    (hv0 : Eval.root Alg.rat x0 (Eval.buildCalls Alg.rat funs) main = some v0)
    {i : ℕ} {a b : ℚ} (ha : v.d[i]? = some a) (hb : v0.d[i]? = some b)
    (hrej : Deriv.ratIn (a - b) (Deriv.hansenRow (H.row i) (List.zipWith (· - ·) x x0)) = false) :
    ¬ ∃ s : List ℝ, Forall₂ (fun (t : ℝ) (X : Itv) => t ∈ X) s (H.row i) ∧
      realEntry funs main i (ptR x) - realEntry funs main i (ptR x0) = dotR s (List.zipWith (· - ·) x x0) := by
  rintro ⟨s, hs, heq⟩
  have hmem := hansenRow_encl hs (List.zipWith (· - ·) x x0)
  rw [← heq, realEntry_of_rat funs main x hv ha, realEntry_of_rat funs main x0 hv0 hb] at hmem
  have : Deriv.ratIn (a - b) (Deriv.hansenRow (H.row i) (List.zipWith (· - ·) x x0)) = true := by
    rw [ratIn_iff]; push_cast; exact hmem
  rw [hrej] at this
  exact absurd this (by simp)

/-! ### why a matrix of derivative enclosures is a slope matrix: the mean value theorem -/

/-- **Mean value theorem, interval form.**  If `f` is differentiable on the segment between `x0` and
    `x` and its derivative stays in the interval `L` there, then `f x − f x0 = s·(x − x0)` for some
    `s ∈ L`. -/
theorem hansen_slope_1d {f f' : ℝ → ℝ} {x0 x : ℝ} {L : Itv}
    (hd : ∀ t ∈ Set.uIcc x0 x, HasDerivAt f (f' t) t) (hL : ∀ t ∈ Set.uIcc x0 x, f' t ∈ L) :
    ∃ s : ℝ, s ∈ L ∧ f x - f x0 = s * (x - x0) := by
  rcases lt_trichotomy x0 x with hlt | heq | hgt
  · rw [Set.uIcc_of_le hlt.le] at hd hL
    obtain ⟨c, hc, hslope⟩ := exists_hasDerivAt_eq_slope f f' hlt
      (fun t ht => (hd t ht).continuousAt.continuousWithinAt)
      (fun t ht => hd t (Set.Ioo_subset_Icc_self ht))
    refine ⟨f' c, hL c (Set.Ioo_subset_Icc_self hc), ?_⟩
    have : x - x0 ≠ 0 := sub_ne_zero.2 hlt.ne'
    rw [hslope]
    field_simp
  · subst heq
    exact ⟨f' x0, hL x0 Set.left_mem_uIcc, by simp⟩
  · rw [Set.uIcc_of_ge hgt.le] at hd hL
    obtain ⟨c, hc, hslope⟩ := exists_hasDerivAt_eq_slope f f' hgt
      (fun t ht => (hd t ht).continuousAt.continuousWithinAt)
      (fun t ht => hd t (Set.Ioo_subset_Icc_self ht))
    refine ⟨f' c, hL c (Set.Ioo_subset_Icc_self hc), ?_⟩
    have : x0 - x ≠ 0 := sub_ne_zero.2 hgt.ne'
    rw [hslope]
    field_simp
    ring

/-- the point whose coordinates of index `< k` come from `x` and the others from `x0` -/
def mix {n : ℕ} (x0 x : Fin n → ℝ) (k : ℕ) : Fin n → ℝ := fun i => if i.1 < k then x i else x0 i

theorem mix_zero {n : ℕ} (x0 x : Fin n → ℝ) : mix x0 x 0 = x0 := by
  funext i; simp [mix]

theorem mix_last {n : ℕ} (x0 x : Fin n → ℝ) : mix x0 x n = x := by
  funext i; simp [mix, i.2]

theorem mix_update_left {n : ℕ} (x0 x : Fin n → ℝ) (k : Fin n) :
    Function.update (mix x0 x k) k (x0 k) = mix x0 x k := by
  funext i
  by_cases h : i = k
  · subst h; simp [mix]
  · simp [Function.update_of_ne h]

theorem mix_update_right {n : ℕ} (x0 x : Fin n → ℝ) (k : Fin n) :
    Function.update (mix x0 x k) k (x k) = mix x0 x (k + 1) := by
  funext i
  by_cases h : i = k
  · subst h; simp [mix]
  · have h' : (i : ℕ) ≠ k := fun e => h (Fin.ext e)
    simp only [Function.update_of_ne h, mix]
    by_cases hlt : (i : ℕ) < k
    · rw [if_pos hlt, if_pos (by omega)]
    · rw [if_neg hlt, if_neg (by omega)]

/-- **Mean value theorem telescoped over the coordinates (Hansen's scheme).**  Column `k` of the
    matrix encloses the partial derivative `∂f/∂x_k` on the segment where the coordinates before
    `k` are those of `x`, the coordinates after `k` those of `x0`, and coordinate `k` runs between
    `x0_k` and `x_k` (a subset of any box containing `x0` and `x`).  Then
    `f x − f x0 = Σ_k s_k·(x_k − x0_k)` with slopes `s_k ∈ H_k`. -/
theorem hansen_slope {n : ℕ} {f : (Fin n → ℝ) → ℝ} {f' : Fin n → ℝ → ℝ} {x0 x : Fin n → ℝ}
    {H : Fin n → Itv}
    (hd : ∀ (k : Fin n), ∀ t ∈ Set.uIcc (x0 k) (x k),
      HasDerivAt (fun t => f (Function.update (mix x0 x k) k t)) (f' k t) t ∧ f' k t ∈ H k) :
    ∃ s : Fin n → ℝ, (∀ k, s k ∈ H k) ∧ f x - f x0 = ∑ k, s k * (x k - x0 k) := by
  choose s hs using fun (k : Fin n) => hansen_slope_1d (f := fun t => f (Function.update (mix x0 x k) k t))
    (f' := f' k) (L := H k) (fun t ht => (hd k t ht).1) (fun t ht => (hd k t ht).2)
  refine ⟨s, fun k => (hs k).1, ?_⟩
  have hstep : ∀ k : Fin n, s k * (x k - x0 k) = f (mix x0 x (k + 1)) - f (mix x0 x k) := by
    intro k
    have := (hs k).2
    simp only [mix_update_left, mix_update_right] at this
    exact this.symm
  rw [Finset.sum_congr rfl fun k _ => hstep k,
    Fin.sum_univ_eq_sum_range (fun i => f (mix x0 x (i + 1)) - f (mix x0 x i)) n,
    Finset.sum_range_sub (fun i => f (mix x0 x i)) n, mix_zero, mix_last]

open Classical in
/-- `hansen_slope` when the partial derivatives are only known to exist -/
theorem hansen_slope_ex {n : ℕ} {f : (Fin n → ℝ) → ℝ} {x0 x : Fin n → ℝ} {H : Fin n → Itv}
    (hd : ∀ (k : Fin n), ∀ t ∈ Set.uIcc (x0 k) (x k), ∃ D : ℝ,
      HasDerivAt (fun t => f (Function.update (mix x0 x k) k t)) D t ∧ D ∈ H k) :
    ∃ s : Fin n → ℝ, (∀ k, s k ∈ H k) ∧ f x - f x0 = ∑ k, s k * (x k - x0 k) := by
  let f' : Fin n → ℝ → ℝ := fun k t =>
    if ht : t ∈ Set.uIcc (x0 k) (x k) then Classical.choose (hd k t ht) else 0
  refine hansen_slope (f' := f') fun k t ht => ?_
  simp only [f', dif_pos ht]
  exact Classical.choose_spec (hd k t ht)

theorem dotR_ofFn {n : ℕ} (s : Fin n → ℝ) {dx : List ℚ} (hdx : dx.length = n) :
    dotR (List.ofFn s) dx = ∑ k : Fin n, s k * ((dx[k.1]'(hdx ▸ k.2) : ℚ) : ℝ) := by
  unfold dotR
  rw [← List.sum_ofFn]
  congr 1
  apply List.ext_getElem
  · simp [hdx]
  · intro i h1 h2
    simp

open Classical in
/-- **The Hansen test never rejects a correct matrix.**  If row `h` (one interval per variable)
    encloses the partial derivatives of `f` on the Hansen segments between `x0` and `x`, then
    `f x − f x0` belongs to the exact interval product-sum `hansenRow h (x − x0)` that the driver
    computes: a rejected `hansenpt` line proves that some entry of the library's matrix does not
    enclose the corresponding partial derivative. -/
theorem hansen_slope_row {n : ℕ} {f : (Fin n → ℝ) → ℝ} {x0 x : Fin n → ℝ} {h : List Itv}
    (hlen : h.length = n) {dx : List ℚ} (hdx : dx.length = n)
    (hdxv : ∀ k : Fin n, ((dx[k.1]'(hdx ▸ k.2) : ℚ) : ℝ) = x k - x0 k)
    (hd : ∀ (k : Fin n), ∀ t ∈ Set.uIcc (x0 k) (x k), ∃ D : ℝ,
      HasDerivAt (fun t => f (Function.update (mix x0 x k) k t)) D t ∧ D ∈ h[k.1]'(hlen ▸ k.2)) :
    f x - f x0 ∈ Deriv.hansenRow h dx := by
  obtain ⟨s, hs, heq⟩ := hansen_slope_ex (H := fun k : Fin n => h[k.1]'(hlen ▸ k.2)) hd
  have hmem : Forall₂ (fun (t : ℝ) (X : Itv) => t ∈ X) (List.ofFn s) h := by
    rw [List.forall₂_iff_get]
    refine ⟨by simp [hlen], fun i h1 h2 => ?_⟩
    have hi : i < n := by simpa using h1
    simpa using hs ⟨i, hi⟩
  have := hansenRow_encl hmem dx
  rw [dotR_ofFn s hdx] at this
  rw [heq]
  simpa only [hdxv] using this

end Ibex.C08
