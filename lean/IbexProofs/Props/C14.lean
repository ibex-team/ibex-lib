/-
  C14 — inner operators and feasibility claims never overshoot.

  The driver runs verified CHECKERS (`IbexModel/Inner.lean`) on the outputs of the real C++ code;
  the theorems below say what an accepted output means, for ALL intervals (any extended bounds),
  all DAGs (any size, sharing, vectors, matrices, applied functions), all boxes (any dimension),
  any subdivision budget, and ALL REAL POINTS — not only the sampled ones.

  A. forward inner operators  `iadd isub imul idiv imax imin isqr iminus`  (`fwd2_inside_range`,
     `fwd1_inside_range`): every real of the answer `Z` IS a value of the operator on `X × Y`
     (`Z ⊆ exact range`); `range_exact_*`: over bounded intervals the corner hull computed without
     rounding is exactly the range.  `ilog iexp iacos iasin iatan`: `fwd_oracle_inside_range` —
     relative to the MPFR values (opposite rounding) sent by the harness — with instances.
  B. inner backward projections of single operators  `ibwd_add … ibwd_pow`  (`ibwd2_all_points`,
     `ibwd1_all_points`, `ibwd_oracle_all_points`): the returned intervals are inside the inputs,
     contain the seed (inflating mode), and the operator is DEFINED at every real point of them
     and maps it into the requested image.
  C. `Function::ibwd`, `System::is_inner`, `active_ctrs`  (`total_eval_all_points`,
     `function_inner_box_all_points`, `is_inner_all_points`): a certified box has all its real
     points mapped into the image / satisfying the constraints, the functions being defined there.
  D. loup finders (`loup_point_feasible`): an accepted point satisfies every constraint exactly and
     its goal value is at most the reported loup.

  Real semantics: `Inner.realRoot ch` = the generic evaluator over ℝ (`Alg.real` operators,
  `x/0`, `sqrt` of a negative, `x^n` (n<0) at 0 undefined); an interval constant `I` of the DAG
  (constant folding of the library produces thick ones) denotes ANY selection `ch I ∈ I`.
-/
import IbexProofs.InnerExact
import IbexProofs.InnerCert

namespace Ibex.C14
open Ibex Ibex.Inner Ibex.Eval

/-! ### A. forward inner operators -/

/-- **`iadd isub imul idiv imax imin`: the answer is a subset of the exact range** (the division
    only uses denominators `y ≠ 0`: `fwd2R "idiv" x 0 = none`) -/
theorem fwd2_inside_range {op : String} {X Y Z : Itv} (h : innerFwdOk op X Y Z = some true) :
    ∀ z : ℝ, z ∈ Z → ∃ x y : ℝ, x ∈ X ∧ y ∈ Y ∧ fwd2R op x y = some z :=
  fun _ hz => innerFwdOk_sound h hz

/-- **`isqr iminus`** -/
theorem fwd1_inside_range {op : String} {X Z : Itv} (h : innerFwd1Ok op X Z = some true) :
    ∀ z : ℝ, z ∈ Z → ∃ x : ℝ, x ∈ X ∧ fwd1R op x = some z :=
  fun _ hz => innerFwd1Ok_sound h hz

/-- the exact range of `+` over bounded intervals is the corner hull computed without rounding -/
theorem range_exact_add {a b c d : ℚ} (hab : a ≤ b) (hcd : c ≤ d) (z : ℝ) :
    z ∈ Itv.addG Rnd.exact (bnd a b) (bnd c d) ↔ ∃ x y : ℝ, x ∈ bnd a b ∧ y ∈ bnd c d ∧ x + y = z :=
  Inner.range_exact_add hab hcd z

theorem range_exact_sub {a b c d : ℚ} (hab : a ≤ b) (hcd : c ≤ d) (z : ℝ) :
    z ∈ Itv.subG Rnd.exact (bnd a b) (bnd c d) ↔ ∃ x y : ℝ, x ∈ bnd a b ∧ y ∈ bnd c d ∧ x - y = z :=
  Inner.range_exact_sub hab hcd z

theorem range_exact_mul {a b c d : ℚ} (hab : a ≤ b) (hcd : c ≤ d) (z : ℝ) :
    z ∈ Itv.mulG Rnd.exact (bnd a b) (bnd c d) ↔ ∃ x y : ℝ, x ∈ bnd a b ∧ y ∈ bnd c d ∧ x * y = z :=
  Inner.range_exact_mul hab hcd z

theorem range_exact_sqr {a b : ℚ} (hab : a ≤ b) (z : ℝ) :
    z ∈ Itv.sqrG Rnd.exact (bnd a b) ↔ ∃ x : ℝ, x ∈ bnd a b ∧ x * x = z :=
  Inner.range_exact_sqr hab z

theorem range_exact_div_pos {a b c d : ℚ} (hab : a ≤ b) (hc : 0 < c) (hcd : c ≤ d) (z : ℝ) :
    z ∈ Itv.divG Rnd.exact (bnd a b) (bnd c d) ↔
      ∃ x y : ℝ, x ∈ bnd a b ∧ y ∈ bnd c d ∧ y ≠ 0 ∧ x / y = z :=
  Inner.range_exact_div_pos hab hc hcd z

/-- **`ilog iexp iacos iasin iatan`**: `f` continuous on the (order-connected) part `s` of the
    argument inside its domain; `horL`/`horU`: meaning of the two oracle bounds. -/
theorem fwd_oracle_inside_range {f : ℝ → ℝ} {s : Set ℝ} (hs : s.OrdConnected) (hf : ContinuousOn f s)
    {lowB upB : Ext} {ls us : Bool} {Z : Itv} (h : oracleFwdOk lowB ls upB us Z = true)
    (horL : ∀ z : ℝ, (if ls then lowB.toE < (z : EReal) else lowB.toE ≤ (z : EReal)) → ∃ x1 ∈ s, f x1 ≤ z)
    (horU : ∀ z : ℝ, (if us then (z : EReal) < upB.toE else (z : EReal) ≤ upB.toE) → ∃ x2 ∈ s, z ≤ f x2) :
    ∀ z : ℝ, z ∈ Z → ∃ x ∈ s, f x = z :=
  fun _ hz => oracleFwd_sound hs hf h horL horU hz

theorem iexp_inside_range {a b : ℝ} (hab : a ≤ b) {qa qb : ℚ} (ha : Real.exp a ≤ qa) (hb : (qb : ℝ) ≤ Real.exp b)
    {Z : Itv} (h : oracleFwdOk (.fin qa) false (.fin qb) false Z = true) :
    ∀ z : ℝ, z ∈ Z → ∃ x ∈ Set.Icc a b, Real.exp x = z := fun _ hz => iexp_sound hab ha hb h hz

/-- on `(-∞,b]` the limit 0 is not a value: the lower oracle bound 0 is strict -/
theorem iexp_bot_inside_range {b : ℝ} {qb : ℚ} (hb : (qb : ℝ) ≤ Real.exp b)
    {Z : Itv} (h : oracleFwdOk (.fin 0) true (.fin qb) false Z = true) :
    ∀ z : ℝ, z ∈ Z → ∃ x ∈ Set.Iic b, Real.exp x = z := fun _ hz => iexp_bot_sound hb h hz

theorem ilog_inside_range {a b : ℝ} (ha0 : 0 < a) (hab : a ≤ b) {qa qb : ℚ} (ha : Real.log a ≤ qa)
    (hb : (qb : ℝ) ≤ Real.log b) {Z : Itv} (h : oracleFwdOk (.fin qa) false (.fin qb) false Z = true) :
    ∀ z : ℝ, z ∈ Z → ∃ x ∈ Set.Icc a b, Real.log x = z := fun _ hz => ilog_sound ha0 hab ha hb h hz

theorem iatan_inside_range {a b : ℝ} (hab : a ≤ b) {qa qb : ℚ} (ha : Real.arctan a ≤ qa)
    (hb : (qb : ℝ) ≤ Real.arctan b) {Z : Itv} (h : oracleFwdOk (.fin qa) false (.fin qb) false Z = true) :
    ∀ z : ℝ, z ∈ Z → ∃ x ∈ Set.Icc a b, Real.arctan x = z := fun _ hz => iatan_sound hab ha hb h hz

theorem iasin_inside_range {a b : ℝ} (hab : a ≤ b) {qa qb : ℚ} (ha : Real.arcsin a ≤ qa)
    (hb : (qb : ℝ) ≤ Real.arcsin b) {Z : Itv} (h : oracleFwdOk (.fin qa) false (.fin qb) false Z = true) :
    ∀ z : ℝ, z ∈ Z → ∃ x ∈ Set.Icc a b, Real.arcsin x = z := fun _ hz => iasin_sound hab ha hb h hz

theorem iacos_inside_range {a b : ℝ} (hab : a ≤ b) {qa qb : ℚ} (hb : Real.arccos b ≤ qb)
    (ha : (qa : ℝ) ≤ Real.arccos a) {Z : Itv} (h : oracleFwdOk (.fin qb) false (.fin qa) false Z = true) :
    ∀ z : ℝ, z ∈ Z → ∃ x ∈ Set.Icc a b, Real.arccos x = z := fun _ hz => iacos_sound hab hb ha h hz

/-! ### B. inner backward projections of single operators -/

/-- **`ibwd_add sub mul div max min`** (`xin = yin = ∅`: non-inflating mode) -/
theorem ibwd2_all_points {op : String} {z x y xin yin x' y' : Itv} (h : ibwd2Accept op z x y xin yin x' y' = true) :
    (∀ v : ℝ, v ∈ x' → v ∈ x) ∧ (∀ v : ℝ, v ∈ y' → v ∈ y) ∧
    (∀ v : ℝ, v ∈ xin → v ∈ x') ∧ (∀ v : ℝ, v ∈ yin → v ∈ y') ∧
    (∀ v w : ℝ, v ∈ x' → w ∈ y' → ∃ r, bwd2R op v w = some r ∧ r ∈ z) := by
  simp only [ibwd2Accept, Bool.and_eq_true] at h
  obtain ⟨⟨⟨⟨h1, h2⟩, h3⟩, h4⟩, h5⟩ := h
  exact ⟨fun _ => Itv.mem_of_subset h1, fun _ => Itv.mem_of_subset h2, fun _ => Itv.mem_of_subset h3,
    fun _ => Itv.mem_of_subset h4, fun _ _ hv hw => into2_sound h5 hv hw⟩

/-- **`ibwd_sqr abs minus sqrt pow`** -/
theorem ibwd1_all_points {op : String} {n : Int} {y x xin x' : Itv} (h : ibwd1Accept op n y x xin x' = true) :
    (∀ v : ℝ, v ∈ x' → v ∈ x) ∧ (∀ v : ℝ, v ∈ xin → v ∈ x') ∧
    (∀ v : ℝ, v ∈ x' → ∃ r, bwd1R op n v = some r ∧ r ∈ y) := by
  simp only [ibwd1Accept, Bool.and_eq_true, beq_iff_eq] at h
  obtain ⟨⟨h1, h2⟩, h3⟩ := h
  exact ⟨fun _ => Itv.mem_of_subset h1, fun _ => Itv.mem_of_subset h2, fun _ hv => into1_sound h3 hv⟩

/-- **`ibwd_exp log cos sin tan`**: `E` is the oracle enclosure of `f` over the answer `x'`
    (hypothesis `hE`: MPFR at the end points and critical points) -/
theorem ibwd_oracle_all_points {f : ℝ → ℝ} {y x xin E x' : Itv} (h : ibwdoAccept y x xin E x' = true)
    (hE : ∀ v : ℝ, v ∈ x' → f v ∈ E) :
    (∀ v : ℝ, v ∈ x' → v ∈ x) ∧ (∀ v : ℝ, v ∈ xin → v ∈ x') ∧ (∀ v : ℝ, v ∈ x' → f v ∈ y) := by
  simp only [ibwdoAccept, Bool.and_eq_true] at h
  obtain ⟨⟨h1, h2⟩, h3⟩ := h
  exact ⟨fun _ => Itv.mem_of_subset h1, fun _ => Itv.mem_of_subset h2, fun v hv => Itv.mem_of_subset h3 (hE v hv)⟩

/-! ### C. whole functions -/

/-- **Total interval evaluation** (natural inclusion function with definedness): defined on the
    box ⇒ the real function is defined at every point of the box, with its value in the enclosure. -/
theorem total_eval_all_points {ch : Itv → Option ℝ} (hch : Sel ch) {funs : List Dag} {dag : Dag} {box : List Itv}
    {Z : Mat Itv} (h : evalT funs dag box = some Z) :
    ∀ p : List ℝ, Box.Mem p box → ∃ v, realRoot ch funs dag p = some v ∧ MatRel IMem Z v :=
  fun _ hp => evalT_sound hch h (inBox_of_mem hp)

/-- **`Function::ibwd`**: an accepted result box is inside the input box, contains the seed box
    (inflating mode), and ALL its real points are mapped into the requested image, the function
    being defined at each of them — for any subdivision budget `fuel`. -/
theorem function_inner_box_all_points {ch : Itv → Option ℝ} (hch : Sel ch) {funs : List Dag} {dag : Dag} {s : Spec}
    {box seed res : List Itv} {fuel : Nat} (h : ibwdfAccept funs dag s box seed res fuel = true) :
    (∀ p : List ℝ, Box.Mem p res → Box.Mem p box) ∧
    (∀ p : List ℝ, Box.Mem p seed → Box.Mem p res) ∧
    (∀ p : List ℝ, Box.Mem p res → ∃ v, realRoot ch funs dag p = some v ∧ RealSat s v) := by
  simp only [ibwdfAccept, Bool.and_eq_true, Bool.or_eq_true, beq_iff_eq] at h
  obtain ⟨⟨h1, h2⟩, h3⟩ := h
  refine ⟨fun _ hp => Box.subset_sound h1 hp, ?_, fun _ hp => certify_sound hch h3 (inBox_of_mem hp)⟩
  intro p hp
  rcases h2 with h2 | h2
  · exact absurd hp (Box.not_mem_of_isEmpty h2)
  · exact Box.subset_sound h2 hp

/-- **`System::is_inner` / `active_ctrs`**: every constraint claimed inactive (bit `false`; all of
    them when `is_inner` answers yes) is satisfied at EVERY real point of the box. -/
theorem is_inner_all_points {ch : Itv → Option ℝ} (hch : Sel ch) {ctrs : List ((List Dag × Dag) × Spec)}
    {bits : List Bool} {box : List Itv} {fuel : Nat} (h : inactiveAccept ctrs bits box fuel = true) :
    ∀ c ∈ List.zip ctrs bits, c.2 = false →
      ∀ p : List ℝ, Box.Mem p box → ∃ v, realRoot ch c.1.1.1 c.1.1.2 p = some v ∧ RealSat c.1.2 v := by
  simp only [inactiveAccept, Bool.and_eq_true, List.all_eq_true, Bool.or_eq_true, beq_iff_eq] at h
  intro c hc hbit p hp
  rcases h.2 c hc with h1 | h1
  · rw [hbit] at h1; exact absurd h1 (by simp)
  · exact certify_sound hch h1 (inBox_of_mem hp)

/-! ### D. loup points -/

/-- **Loup finders**: an accepted point satisfies every constraint (exactly, as real numbers, the
    constraint functions being defined there) and its goal value is ≤ the reported loup. -/
theorem loup_point_feasible {ch : Itv → Option ℝ} (hch : Sel ch) {funs : List (List Dag)} {ctrs : List (Dag × Spec)}
    {gfuns : List Dag} {goal : Dag} {p : List ℚ} {loup : Ext} (h : loupOk funs ctrs gfuns goal p loup = true) :
    (∀ c ∈ List.zip funs ctrs, ∃ z, realRoot ch c.1 c.2.1 (p.map (Rat.cast : ℚ → ℝ)) = some z ∧ RealSat c.2.2 z) ∧
    ∃ g : ℝ, realRoot ch gfuns goal (p.map (Rat.cast : ℚ → ℝ)) = some (Mat.scalar g) ∧ (g : EReal) ≤ loup.toE := by
  obtain ⟨a, _, b⟩ := loupOk_sound hch h
  exact ⟨a, b⟩

/-- the value computed by exact rational evaluation at a rational point is the real value of the
    function there (so a `FAIL` verdict of the driver, which compares this value with the
    requirement, is not a false alarm of the arithmetic) -/
theorem exact_value_is_real_value {ch : Itv → Option ℝ} (hch : Sel ch) {funs : List Dag} {dag : Dag} {q : List ℚ}
    {v : Mat ℚ} (h : evalQ funs dag q = some v) :
    ∃ z, realRoot ch funs dag (q.map (Rat.cast : ℚ → ℝ)) = some z ∧ MatRel RCast v z := evalQ_real hch h

/-! ### non-vacuity -/

def I (a b : Rat) : Itv := .mk (.fin a) (.fin b)

-- A: `[2,5] ⊆ [1,2]·[2,3] = [2,6]` accepted, `[1,5]` rejected; unbounded: `[6,+∞) ⊆ [2,+∞)·[3,4]`
example : innerFwdOk "imul" (I 1 2) (I 2 3) (I 2 5) = some true := by decide +kernel
example : innerFwdOk "imul" (I 1 2) (I 2 3) (I 1 5) = some false := by decide +kernel
example : innerFwdOk "imul" (.mk (.fin 2) .pinf) (I 3 4) (.mk (.fin 6) .pinf) = some true := by decide +kernel
example : innerFwdOk "imul" (.mk (.fin 2) .pinf) (I 3 4) (.mk (.fin 5) .pinf) = some false := by decide +kernel
-- `[1,2]/[0,1] = [1,+∞)` (pole), `[1,2]/[1,+∞) = (0,2]`: 0 is not attained
example : innerFwdOk "idiv" (I 1 2) (I 0 1) (.mk (.fin 1) .pinf) = some true := by decide +kernel
example : innerFwdOk "idiv" (I 1 2) (.mk (.fin 1) .pinf) (I (1/1000) 2) = some true := by decide +kernel
example : innerFwdOk "idiv" (I 1 2) (.mk (.fin 1) .pinf) (I 0 2) = some false := by decide +kernel
example : innerFwd1Ok "isqr" (I (-1) 2) (I 0 4) = some true := by decide +kernel
example : innerFwd1Ok "isqr" (I 1 2) (I 0 4) = some false := by decide +kernel
-- B: `x + y ∈ [0,3]` : `[0,1]×[0,2]` accepted (seed `{1}×{1}`), `[0,2]×[0,2]` overshoots
example : ibwd2Accept "add" (I 0 3) (I 0 5) (I 0 5) (I 1 1) (I 1 1) (I 0 1) (I 0 2) = true := by decide +kernel
example : ibwd2Accept "add" (I 0 3) (I 0 5) (I 0 5) (I 1 1) (I 1 1) (I 0 2) (I 0 2) = false := by decide +kernel
-- a seed that is not inside the answer, a pole of the division in the answer
example : ibwd2Accept "add" (I 0 3) (I 0 5) (I 0 5) (I 2 2) (I 1 1) (I 0 1) (I 0 2) = false := by decide +kernel
example : ibwd2Accept "div" (I 0 3) (I 0 5) (I 0 5) .empty .empty (I 0 1) (I 0 2) = false := by decide +kernel
example : ibwd2Accept "div" (I 0 3) (I 0 5) (I 0 5) .empty .empty (I 0 1) (I 1 2) = true := by decide +kernel
example : ibwd1Accept "sqrt" 0 (I 1 2) (I 0 9) .empty (I 1 4) = true := by decide +kernel
example : ibwd1Accept "sqrt" 0 (I 1 2) (I 0 9) .empty (I 0 4) = false := by decide +kernel
example : ibwd1Accept "pow" (-2) (I (1/4) 1) (I (-5) 5) .empty (I 1 2) = true := by decide +kernel
example : ibwd1Accept "pow" (-2) (I (1/4) 1) (I (-5) 5) .empty (I (-1) 2) = false := by decide +kernel

/-- nodes: 0 = x, 1 = x+x : the function `x + x` -/
def dblDag : Dag := #[⟨.var 0, 1, 1⟩, ⟨.bin "add" 0 0, 1, 1⟩]
def leq1 : Spec := .inM (Mat.scalar (.mk .ninf (.fin 1)))
-- C: `x + x ≤ 1`: `[0,1/2]` is an inner box of `[0,1]`; `[0,0.715]` is not (`0.715 + 0.715 > 1`)
example : ibwdfAccept [] dblDag leq1 [I 0 1] [.empty] [I 0 (1/2)] 3 = true := by decide +kernel
example : ibwdfAccept [] dblDag leq1 [I 0 1] [.empty] [I 0 (715/1000)] 3 = false := by decide +kernel
/-- nodes: 0 = x, 1 = x*x, 2 = x - x*x : certified only after subdivision -/
def subDag : Dag := #[⟨.var 0, 1, 1⟩, ⟨.bin "mul" 0 0, 1, 1⟩, ⟨.bin "sub" 0 1, 1, 1⟩]
def leqTenth : Spec := .inM (Mat.scalar (.mk .ninf (.fin (1/10))))
example : certify [] subDag leqTenth 0 [I (117/100) (177/100)] = 1 := by decide +kernel
example : certify [] subDag leqTenth 4 [I (117/100) (177/100)] = 0 := by decide +kernel
/-- `sqrt x - 1 ≤ 0` is NOT certified on a box with negative points (undefined there) -/
def sqrtDag : Dag := #[⟨.var 0, 1, 1⟩, ⟨.un "sqrt" 0, 1, 1⟩, ⟨.const [Itv.point 1], 1, 1⟩, ⟨.bin "sub" 1 2, 1, 1⟩]
example : inactiveAccept [(([], sqrtDag), .leq)] [false] [I 0 (1/2)] 2 = true := by decide +kernel
example : inactiveAccept [(([], sqrtDag), .leq)] [false] [I (-2) (1/2)] 2 = false := by decide +kernel
-- D: `x + x ≤ 1` (as `x + x - 1 ≤ 0` would be) at the point 1/4, goal `x + x`, loup 1/2
def ctrDag : Dag := #[⟨.var 0, 1, 1⟩, ⟨.bin "add" 0 0, 1, 1⟩, ⟨.const [Itv.point 1], 1, 1⟩, ⟨.bin "sub" 1 2, 1, 1⟩]
example : loupOk [[]] [(ctrDag, .leq)] [] dblDag [1/4] (.fin (1/2)) = true := by decide +kernel
example : loupOk [[]] [(ctrDag, .leq)] [] dblDag [3/4] (.fin 2) = false := by decide +kernel
example : loupOk [[]] [(ctrDag, .leq)] [] dblDag [1/4] (.fin (1/4)) = false := by decide +kernel

/-- the hypotheses of the theorems are satisfiable (a selection exists: `chAny_sel`) and the
    conclusion is the expected fact: every real point of `[0,1/2]` satisfies `x + x ≤ 1` -/
example (x : ℝ) (hx : x ∈ I 0 (1/2)) : x + x ≤ 1 := by
  have hacc : ibwdfAccept [] dblDag leq1 [I 0 1] [.empty] [I 0 (1/2)] 3 = true := by decide +kernel
  obtain ⟨_, _, h3⟩ := function_inner_box_all_points chAny_sel hacc
  obtain ⟨v, hv, hs⟩ := h3 [x] (.cons hx .nil)
  -- the real value of `x + x` through the generic evaluator
  have dblDag_real : realRoot chAny [] dblDag [x] = some (Mat.scalar (x + x)) := rfl
  rw [dblDag_real] at hv
  simp only [Option.some.injEq] at hv
  subst hv
  obtain ⟨_, _, hd⟩ := hs
  simp only [Mat.scalar] at hd
  cases hd with
  | cons h _ =>
    have h2 : ((x + x : ℝ) : EReal) ≤ ((1 : ℝ) : EReal) := by simpa [Itv.mem_mk] using h.2
    exact_mod_cast h2

end Ibex.C14
