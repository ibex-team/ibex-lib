/-
  C04 — constraint contractors never discard a feasible point and never enlarge the box.

  What is checked at run time (Driver/OpsCtc.lean):
  * `ctcsub`: the output box is a sub-box of the input (`Box.subset`);
  * `ctcpt`: a sample point whose constraints are all satisfied — decided with exact rational
    arithmetic on the user-level expression DAGs — is still in the output box;
  * `hc4`: the output of the real forward-backward contractor contains the box computed by the
    model `HC4.revise` (tightest outward-rounded single pass in ibex's node order).
  Theorems here: what an accepted `ctcsub` and an accepted `hc4` line imply (`ctcpt` is a test on a point decided
  exactly: it has no theorem), and the abstract contractor theory that lifts
  constraint-level soundness to propagation loops (any schedule) and to shaving (3BCID/ACID).
  (`HC4.revise` itself is a contractor: `hc4_sub`, `hc4_keeps` in Props/C04hc4.lean.)
-/
import IbexProofs.CtcAbstract

namespace Ibex.C04
open Ibex Ibex.Ctc

/-- accepted `ctcsub`: the contractor did not enlarge the box -/
theorem accepted_sub {x y : Box} {p : List ℝ} (h : Box.subset y x = true) (hp : Box.Mem p y) : Box.Mem p x :=
  Box.subset_sound h hp

/-- accepted `hc4` line: the real output contains every point of the model's box -/
theorem accepted_hc4 {dag : Dag} {rhs : Itv} {x out m : Box} (h : HC4.reviseOk dag rhs x out = true)
    (hm : HC4.revise dag rhs x = .box m) {p : List ℝ} (hp : Box.Mem p m) : Box.Mem p out := by
  unfold HC4.reviseOk at h
  rw [hm] at h
  simp only [Bool.and_eq_true] at h
  exact Box.subset_sound h.2 hp

/-- propagation: whatever calls the agenda schedules (ratio, incremental mode, impact bitsets only
    select WHICH calls happen), sound sub-contractors give a sound result that is inside the input -/
theorem propagation_sound {S : Set Pt} (cs : List (Box → Box)) (h : ∀ c ∈ cs, Sound c S) : Sound (run cs) S :=
  run_sound cs h
theorem propagation_contracting (cs : List (Box → Box)) (h : ∀ c ∈ cs, Contracting c) : Contracting (run cs) :=
  run_contracting cs h

/-- a system: sound for each constraint ⇒ sound for their conjunction -/
theorem system_sound {c : Box → Box} {S T : Set Pt} (h : Sound c S) (hTS : T ⊆ S) : Sound c T := sound_mono h hTS

/-- 3B / CID / ACID shaving, for any slice numbers and any handled variables: the hull of the
    contracted slices keeps every feasible point provided the slices cover the box -/
theorem shaving {c : Box → Box} {S : Set Pt} (hc : Sound c S) {x out : Box} {slices : List Box}
    (hcover : ∀ p, Box.Mem p x → ∃ s ∈ slices, Box.Mem p s)
    (hout : ∀ s ∈ slices, ∀ p, Box.Mem p (c s) → Box.Mem p out) :
    ∀ p, Box.Mem p x → p ∈ S → Box.Mem p out := shaving_sound hc hcover hout

end Ibex.C04
