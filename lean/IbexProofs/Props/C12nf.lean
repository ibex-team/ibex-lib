/-
  C12 (symbolic form) — the expression produced by symbolic differentiation denotes the partial
  derivatives of the original expression.

  The driver op `diffnf` runs `Equiv.checkDiff funs₁ f funs₂ df n` (`IbexModel/RatFun.lean`):
  both DAGs are normalised to matrices of rational functions (`Alg.rf`, as for C11), the formal
  partial derivatives `RF.deriv j` (quotient rule on canonical polynomials) of every entry of `f`
  w.r.t. every variable `x₀ … x_{n-1}` are laid out row-major (rows = entries of `f`, columns =
  variables: a gradient is the list of partials, a Jacobian has one row per component), and that
  list is compared with the flattened entries of `df` by cross-multiplication.

  Same fragment and same caveats as C11: `none` ⇒ nothing claimed (operator outside the fragment,
  or a size guard `RF.guard` / `RF.derivOK` / `RF.eqv` tripped); `some false` is a diagnosis.
-/
import IbexProofs.RatFun

namespace Ibex.C12
open Ibex Ibex.Eval List Filter Topology

/-- `checkDiff_sound` for any size bound `B` (as `C11.checkB_sound`) -/
theorem checkDiffB_sound {B : ℕ} {funs₁ funs₂ : List Dag} {dag₁ dag₂ : Dag} {n : ℕ}
    (h : Equiv.checkDiffB B funs₁ dag₁ funs₂ dag₂ n = some true)
    {ρ : List ℝ} (hρ : ρ.length = n) {w : Mat ℝ}
    (hdf : root Alg.real ρ (buildCalls Alg.real funs₂) dag₂ = some w)
    (i j : ℕ) (hj : j < n) (φ : ℝ → ℝ)
    (hf : ∀ᶠ t in 𝓝 (0 : ℝ), ∃ v, root Alg.real (ρ.set j (ρ.getD j 0 + t)) (buildCalls Alg.real funs₁) dag₁
      = some v ∧ v.d[i]? = some (φ t)) :
    ∃ d, w.d[i * n + j]? = some d ∧ HasDerivAt φ d 0 := by
  unfold Equiv.checkDiffB at h
  simp only [Bind.bind, Option.bind_eq_some_iff] at h
  obtain ⟨F, hF, G, hG, h⟩ := h
  split at h
  case isFalse => exact nomatch h
  have hjρ : j < ρ.length := hρ ▸ hj
  set ρ' := valOf ρ with hρ'
  have hline : ∀ t, valOf (ρ.set j (ρ.getD j 0 + t)) = Function.update ρ' j (ρ' j + t) :=
    fun t => valOf_set ρ hjρ _
  have hent : ∀ {t : ℝ} {v : Mat ℝ},
      root Alg.real (ρ.set j (ρ.getD j 0 + t)) (buildCalls Alg.real funs₁) dag₁ = some v →
      v.d[i]? = some (φ t) → ∃ fi, F.d[i]? = some fi ∧ RF.Rep (Function.update ρ' j (ρ' j + t)) (φ t) fi := by
    intro t v hv hvi
    obtain ⟨_, _, hd⟩ := nf_real (by simpa using hρ) hF hv
    obtain ⟨fi, hfi, hr⟩ := forall₂_getElem?_left hd hvi
    exact ⟨fi, hfi, hline t ▸ hr⟩
  obtain ⟨fi, hfi, _⟩ : ∃ fi, F.d[i]? = some fi ∧ _ := by
    obtain ⟨v, hv, hvi⟩ := hf.self_of_nhds
    exact hent hv hvi
  -- `φ` is, near 0, the value of `fi` along the line, whose denominator does not vanish
  have hφ : ∀ᶠ t in 𝓝 (0 : ℝ), RF.Rep (Function.update ρ' j (ρ' j + t)) (φ t) fi := by
    filter_upwards [hf] with t ⟨v, hv, hvi⟩
    obtain ⟨fi', hfi', hr⟩ := hent hv hvi
    rwa [Option.some.inj (hfi.symm.trans hfi')]
  have hupd0 : Function.update ρ' j (ρ' j + 0) = ρ' := by simp
  have hden : Poly.ev fi.den ρ' ≠ 0 := by
    have := hφ.self_of_nhds
    rw [hupd0] at this
    exact this.1
  obtain ⟨g, hg, hgeq⟩ := eqvList_getElem? (i * n + j) h (jac_getElem? n F.d i j hfi hj)
  obtain ⟨_, _, hdw⟩ := nf_real hρ hG hdf
  obtain ⟨d, hd, hdg⟩ := forall₂_getElem?_right hdw hg
  refine ⟨d, hd, ?_⟩
  have hD : RF.Rep ρ' (Poly.ev (RF.deriv j fi).num ρ' / Poly.ev (RF.deriv j fi).den ρ') (RF.deriv j fi) :=
    ⟨RF.deriv_den_ne fi j hden, rfl⟩
  rw [← RF.eqv_sound hgeq hD hdg]
  -- quotient rule along the line
  have hq := RF.hasDerivAt fi j ρ' (ρ' j + 0) (by rw [hupd0]; exact hden)
  rw [hupd0] at hq
  have hq' := hq.comp_const_add (ρ' j) 0
  refine hq'.congr_of_eventuallyEq ?_
  filter_upwards [hφ] with t ht
  exact ht.2

/-- **C12 (soundness of the symbolic derivative check).**  In an accepted pair `(f, df)`, entry
    `i·n + j` of `df` is the partial derivative of entry `i` of `f` w.r.t. variable `j`, at every
    real point where `df` is defined and around which `f` is defined along coordinate `j`. -/
theorem checkDiff_sound {funs₁ funs₂ : List Dag} {dag₁ dag₂ : Dag} {n : ℕ}
    (h : Equiv.checkDiff funs₁ dag₁ funs₂ dag₂ n = some true)
    {ρ : List ℝ} (hρ : ρ.length = n) {w : Mat ℝ}
    (hdf : root Alg.real ρ (buildCalls Alg.real funs₂) dag₂ = some w)
    (i j : ℕ) (hj : j < n) (φ : ℝ → ℝ)
    (hf : ∀ᶠ t in 𝓝 (0 : ℝ), ∃ v, root Alg.real (ρ.set j (ρ.getD j 0 + t)) (buildCalls Alg.real funs₁) dag₁
      = some v ∧ v.d[i]? = some (φ t)) :
    ∃ d, w.d[i * n + j]? = some d ∧ HasDerivAt φ d 0 :=
  checkDiffB_sound h hρ hdf i j hj φ hf

/-! ### non-vacuity -/

def v (i : Nat) : Node := ⟨.var i, 1, 1⟩
def k (q : Rat) : Node := ⟨.const [Itv.point q], 1, 1⟩

/-- `f(x,y) = x²·y` -/
def f : Dag := #[v 0, v 1, ⟨.un "sqr" 0, 1, 1⟩, ⟨.bin "mul" 2 1, 1, 1⟩]
/-- `(2xy, x²)` as a row vector -/
def df : Dag := #[v 0, v 1, k 2, ⟨.bin "mul" 2 0, 1, 1⟩, ⟨.bin "mul" 3 1, 1, 1⟩, ⟨.pow 0 2, 1, 1⟩,
  ⟨.vec true [4, 5], 1, 2⟩]
/-- `(x², x²)`: wrong -/
def dfBad : Dag := #[v 0, ⟨.pow 0 2, 1, 1⟩, ⟨.vec true [1, 1], 1, 2⟩]

theorem f_check : Equiv.checkDiff [] f [] df 2 = some true := by decide +kernel
example : Equiv.checkDiff [] f [] df 2 = some true := f_check
example : Equiv.checkDiff [] f [] dfBad 2 = some false := by decide +kernel

/-- `g(x) = 1/x`, `g' = -1/x²` (quotient rule; the normal forms are `0·x − 1·1 / x·x` and `-1/x²`) -/
def g : Dag := #[v 0, k 1, ⟨.bin "div" 1 0, 1, 1⟩]
def dg : Dag := #[v 0, ⟨.pow 0 (-2), 1, 1⟩, ⟨.un "minus" 1, 1, 1⟩]
example : Equiv.checkDiff [] g [] dg 1 = some true := by decide +kernel
example : Equiv.checkDiff [] g [] g 1 = some false := by decide +kernel

/-- the Jacobian of `(x·y, x + y)` is `[[y, x], [1, 1]]` (rows = components) -/
def F2 : Dag := #[v 0, v 1, ⟨.bin "mul" 0 1, 1, 1⟩, ⟨.bin "add" 0 1, 1, 1⟩, ⟨.vec false [2, 3], 2, 1⟩]
def J2 : Dag := #[v 0, v 1, k 1, ⟨.vec true [1, 0], 1, 2⟩, ⟨.vec true [2, 2], 1, 2⟩,
  ⟨.vec false [3, 4], 2, 2⟩]
example : Equiv.checkDiff [] F2 [] J2 2 = some true := by decide +kernel

/-- the hypotheses of `checkDiff_sound` are satisfiable and its conclusion is the expected one:
    `d/dx (x²·y) = 2xy` at every real `(a, b)` -/
theorem f_root (a b : ℝ) : root Alg.real [a, b] (buildCalls Alg.real []) f =
    some (Mat.scalar (a * a * b)) := by
  simp +decide only [f, v, dag_eval]

theorem df_root (a b : ℝ) : root Alg.real [a, b] (buildCalls Alg.real []) df =
    some ⟨1, 2, [2 * a * b, a ^ 2]⟩ := by
  simp +decide only [df, v, k, dag_eval]
  rfl

example (a b : ℝ) : HasDerivAt (fun t => (a + t) * (a + t) * b) (2 * a * b) 0 := by
  obtain ⟨d, hd, hD⟩ := checkDiff_sound f_check (ρ := [a, b]) rfl (df_root a b) 0 0 (by norm_num)
    (fun t => (a + t) * (a + t) * b)
    (Filter.Eventually.of_forall fun t => ⟨_, by simpa using f_root (a + t) b, by simp [Mat.scalar]⟩)
  simp at hd
  rw [hd]
  exact hD

end Ibex.C12
