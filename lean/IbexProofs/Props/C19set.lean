/-
  C19, last sentence — "set pavings label a leaf inside/outside only if all its points are".

  Vocabulary (IbexModel/SetPaving.lean, IbexProofs/SetPaving.lean):
    `SE`                expression tree denoting a thick set [lo, hi] over exact leaves (unions of boxes with binary64
                        bounds; polynomial constraints; inverse images) through not / inter / union / thick / meet;
    `e.Lo p`, `e.Hi p`  the real point `p : List ℝ` is certainly in / possibly in the set (`SE.sem`);
    `Between e S`       `S` is one of the sets denoted by `e`:  lo ⊆ S ⊆ hi;
    `Box.Mem p b`       `p` belongs to the (closed) box `b`;  `SMem p b`: to its interior;  `NonFlat b`: no degenerate component;
    `seg t p m`         the point `p + t (m - p)`;
    `pavingOk iset e n leaves`   the executable checker run by the driver on the leaves printed by the real
                        `ibex::Set` / `ibex::SetInterval` (walked with a `SetVisitor`).

  Boundary convention.  The leaves of a paving are CLOSED boxes sharing faces, and the library computes differences of boxes
  up to closure (a degenerate piece is dropped): a label is a claim "up to the boundary", as for closed sets.
     YES leaf b :  (B) every point of b is possibly in the set            (b ⊆ hi; for a closed set: b ⊆ S)
                   (R) every point of b is the end of a segment, lying strictly inside b, of points certainly in the set
                       (b ⊆ closure(lo ∩ interior b))
     NO  leaf b :  (B) no point of b is certainly in the set              (b ∩ lo = ∅; for a closed set: b ∩ interior S = ∅)
                   (R) every point of b is the end of a segment, strictly inside b, of points certainly NOT in the set
     MAYBE leaf :  no claim.
  (B) speaks of every point of the leaf, its boundary included (`ClaimB`, decided by `okB` on one point of every cell);
  (R) of the points strictly inside, reached along segments (`ClaimR`, decided by `okR` on the full-dimensional cells).
  (B) is not required from i-sets (`SetInterval(box, MAYBE)` puts NO leaves in contact with the box).

-/
import IbexProofs.SetPaving

namespace Ibex.C19.SetProps
open Ibex Ibex.SetPaving

/-- `S` is one of the sets denoted by the expression: every point certainly in is in `S`, every point of `S` is possibly in -/
def Between (e : SE) (S : Set Pt) : Prop := (∀ p, e.Lo p → p ∈ S) ∧ (∀ p, p ∈ S → e.Hi p)

/-- `T` contains the end point `p` of every segment whose other points `p + t (m - p)`, `0 < t ≤ 1`, are in `T`
    (true of every topologically closed set) -/
def SegClosed (T : Set Pt) : Prop :=
  ∀ (p : Pt) (m : RPt), m.length = p.length → (∀ t : ℝ, 0 < t → t ≤ 1 → seg t p m ∈ T) → p ∈ T

/-! ## Part 1 — accepted pavings -/

/-- the leaves cover the whole space (the bounding box a `Set` represents is ℝⁿ) -/
theorem leaves_cover {iset : Bool} {e : SE} {n : Nat} {leaves : List Leaf} (h : pavingOk iset e n leaves = true)
    (p : Pt) (hp : p.length = n) : ∃ L ∈ leaves, Box.Mem p L.box := (paving_sound h).1 p hp

/-- (B) for sets: every real point of a YES leaf is possibly in the set -/
theorem yes_leaf_possibly_in {e : SE} {n : Nat} {leaves : List Leaf} (h : pavingOk false e n leaves = true)
    {L : Leaf} (hL : L ∈ leaves) (hst : L.st = .yes) (p : Pt) (hp : Box.Mem p L.box) : e.Hi p := by
  have := ((paving_sound h).2 L hL).1 rfl p hp
  rwa [hst] at this

/-- (B) for sets: no real point of a NO leaf is certainly in the set -/
theorem no_leaf_not_certainly_in {e : SE} {n : Nat} {leaves : List Leaf} (h : pavingOk false e n leaves = true)
    {L : Leaf} (hL : L ∈ leaves) (hst : L.st = .no) (p : Pt) (hp : Box.Mem p L.box) : ¬ e.Lo p := by
  have := ((paving_sound h).2 L hL).1 rfl p hp
  rwa [hst] at this

/-- (R) sets and i-sets: every real point of a (non flat) YES leaf is the end of a segment lying strictly inside the leaf
    whose points are certainly in the set -/
theorem yes_leaf_limit {iset : Bool} {e : SE} {n : Nat} {leaves : List Leaf} (h : pavingOk iset e n leaves = true)
    {L : Leaf} (hL : L ∈ leaves) (hst : L.st = .yes) (hnf : NonFlat L.box) (p : Pt) (hp : Box.Mem p L.box) :
    ∃ m : RPt, m.length = p.length ∧ ∀ t : ℝ, 0 < t → t ≤ 1 → SMem (seg t p m) L.box ∧ e.Lo (seg t p m) := by
  have := ((paving_sound h).2 L hL).2 hnf p hp
  rwa [hst] at this

/-- (R) every real point of a (non flat) NO leaf is the end of a segment lying strictly inside the leaf whose points are
    certainly not in the set -/
theorem no_leaf_limit {iset : Bool} {e : SE} {n : Nat} {leaves : List Leaf} (h : pavingOk iset e n leaves = true)
    {L : Leaf} (hL : L ∈ leaves) (hst : L.st = .no) (hnf : NonFlat L.box) (p : Pt) (hp : Box.Mem p L.box) :
    ∃ m : RPt, m.length = p.length ∧ ∀ t : ℝ, 0 < t → t ≤ 1 → SMem (seg t p m) L.box ∧ ¬ e.Hi (seg t p m) := by
  have := ((paving_sound h).2 L hL).2 hnf p hp
  rwa [hst] at this

/-- YES leaf, any set `S` denoted by the expression that is closed along segments: EVERY real point of the leaf is in `S` -/
theorem yes_leaf_subset {iset : Bool} {e : SE} {n : Nat} {leaves : List Leaf} (h : pavingOk iset e n leaves = true)
    {S : Set Pt} (hS : Between e S) (hcl : SegClosed S)
    {L : Leaf} (hL : L ∈ leaves) (hst : L.st = .yes) (hnf : NonFlat L.box) (p : Pt) (hp : Box.Mem p L.box) : p ∈ S := by
  obtain ⟨m, hlen, hm⟩ := yes_leaf_limit h hL hst hnf p hp
  exact hcl p m hlen (fun t h0 h1 => hS.1 _ (hm t h0 h1).2)

/-- NO leaf, any set `S` denoted by the expression whose complement is closed along segments (`S` open): NO real point of
    the leaf is in `S`.  For any `S`: every point of the leaf is a limit of points outside `S` (`no_leaf_limit`), i.e. the
    leaf is disjoint from the interior of `S` -/
theorem no_leaf_disjoint {iset : Bool} {e : SE} {n : Nat} {leaves : List Leaf} (h : pavingOk iset e n leaves = true)
    {S : Set Pt} (hS : Between e S) (hop : SegClosed Sᶜ)
    {L : Leaf} (hL : L ∈ leaves) (hst : L.st = .no) (hnf : NonFlat L.box) (p : Pt) (hp : Box.Mem p L.box) : p ∉ S := by
  obtain ⟨m, hlen, hm⟩ := no_leaf_limit h hL hst hnf p hp
  exact hop p m hlen (fun t h0 h1 hin => (hm t h0 h1).2 (hS.2 _ hin))

/-- the points strictly inside a YES (NO) leaf reached by the segments are in (out of) EVERY set denoted by the expression -/
theorem leaf_limit_every_set {iset : Bool} {e : SE} {n : Nat} {leaves : List Leaf} (h : pavingOk iset e n leaves = true)
    {S : Set Pt} (hS : Between e S) {L : Leaf} (hL : L ∈ leaves) (hnf : NonFlat L.box) (p : Pt) (hp : Box.Mem p L.box) :
    (L.st = .yes → ∃ m : RPt, m.length = p.length ∧ ∀ t : ℝ, 0 < t → t ≤ 1 → SMem (seg t p m) L.box ∧ seg t p m ∈ S) ∧
    (L.st = .no → ∃ m : RPt, m.length = p.length ∧ ∀ t : ℝ, 0 < t → t ≤ 1 → SMem (seg t p m) L.box ∧ seg t p m ∉ S) := by
  refine ⟨fun hst => ?_, fun hst => ?_⟩
  · obtain ⟨m, hlen, hm⟩ := yes_leaf_limit h hL hst hnf p hp
    exact ⟨m, hlen, fun t h0 h1 => ⟨(hm t h0 h1).1, hS.1 _ (hm t h0 h1).2⟩⟩
  · obtain ⟨m, hlen, hm⟩ := no_leaf_limit h hL hst hnf p hp
    exact ⟨m, hlen, fun t h0 h1 => ⟨(hm t h0 h1).1, fun hin => (hm t h0 h1).2 (hS.2 _ hin)⟩⟩

/-- the segment from `x` (excluded) to `q` has points below any `c` with `x < c ≤ q` -/
theorem seg_below {x c q : ℝ} (hxc : x < c) (hcq : c ≤ q) : ∃ t : ℝ, 0 < t ∧ t ≤ 1 ∧ x + t * (q - x) < c := by
  have hc : 0 < c - x := sub_pos.2 hxc
  have hq : 0 < q - x := hc.trans_le (sub_le_sub_right hcq x)
  refine ⟨(c - x) / 2 / (q - x), div_pos (half_pos hc) hq,
    (div_le_one hq).2 ((half_le_self hc.le).trans (sub_le_sub_right hcq x)), ?_⟩
  rw [div_mul_cancel₀ _ hq.ne']
  linarith

theorem seg_above {x c q : ℝ} (hcx : c < x) (hqc : q ≤ c) : ∃ t : ℝ, 0 < t ∧ t ≤ 1 ∧ c < x + t * (q - x) := by
  obtain ⟨t, h0, h1, h⟩ := seg_below (neg_lt_neg hcx) (neg_le_neg hqc)
  exact ⟨t, h0, h1, by linarith⟩

theorem segClosed_itv {I : Itv} {x : ℝ} {q : Rat} (h : ∀ t : ℝ, 0 < t → t ≤ 1 → (x + t * ((q : ℝ) - x)) ∈ I) : x ∈ I := by
  cases I with
  | empty => exact absurd (h 1 one_pos le_rfl) (Itv.not_mem_empty _)
  | mk a b =>
    have h1 : (q : ℝ) ∈ Itv.mk a b := by simpa using h 1 one_pos le_rfl
    refine (Itv.mem_mk _ _ _).2 ⟨?_, ?_⟩
    · cases a with
      | ninf => exact bot_le
      | pinf => exact absurd h1.1 (by simp)
      | fin aa =>
        by_contra hlt
        obtain ⟨t, h0, ht1, hsm⟩ := seg_below (EReal.coe_lt_coe_iff.1 (not_le.1 hlt)) (EReal.coe_le_coe_iff.1 h1.1)
        exact absurd (EReal.coe_le_coe_iff.1 (h t h0 ht1).1) (not_le.2 hsm)
    · cases b with
      | pinf => exact le_top
      | ninf => exact absurd h1.2 (by simp)
      | fin bb =>
        by_contra hlt
        obtain ⟨t, h0, ht1, hsm⟩ := seg_above (EReal.coe_lt_coe_iff.1 (not_le.1 hlt)) (EReal.coe_le_coe_iff.1 h1.2)
        exact absurd (EReal.coe_le_coe_iff.1 (h t h0 ht1).2) (not_le.2 hsm)

/-- closed boxes are closed along segments (the hypothesis `SegClosed` of `yes_leaf_subset` is satisfiable) -/
theorem segClosed_box (b : Box) : SegClosed {p | Box.Mem p b} := by
  intro p
  induction p generalizing b with
  | nil =>
    intro m hl h
    cases m with
    | nil => simpa [seg] using h 1 one_pos le_rfl
    | cons q m => simp at hl
  | cons x p ih =>
    intro m hl h
    cases m with
    | nil => simp at hl
    | cons q m =>
      have h1 := h 1 one_pos le_rfl
      simp only [seg, Set.mem_setOf_eq] at h1 h
      cases b with
      | nil => cases h1
      | cons I b =>
        refine Box.mem_cons.2 ⟨segClosed_itv (fun t h0 ht1 => (Box.mem_cons.1 (h t h0 ht1)).1), ?_⟩
        exact ih b m (by simpa using hl) (fun t h0 ht1 => (Box.mem_cons.1 (h t h0 ht1)).2)

/-! ## Part 2 — the refuting rules (every expression, also polynomial constraints and inverse images) -/

/-- a YES leaf refuted at the exact point `r`: the real point `r` is in the leaf (in its interior for an i-set) and is in
    NO set denoted by the expression (it is certainly outside: e.g. it violates the constraint) -/
theorem refuted_yes {iset : Bool} {e : SE} {L : Leaf} {pts : List RPt} {r : RPt}
    (h : leafRefuted iset e L pts = some r) (hst : L.st = .yes) {S : Set Pt} (hS : Between e S) :
    (if iset = true then SMem (castPt r) L.box else Box.Mem (castPt r) L.box) ∧ castPt r ∉ S := by
  obtain ⟨h1, h2⟩ := leafRefuted_sound h
  refine ⟨h1, fun hin => ?_⟩
  rcases h2 with ⟨_, hn⟩ | ⟨hno, _⟩
  · exact hn (hS.2 _ hin)
  · rw [hst] at hno; cases hno

/-- a NO leaf refuted at the exact point `r`: the real point `r` is in the leaf and is in EVERY set denoted by the
    expression (it is certainly inside: e.g. it satisfies the constraint strictly) -/
theorem refuted_no {iset : Bool} {e : SE} {L : Leaf} {pts : List RPt} {r : RPt}
    (h : leafRefuted iset e L pts = some r) (hst : L.st = .no) {S : Set Pt} (hS : Between e S) :
    (if iset = true then SMem (castPt r) L.box else Box.Mem (castPt r) L.box) ∧ castPt r ∈ S := by
  obtain ⟨h1, h2⟩ := leafRefuted_sound h
  refine ⟨h1, ?_⟩
  rcases h2 with ⟨hy, _⟩ | ⟨_, hlo⟩
  · rw [hst] at hy; cases hy
  · exact hS.1 _ hlo

/-- exact rational evaluation is the real semantics (polynomials included) -/
theorem exact_point (e : SE) (r : RPt) : (e.Lo (castPt r) ↔ e.lo r = true) ∧ (e.Hi (castPt r) ↔ e.hi r = true) :=
  ⟨lo_cast e r, hi_cast e r⟩

/-! ## Part 3 — is_superset, Sep::separate, i-sets -/

/-- `is_superset(B) = YES` accepted by the driver: every real point of `B` is possibly in the set and (B not flat) is the
    end of a segment of points of `B` certainly in the set; hence `B ⊆ S` for every closed `S` denoted by the expression -/
theorem is_superset_yes {e : SE} {n : Nat} {B : Box} (h : supOk e n B = true) :
    (∀ p, Box.Mem p B → e.Hi p) ∧
    ∀ S : Set Pt, Between e S → SegClosed S → NonFlat B → ∀ p, Box.Mem p B → p ∈ S := by
  obtain ⟨h1, h2⟩ := supOk_sound h
  refine ⟨h1, fun S hS hcl hnf p hp => ?_⟩
  obtain ⟨m, hlen, hm⟩ := h2 hnf p hp
  exact hcl p m hlen (fun t h0 ht1 => hS.1 _ (hm t h0 ht1).2)

/-- `Sep::separate` on an output accepted by `sepOk` (SepBoundaryCtc and the separator combinators over exact leaves):
    each real point removed from the inner box is in every set denoted by the expression, each real point removed from
    the outer box is in none -/
theorem separate_contract {e : SE} {x xin xout : Box} (h : sepOk e x xin xout = true) {S : Set Pt} (hS : Between e S)
    (p : Pt) (hp : Box.Mem p x) : (¬ Box.Mem p xin → p ∈ S) ∧ (¬ Box.Mem p xout → p ∉ S) := by
  obtain ⟨h1, h2⟩ := sepOk_sound h p hp
  exact ⟨fun hn => hS.1 _ (h1 hn), fun hn hin => h2 hn (hS.2 _ hin)⟩

/-- an i-set whose information passes `consistentOk` contains a set: `lo` itself -/
theorem iset_consistent {e : SE} {n : Nat} (hb : e.boxy = true) (h : consistentOk e n = true) (p : Pt)
    (hp : p.length = n) : e.Lo p → e.Hi p := consistentOk_sound hb h p hp

/-! ## Part 4 — the expression forms denote the set operations they name -/

/-- separator leaf over the pair (U,V) of C19: certainly in = outside V, possibly in = inside U -/
theorem leaf_sets (U V : List Box) (p : Pt) :
    ((SE.leaf U V).Lo p ↔ ¬ InAny p V) ∧ ((SE.leaf U V).Hi p ↔ InAny p U) := ⟨lo_leaf U V p, hi_leaf U V p⟩

theorem inter_sets (l : List SE) (p : Pt) :
    ((SE.interL l).Lo p ↔ ∀ s ∈ l, s.Lo p) ∧ ((SE.interL l).Hi p ↔ ∀ s ∈ l, s.Hi p) := ⟨(reads_lo p).interL l, (reads_hi p).interL l⟩

theorem union_sets (l : List SE) (p : Pt) :
    ((SE.unionL l).Lo p ↔ ∃ s ∈ l, s.Lo p) ∧ ((SE.unionL l).Hi p ↔ ∃ s ∈ l, s.Hi p) := ⟨(reads_lo p).unionL l, (reads_hi p).unionL l⟩

theorem complement_sets (s : SE) (p : Pt) : ((SE.not s).Lo p ↔ ¬ s.Hi p) ∧ ((SE.not s).Hi p ↔ ¬ s.Lo p) := ⟨Iff.rfl, Iff.rfl⟩

/-- `SepQInter(list, q)` is translated into `atLeast (list.length - q) list`: the points of all the sets of a sub-list
    of that length -/
theorem qinter_sets (l : List SE) (k : Nat) (p : Pt) :
    ((SE.atLeast k l).Lo p ↔ ∃ sub : List SE, sub.Sublist l ∧ sub.length = k ∧ ∀ s ∈ sub, s.Lo p) ∧
    ((SE.atLeast k l).Hi p ↔ ∃ sub : List SE, sub.Sublist l ∧ sub.length = k ∧ ∀ s ∈ sub, s.Hi p) :=
  ⟨(reads_lo p).atLeast l k, (reads_hi p).atLeast l k⟩

/-- i-set contraction: the information of both -/
theorem meet_sets (a b : SE) (p : Pt) :
    ((SE.meet a b).Lo p ↔ a.Lo p ∨ b.Lo p) ∧ ((SE.meet a b).Hi p ↔ a.Hi p ∧ b.Hi p) := ⟨Iff.rfl, Iff.rfl⟩

/-- the thick set of a consistent pair is between: for a separator leaf whose pair covers the space, the closed union `U`
    is one of the denoted sets (the set used by the separator theorems of C19, `synSets`) -/
theorem leaf_between (U V : List Box) (hcov : ∀ p : Pt, ¬ InAny p V → InAny p U) :
    Between (SE.leaf U V) {p | InAny p U} :=
  ⟨fun p h => hcov p ((lo_leaf U V p).1 h), fun p h => (hi_leaf U V p).2 h⟩

/-! ## Part 5 — non-vacuity: a concrete paving accepted, the same paving with a wrong label rejected -/

namespace Example
def I (a b : Int) : Itv := .mk (.fin a) (.fin b)
def lowerThan (a : Int) : Itv := .mk .ninf (.fin a)
def greaterThan (a : Int) : Itv := .mk (.fin a) .pinf

/-- the box [0,4]x[0,2] as a separator leaf (certainly in: its interior), intersected with the half plane x >= 1 given by
    the thick leaf U = {x >= 1}, V = {x <= 2} (certainly in: x > 2; undetermined: 1 <= x <= 2) -/
def e : SE :=
  .inter (SE.leaf [[I 0 4, I 0 2]] [[lowerThan 0, Itv.all], [greaterThan 4, Itv.all], [Itv.all, lowerThan 0], [Itv.all, greaterThan 2]])
         (SE.leaf [[greaterThan 1, Itv.all]] [[lowerThan 2, Itv.all]])

def paving : List Leaf :=
  [⟨[lowerThan 0, Itv.all], .no⟩, ⟨[I 0 1, Itv.all], .no⟩, ⟨[I 1 2, Itv.all], .maybe⟩,
   ⟨[I 2 4, lowerThan 0], .no⟩, ⟨[I 2 4, I 0 2], .yes⟩, ⟨[I 2 4, greaterThan 2], .no⟩, ⟨[greaterThan 4, Itv.all], .no⟩]

/-- accepted (set and i-set rules) -/
example : pavingOk false e 2 paving = true := by decide +kernel
example : pavingOk true e 2 paving = true := by decide +kernel

/-- the MAYBE strip labelled YES: rejected (its points with x < 2 are not certainly in) -/
example : pavingOk false e 2
    [⟨[lowerThan 0, Itv.all], .no⟩, ⟨[I 0 1, Itv.all], .no⟩, ⟨[I 1 2, I 0 2], .yes⟩, ⟨[I 1 2, lowerThan 0], .no⟩, ⟨[I 1 2, greaterThan 2], .no⟩,
     ⟨[I 2 4, lowerThan 0], .no⟩, ⟨[I 2 4, I 0 2], .yes⟩, ⟨[I 2 4, greaterThan 2], .no⟩, ⟨[greaterThan 4, Itv.all], .no⟩] = false := by
  decide +kernel

/-- a leaf removed: the leaves do not cover the plane any more -/
example : pavingOk false e 2 (paving.drop 1) = false := by decide +kernel

/-- a NO leaf touching the closed box [0,4]x[0,2] given as an EXACT closed set is rejected by (B) (this is why
    `Set::Set(box, YES)` inserts a one-float MAYBE ring), and accepted once the contact is a MAYBE leaf -/
example : pavingOk false (.cl [[I 0 4]]) 1 [⟨[lowerThan 0], .no⟩, ⟨[I 0 4], .yes⟩, ⟨[greaterThan 4], .no⟩] = false := by decide +kernel
example : pavingOk false (.cl [[I 0 4]]) 1
    [⟨[lowerThan (-1)], .no⟩, ⟨[I (-1) 0], .maybe⟩, ⟨[I 0 4], .yes⟩, ⟨[I 4 5], .maybe⟩, ⟨[greaterThan 5], .no⟩] = true := by decide +kernel

/-- the hypotheses of the theorems are satisfiable: the YES leaf is a leaf of the accepted paving and is not flat -/
example : (⟨[I 2 4, I 0 2], .yes⟩ : Leaf) ∈ paving := by simp [paving]
example : NonFlat [I 2 4, I 0 2] := by
  intro J hJ
  simp only [List.mem_cons, List.not_mem_nil, or_false] at hJ
  rcases hJ with rfl | rfl <;> decide

/-- refutation by an exact point, polynomial constraint x² + y² - 1 <= 0: the leaf [0,1]x[0,1] labelled YES is refuted
    at the corner (1,1); the leaf [0,1/2]x[0,1/2] is not refuted at its corners -/
def disc : SE := .cmp .le [⟨1, [2, 0]⟩, ⟨1, [0, 2]⟩, ⟨-1, [0, 0]⟩]
example : leafRefuted false disc ⟨[I 0 1, I 0 1], .yes⟩ [[0, 0], [1, 0], [1, 1]] = some [1, 1] := by decide +kernel
example : leafRefuted false disc ⟨[.mk (.fin 0) (.fin (1/2)), .mk (.fin 0) (.fin (1/2))], .yes⟩ [[0, 0], [1/2, 0], [1/2, 1/2]] = none := by
  decide +kernel
/-- a NO leaf containing the centre (strictly inside the disc) is refuted -/
example : leafRefuted false disc ⟨[I (-1) 1, I (-1) 1], .no⟩ [[1, 1], [0, 0]] = some [0, 0] := by decide +kernel

/-- separator contract on concrete outputs: x = [0,3]x[0,1] separated by the second leaf into x_in = [0,2]x[0,1] (the
    points with x > 2 are certainly in) and x_out = [1,3]x[0,1]; a too small inner box is rejected -/
def halfPlane : SE := SE.leaf [[greaterThan 1, Itv.all]] [[lowerThan 2, Itv.all]]
example : sepOk halfPlane [I 0 3, I 0 1] [I 0 2, I 0 1] [I 1 3, I 0 1] = true := by decide +kernel
example : sepOk halfPlane [I 0 3, I 0 1] [I 0 1, I 0 1] [I 1 3, I 0 1] = false := by decide +kernel

/-- is_superset: [2,3]x[0,1] accepted, [1,3]x[0,1] rejected -/
example : supOk e 2 [I 2 3, I 0 1] = true := by decide +kernel
example : supOk e 2 [I 1 3, I 0 1] = false := by decide +kernel
end Example

end Ibex.C19.SetProps
