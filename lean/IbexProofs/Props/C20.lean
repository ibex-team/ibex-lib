/-
  C20 — linearisations relax (or restrict) the nonlinear system on the box.

  What is checked at run time (Driver/OpsLin.lean) on the rows RECORDED from the real linearizers
  (`LinearizerXTaylor`, `LinearizerCompo`, `LinearizerFixed`, `LinearizerDuality`; hook H1):
  * `linpt` (the property itself on sampled points, decided in exact rational arithmetic): RELAX — an exactly feasible
    point of the box satisfies every recorded row and the return value is not −1; RESTRICT — a point of the (LP) box
    satisfying every recorded row exactly is feasible;
  * `lincert` / `lindualcert` (verified certificate checkers `Lin.relaxCert`, `Lin.restrictCert`, `Lin.dualCert`): every
    recorded row follows by a first-order expansion from a slope matrix (Hansen matrix / Jacobian) and a value enclosure
    that the library's own public functions return for the box; a return value −1 (RELAX) is backed by an expansion row
    that no point of the box satisfies; in RESTRICT mode every constraint is covered by a row, by a redundant model row
    or by the evaluation over the box;
  * `linfixed`: the rows of `LinearizerFixed` are the given ones.

  The theorems hold for all reals, all dimensions, any expansion point (hence every corner policy) and any slope
  enclosure: an accepted certificate line implies the property for ALL real points of the box, given the contracts of
  C02 (value enclosures) and C08 (slope enclosures; they follow from enclosures of the partial derivatives on the
  Hansen segments by the mean value theorem).
-/
import IbexProofs.LinearizeMVT
import IbexProofs.Bwd

namespace Ibex.C20
open Ibex Ibex.Lin List

/-! ### the two row theorems -/

/-- **RELAX row.**  `G` encloses slopes of `g` between the expansion point `c` and every point of the box, `v ∋ g(c)`.
    If each coefficient `a_j` is below `G_j` when `x_j − c_j` can be positive on the box and above `G_j` when it can be
    negative (`coefRelax`; at a corner only one case occurs), and `b ≥ a·c − lb v`, then every point of the box with
    `g x ≤ 0` satisfies `a·x ≤ b`. -/
theorem relax_row_valid {g : List ℝ → ℝ} {box : Box} {c a : List ℚ} {v : Itv} {G : List Itv} {b : Ext} {x : List ℝ}
    (hv : SlopeEncl g box c v G) (hco : coefsAll coefRelax box c a G = true) (hr : rhsRelax a c v b = true)
    (hx : BoxMem x box) (hg : g x ≤ 0) : ((dotR (castL a) x : ℝ) : EReal) ≤ b.toE :=
  Lin.relax_row_valid hv hco hr hx hg

/-- **RESTRICT row.**  With the coefficients on the other side of the slopes and `b ≤ a·c − ub v`, every point of the
    box with `a·x ≤ b` satisfies `g x ≤ 0`. -/
theorem restrict_row_valid {g : List ℝ → ℝ} {box : Box} {c a : List ℚ} {v : Itv} {G : List Itv} {b : Ext} {x : List ℝ}
    (hv : SlopeEncl g box c v G) (hco : coefsAll coefRestrict box c a G = true) (hr : rhsRestrict a c v b = true)
    (hx : BoxMem x box) (hrow : ((dotR (castL a) x : ℝ) : EReal) ≤ b.toE) : g x ≤ 0 :=
  Lin.restrict_row_valid hv hco hr hx hrow

/-- **The model row (`XTaylor.row`, RELAX) is valid for ANY expansion point** (any corner policy, forced flips
    included): coefficient = lower bound of the slope where the box lies above `c_j`, upper bound where it lies below,
    right-hand side `a·c − lb g(c)`. -/
theorem model_row_relax_valid {sys : NLSys} {box : Box} {E : Expansion} (hE : E.Valid sys box) {k : ℕ} {neg : Bool} {r : LeRow}
    (h : modelRowRelax box E k neg = some r) {i : ℕ} {g : List ℝ → ℝ} {op : Cmp} (hi : E.act[k]? = some i)
    (hg : sys[i]? = some (g, op)) {x : List ℝ} (hx : BoxMem x box) (hgx : sg neg (g x) ≤ 0) : r.SatR x :=
  modelRowRelax_valid hE h hi hg hx hgx

/-- **The model row (RESTRICT) is valid for ANY expansion point.** -/
theorem model_row_restrict_valid {sys : NLSys} {box : Box} {E : Expansion} (hE : E.Valid sys box) {k : ℕ} {neg : Bool}
    {r : LeRow} (h : modelRowRestrict box E k neg = some r) {i : ℕ} {g : List ℝ → ℝ} {op : Cmp}
    (hi : E.act[k]? = some i) (hg : sys[i]? = some (g, op)) {x : List ℝ} (hx : BoxMem x box) (hr : r.SatR x) :
    sg neg (g x) ≤ 0 :=
  modelRowRestrict_valid hE h hi hg hx hr

/-- **Quick test, infeasible side**: if the exact minimum of `a·x` over the box exceeds `b` for a model row, no point of
    the box satisfies the (signed) constraint. -/
theorem unsat_only_if_infeasible {sys : NLSys} {box : Box} {E : Expansion} (hE : E.Valid sys box) {k : ℕ} {neg : Bool}
    {r : LeRow} (h : modelRowRelax box E k neg = some r) (hu : rowUnsat box r = true) {i : ℕ} {g : List ℝ → ℝ} {op : Cmp}
    (hi : E.act[k]? = some i) (hg : sys[i]? = some (g, op)) {x : List ℝ} (hx : BoxMem x box) : 0 < sg neg (g x) := by
  by_contra hcon
  exact rowUnsat_sound hu hx (modelRowRelax_valid hE h hi hg hx (not_lt.1 hcon))

/-- **Quick test, redundant side** (RESTRICT): a model row that holds on the whole box (exact maximum of `a·x` at most
    `b`) may be dropped: the constraint holds on the whole box. -/
theorem dropped_row_redundant {sys : NLSys} {box : Box} {E : Expansion} (hE : E.Valid sys box) {k : ℕ} {neg : Bool}
    {r : LeRow} (h : modelRowRestrict box E k neg = some r) (hu : rowRedundant box r = true) {i : ℕ} {g : List ℝ → ℝ}
    {op : Cmp} (hi : E.act[k]? = some i) (hg : sys[i]? = some (g, op)) {x : List ℝ} (hx : BoxMem x box) :
    sg neg (g x) ≤ 0 :=
  modelRowRestrict_valid hE h hi hg hx (rowRedundant_sound hu hx)

/-! ### accepted certificate lines -/

/-- **Accepted `lincert RELAX` line.**  `Es` = the expansions computed by the library's public functions (valid by
    C02/C08), `fixed` = linear rows that belong to the system.  Then for EVERY real point of the box that is feasible
    for the nonlinear system (and the fixed rows): the return value is not −1 and every recorded row holds. -/
theorem relax_call_sound {sys : NLSys} {box : Box} {Es : List Expansion} {fixed : List LeRow} {rows : List Row} {ret : ℤ}
    (hE : ∀ E ∈ Es, E.Valid sys box) (h : relaxCert box (opsOf sys) Es fixed rows ret = true) {x : List ℝ}
    (hx : BoxMem x box) (hfeas : Feasible sys x) (hf : ∀ f ∈ fixed, f.SatR x) :
    ret ≠ -1 ∧ ∀ r ∈ rows, r.SatR x :=
  relaxCert_sound hE h hx hfeas hf

/-- **Accepted `lincert RESTRICT` line** (return value ≠ −1): EVERY real point of the box satisfying all recorded rows
    satisfies every constraint (`<`, `>` read as `≤`, `≥`) and every fixed row. -/
theorem restrict_call_sound {sys : NLSys} {box : Box} {Es : List Expansion} {fixed : List LeRow} {rows : List Row}
    {evalbox : List Itv} (hE : ∀ E ∈ Es, E.Valid sys box) (hev : EvalValid sys box evalbox)
    (h : restrictCert box (opsOf sys) Es fixed rows evalbox = true) {x : List ℝ} (hx : BoxMem x box)
    (hrows : ∀ r ∈ rows, r.SatR x) : WeakFeasible sys x ∧ ∀ f ∈ fixed, f.SatR x :=
  restrictCert_sound hE hev h hx hrows

/-- **Accepted `lindualcert` line** (return value ≠ −1): at EVERY point `(x, z_0, …, z_{m−1})` with `x` in the box and all
    auxiliary variables `≤ 0` (the bounds LoupFinderDuality gives to the LP) that satisfies all recorded rows, `x`
    satisfies every constraint. -/
theorem duality_call_sound {sys : NLSys} {n : ℕ} {box : Box} {E : Option Expansion} (hE : ∀ E' ∈ E, E'.Valid sys box)
    {rows : List DRow} {evalbox : List Itv} (hev : EvalValid sys box evalbox)
    (h : dualCert n box (opsOf sys) E rows evalbox = true) {x : List ℝ} (hx : BoxMem x box) {zs : List (List ℝ)}
    (hzs : zs.length = sys.length) (hzlen : ∀ z ∈ zs, z.length = box.length) (hzneg : ∀ z ∈ zs, ∀ t ∈ z, t ≤ 0)
    (hrows : ∀ r ∈ rows, r.SatR x zs) : WeakFeasible sys x :=
  dualCert_sound hE hev h hx hzs hzlen hzneg hrows

/-- the block reading used by `dualCert` is the recorded (flat) row -/
theorem block_row_iff_flat_row {n m : ℕ} {r : LeRow} (hr : r.a.length = n + m * n) {x : List ℝ} (hx : x.length = n)
    {zs : List (List ℝ)} (hz : zs.length = m) (hzn : ∀ z ∈ zs, z.length = n) :
    (toDRow n m r).SatR x zs ↔ r.SatR (x ++ zs.flatten) :=
  toDRow_sat hr hx hz hzn

/-! ### compositions and fixed rows -/

/-- `LinearizerCompo` in RELAX mode: if both components relax at `x` (not −1, rows hold) then so does the composition:
    its return value (`compoRet`) is not −1 and all the rows of both hold -/
theorem compo_relax {rows1 rows2 : List Row} {ret1 ret2 : ℤ} {x : List ℝ} (hr1 : -1 ≤ ret1) (hr2 : -1 ≤ ret2)
    (h1 : ret1 ≠ -1 ∧ ∀ r ∈ rows1, r.SatR x) (h2 : ret2 ≠ -1 ∧ ∀ r ∈ rows2, r.SatR x) :
    compoRet ret1 ret2 ≠ -1 ∧ ∀ r ∈ rows1 ++ rows2, r.SatR x := by
  refine ⟨?_, fun r hr => ?_⟩
  · unfold compoRet
    have e1 : (ret1 == -1) = false := by simpa using h1.1
    have e2 : (ret2 == -1) = false := by simpa using h2.1
    simp only [e1, e2, Bool.false_eq_true, if_false]
    have : 0 ≤ ret1 := by have := h1.1; omega
    have : 0 ≤ ret2 := by have := h2.1; omega
    omega
  · rcases mem_append.1 hr with hr | hr
    · exact h1.2 r hr
    · exact h2.2 r hr

/-- `LinearizerCompo` in RESTRICT mode: a point satisfying the rows of both satisfies what each one guarantees -/
theorem compo_restrict {rows1 rows2 : List Row} {P1 P2 : Prop} {x : List ℝ}
    (h1 : (∀ r ∈ rows1, r.SatR x) → P1) (h2 : (∀ r ∈ rows2, r.SatR x) → P2)
    (h : ∀ r ∈ rows1 ++ rows2, r.SatR x) : P1 ∧ P2 :=
  ⟨h1 fun r hr => h r (mem_append.2 (Or.inl hr)), h2 fun r hr => h r (mem_append.2 (Or.inr hr))⟩

/-- `LinearizerFixed`: when the recorded rows are the given ones (`linfixed` accepted: `e = r`), a point satisfies the
    recorded rows iff it satisfies the given system `A x ≤ b` -/
theorem fixed_rows {given recorded : List Row} (h : decide (given = recorded) = true) (x : List ℝ) :
    (∀ r ∈ recorded, r.SatR x) ↔ (∀ r ∈ given, r.SatR x) := by
  rw [of_decide_eq_true h]

/-! ### where slope enclosures come from: the mean value theorem (C08) -/

/-- **Slope enclosure from derivative enclosures.**  If `v ∋ g(c)` and, for every point `x` of the box, `G_k` encloses
    the partial derivative `∂g/∂x_k` on the Hansen segment (coordinates before `k` from `x`, after `k` from `c`,
    coordinate `k` between `c_k` and `x_k`) — which is what the Hansen matrix and, a fortiori, the Jacobian over the
    box provide (C08) — then `SlopeEncl g box c v G`: the hypothesis of all the theorems above. -/
theorem slopeEncl_of_derivatives {n : ℕ} (g : List ℝ → ℝ) (box : Box) (c : List ℚ) (v : Itv) (G : List Itv)
    (hc : c.length = n) (hG : G.length = n) (hbox : box.length = n) (hval : g (castL c) ∈ v)
    (hder : ∀ x : Fin n → ℝ, BoxMem (ofFn x) box → ∀ (k : Fin n), ∀ t ∈ Set.uIcc ((c.getD k 0 : ℚ) : ℝ) (x k), ∃ D : ℝ,
      HasDerivAt (fun t => g (ofFn (Function.update (C08.mix (fun i : Fin n => ((c.getD i 0 : ℚ) : ℝ)) x k) k t))) D t ∧
        D ∈ G.getD k Itv.empty) :
    SlopeEncl g box c v G :=
  SlopeEncl.of_hasDerivAt g box c v G hc hG hbox hval hder

/-! ### non-vacuity: concrete instances accepted by the checkers -/

/-- the box `[−2,2]²` -/
def exBox : Box := [.mk (.fin (-2)) (.fin 2), .mk (.fin (-2)) (.fin 2)]
/-- `g(x,y) = x² + y² − 1` expanded at the corner `(−2,−2)`: `g(c) = 7`, slopes `[−4,4]²` -/
def exE : Expansion := ⟨[-2, -2], [0], [Itv.point 7], some [[.mk (.fin (-4)) (.fin 4), .mk (.fin (-4)) (.fin 4)]]⟩

-- `g ≤ 0` on `exBox`: the recorded row `−4x − 4y ≤ 9` (the one `LinearizerXTaylor` produces, INF corner) is certified,
-- the wrong row `−4x − 4y ≤ 8` is not
example : relaxCert exBox [.leq] [exE] [] [⟨.ninf, .fin 9, [-4, -4]⟩] 1 = true := by decide +kernel
example : relaxCert exBox [.leq] [exE] [] [⟨.ninf, .fin 8, [-4, -4]⟩] 1 = false := by decide +kernel
/-- a coefficient taken on the wrong side of the slope interval is rejected -/
example : relaxCert exBox [.leq] [exE] [] [⟨.ninf, .fin 25, [4, -4]⟩] 1 = false := by decide +kernel
/-- −1 is not justified on this box (the unit disc meets it) … -/
example : relaxCert exBox [.leq] [exE] [] [] (-1) = false := by decide +kernel
/-- … but it is on `[−2,−1.5]²`: `g(c) = 7`, slopes `[−4,−3]²`, model row `−4x − 4y ≤ 9` while `−4x − 4y ≥ 12` on the box -/
example : relaxCert [.mk (.fin (-2)) (.fin (-3/2)), .mk (.fin (-2)) (.fin (-3/2))] [.leq]
    [⟨[-2, -2], [0], [Itv.point 7], some [[.mk (.fin (-4)) (.fin (-3)), .mk (.fin (-4)) (.fin (-3))]]⟩] [] [] (-1) = true := by
  decide +kernel
/-- RESTRICT on `[0,1/4]²` from the corner `(0,0)`: `g(c) = −1`, slopes `[0,1/2]²`; the row `x/2 + y/2 ≤ 1` restricts
    (here it would even be dropped: the model row is redundant on the box, second example) -/
example : restrictCert [.mk (.fin 0) (.fin (1/4)), .mk (.fin 0) (.fin (1/4))] [.leq]
    [⟨[0, 0], [0], [Itv.point (-1)], some [[.mk (.fin 0) (.fin (1/2)), .mk (.fin 0) (.fin (1/2))]]⟩] []
    [⟨.ninf, .fin 1, [1/2, 1/2]⟩] [.mk (.fin (-1)) (.fin (-7/8))] = true := by decide +kernel
example : restrictCert [.mk (.fin 0) (.fin (1/4)), .mk (.fin 0) (.fin (1/4))] [.leq]
    [⟨[0, 0], [0], [Itv.point (-1)], some [[.mk (.fin 0) (.fin (1/2)), .mk (.fin 0) (.fin (1/2))]]⟩] []
    [] [.mk (.fin (-1)) (.fin 1)] = true := by decide +kernel
/-- a row that does not restrict (coefficient below the slopes) is rejected when nothing else covers the constraint -/
example : restrictCert exBox [.leq] [exE] [] [⟨.ninf, .fin 0, [-4, -4]⟩] [.mk (.fin (-1)) (.fin 7)] = false := by decide +kernel
/-- duality: `g(x) = x² − 1 ≤ 0` on `[−2,2]`, point `0`, `g(0) = −1`, slopes `[−4,4]`: rows `x + z ≤ 0`, `−4x − 8z ≤ 1`;
    with the auxiliary coefficient 7 (< 4 − (−4)) the certificate is rejected -/
example : dualCert 1 [.mk (.fin (-2)) (.fin 2)] [.leq]
    (some ⟨[0], [0], [Itv.point (-1)], some [[.mk (.fin (-4)) (.fin 4)]]⟩)
    [⟨[1], [[1]], .fin 0⟩, ⟨[-4], [[-8]], .fin 1⟩] [.mk (.fin (-1)) (.fin 3)] = true := by decide +kernel
example : dualCert 1 [.mk (.fin (-2)) (.fin 2)] [.leq]
    (some ⟨[0], [0], [Itv.point (-1)], some [[.mk (.fin (-4)) (.fin 4)]]⟩)
    [⟨[1], [[1]], .fin 0⟩, ⟨[-4], [[-7]], .fin 1⟩] [.mk (.fin (-1)) (.fin 3)] = false := by decide +kernel

/-- the slope hypothesis is satisfiable on a concrete function: `g(x) = x² − 1` on `[−2,2]`, expansion point `−2`,
    `g(−2) = 3`, slopes `x − 2 ∈ [−4,0] ⊆ [−4,4]` -/
example : SlopeEncl (fun l => l.headD 0 ^ 2 - 1) [.mk (.fin (-2)) (.fin 2)] [-2] (Itv.point 3) [.mk (.fin (-4)) (.fin 4)] := by
  refine ⟨Itv.mem_point.2 (show ((-2 : ℚ) : ℝ) ^ 2 - 1 = ((3 : ℚ) : ℝ) by norm_num), fun x hx => ?_⟩
  obtain _ | @⟨t, _, _, _, ⟨h1, h2⟩, ⟨⟩⟩ := hx
  rw [Ext.toE_fin, EReal.coe_le_coe_iff] at h1 h2
  push_cast at h1 h2
  -- the slope between `−2` and `t` is `t − 2`
  refine ⟨[t - 2], Forall₂.cons ⟨?_, ?_⟩ Forall₂.nil, ?_⟩
  · rw [Ext.toE_fin, EReal.coe_le_coe_iff]; push_cast; linarith
  · rw [Ext.toE_fin, EReal.coe_le_coe_iff]; push_cast; linarith
  · show t ^ 2 - 1 - (((-2 : ℚ) : ℝ) ^ 2 - 1) = (t - 2) * (t - ((-2 : ℚ) : ℝ)) + 0
    push_cast; ring

end Ibex.C20
