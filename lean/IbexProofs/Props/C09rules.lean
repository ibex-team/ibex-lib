/-
  C09 — the run-time rules applied to the real Newton procedures (driver ops `newtonctc`, `newtoninfl`,
  `hansenfeas`; harness `h_newton.cpp`) and what each verdict means, for all real points.

  * contracting Newton (`newton`, `CtcNewton`, square or on a subset of variables): a contraction `i ↦ o` is
    REFUTED by an exactly known zero of `i` that is not in `o` (`lostZero_sound`); it is CERTIFIED to keep ALL
    the zeros of `i` when the uniqueness certificate holds on `i` and the (exactly known) zero is still in `o`
    (`keptAllBy_sound`), or when `i` provably contains no zero at all (`noZero_sound`: interval evaluation on a
    verified subdivision);
  * inflating Newton success: the claim is `C06.SolClaim` (certified / refuted by the rules of C06 with the
    existence and uniqueness certificates `C06.claim_of_certifiedBy`, `C06.refuted_sound`);
  * feasibility claims (`PdcHansenFeasibility` = YES with a solution box `s`): REFUTED by `noZero` on `s`
    (`noZero_sound`), CERTIFIED by a known zero in `s` or by the Krawczyk certificate on a sub-box
    (`hasZeroBy_sound`);
  * a claim `C06.SolClaim` REFUTED on one parameter value: no zero in the slice of the existence box at the
    parameters of a rational point (`mem_slice`, `refutedSlice_sound`);
  * `keptAllByX_sound`, `hasZeroByX_sound`: the same rules with the exact certificates.
-/
import IbexProofs.Props.C06

namespace Ibex.C09
open Ibex Ibex.Verdict Ibex.C06

theorem exclZero_sound {eqs : List (List Dag × Dag)} {b : Box} (h : exclZero eqs b = true)
    {p : List ℝ} (hp : Box.Mem p b) : ¬ Zero eqs p := by
  intro hz
  simp only [exclZero, List.any_eq_true] at h
  obtain ⟨q, hq, hq'⟩ := h
  obtain ⟨m, hm, hd⟩ := hz q hq
  split at hq'
  · rename_i v hv
    obtain ⟨-, -, hmem⟩ := C02.root_encl hp hm hv
    rw [hd] at hmem
    generalize v.d = vd at hmem hq'
    cases hmem with
    | cons h1 h2 =>
      cases h2
      simp only [List.any_cons, List.any_nil, Bool.or_false, Bool.not_eq_true'] at hq'
      have : Itv.containsExt _ (.fin 0) = true := Itv.containsExt_fin.2 (by simpa using h1)
      rw [this] at hq'
      cases hq'
  · cases hq'

/-- **no zero in the box**: interval evaluation on a verified subdivision, any depth -/
theorem noZero_sound {eqs : List (List Dag × Dag)} : ∀ (d : ℕ) {b : Box}, noZero eqs d b = true →
    ∀ p, Box.Mem p b → ¬ Zero eqs p
  | 0, b, h, p, hp => exclZero_sound (by simpa [noZero] using h) hp
  | d + 1, b, h, p, hp => by
    simp only [noZero, Bool.or_eq_true] at h
    rcases h with h | h
    · exact exclZero_sound h hp
    · split at h
      · rename_i l r _
        simp only [Bool.and_eq_true] at h
        rcases Cover.split2Ok_sound h.1.1 hp with hl | hr
        · exact noZero_sound d h.1.2 p hl
        · exact noZero_sound d h.2 p hr
      · cases h

/-- **a lost zero**: the rule `lostZero` exhibits a real zero of the input box that is not in the output box -/
theorem lostZero_sound {eqs : List (List Dag × Dag)} {i o : Box} {z : List ℚ}
    (h : lostZero eqs i o z = true) : ∃ p, Zero eqs p ∧ Box.Mem p i ∧ ¬ Box.Mem p o := by
  simp only [lostZero, Bool.and_eq_true, Bool.not_eq_true'] at h
  refine ⟨castL z, ratZero_sound h.1.1, ratIn_iff.1 h.1.2, fun hm => ?_⟩
  rw [ratIn_iff.2 hm] at h
  exact absurd h.2 (by simp)

theorem keptAll_of_unique {eqs : List (List Dag × Dag)} {i o : Box} {z : List ℚ}
    (huniq : ∀ {x y : List ℝ}, Box.Mem x i → Box.Mem y i → Zero eqs x → Zero eqs y → x = y)
    (hz : ratZero eqs z = true) (hzi : ratIn z i = true) (hzo : ratIn z o = true) :
    ∀ p, Box.Mem p i → Zero eqs p → Box.Mem p o := fun p hp hp0 => by
  rw [huniq hp (ratIn_iff.1 hzi) hp0 (ratZero_sound hz)]
  exact ratIn_iff.1 hzo

/-- **all the zeros kept** (square system): with the uniqueness certificate on the input box and its zero known
    exactly and still in the output box, EVERY real zero of the input box is in the output box -/
theorem keptAllBy_sound {eqs : List (List Dag × Dag)} {i o : Box} {z : List ℚ}
    (h : keptAllBy eqs i o z = true) : ∀ p, Box.Mem p i → Zero eqs p → Box.Mem p o := by
  simp only [keptAllBy, Bool.and_eq_true] at h
  exact keptAll_of_unique (unique_zero_square Rnd.dbl_sound jacobian_sound h.1.1.1) h.1.1.2 h.1.2 h.2

theorem keptAll_of_noZero {eqs : List (List Dag × Dag)} {d : ℕ} {i o : Box} (h : noZero eqs d i = true) :
    ∀ p, Box.Mem p i → Zero eqs p → Box.Mem p o :=
  fun p hp hz => absurd hz (noZero_sound d h p hp)

theorem hasZero_of_exists {eqs : List (List Dag × Dag)} {s x : Box} {vars : List ℕ} {w : List ℚ}
    (hsub : Box.subset x s = true) (hw : ratIn w x = true)
    (hex : ∀ π, ParamsIn vars π x → ∃ z, Box.Mem z x ∧ SameParams vars z π ∧ Zero eqs z) : ∃ p, Box.Mem p s ∧ Zero eqs p := by
  have hm := ratIn_iff.1 hw
  obtain ⟨z, hz, -, hz0⟩ := hex (castL w)
    ⟨hm.length_eq, fun i t I _ ht hI => (forall₂_iff_getElem?.1 hm).2 i t I ht hI⟩
  exact ⟨z, Box.subset_sound hsub hz, hz0⟩

/-- **a feasibility claim certified**: the box `s` contains a real zero of the system -/
theorem hasZeroBy_sound {eqs : List (List Dag × Dag)} {s x : Box} {vars : List ℕ} {w : List ℚ}
    (h : hasZeroBy eqs s x vars w = true) : ∃ p, Box.Mem p s ∧ Zero eqs p := by
  simp only [hasZeroBy, Bool.and_eq_true] at h
  exact hasZero_of_exists h.1.1.2 h.2 fun π hπ =>
    exists_zero_of_cert ((pointConsts_eq eqs).symm.trans h.1.1.1) h.1.2 π hπ.1 hπ.2

/-- … or by an exactly known zero -/
theorem hasZero_of_known {eqs : List (List Dag × Dag)} {s : Box} {z : List ℚ}
    (hz : ratZero eqs z = true) (hs : ratIn z s = true) : ∃ p, Box.Mem p s ∧ Zero eqs p :=
  ⟨castL z, ratIn_iff.1 hs, ratZero_sound hz⟩

/-- **a feasibility claim refuted** -/
theorem feasibility_refuted {eqs : List (List Dag × Dag)} {d : ℕ} {s : Box} (h : noZero eqs d s = true) :
    ¬ ∃ p, Box.Mem p s ∧ Zero eqs p := fun ⟨p, hp, hz⟩ => noZero_sound d h p hp hz

theorem mem_slice {e : Box} {vars : List ℕ} {w : List ℚ} {z : List ℝ} (hz : Box.Mem z e)
    (hp : SameParams vars z (castL w)) (hl : w.length = e.length) : Box.Mem z (slice e vars w) := by
  rw [Box.Mem, forall₂_iff_getElem?]
  obtain ⟨hlen, hall⟩ := forall₂_iff_getElem?.1 hz
  refine ⟨by simp [slice, hlen], fun i a b ha hb => ?_⟩
  simp only [slice, List.getElem?_map, List.getElem?_zipIdx, Option.map_eq_some_iff] at hb
  obtain ⟨q, ⟨I, hI, rfl⟩, rfl⟩ := hb
  simp only [Nat.zero_add]
  by_cases hv : vars.contains i = true
  · rw [if_pos hv]; exact hall i a I ha hI
  · rw [if_neg hv]
    have hi : i ∉ vars := fun h => hv (List.contains_iff_mem.2 h)
    have hlt : i < w.length := by
      have := (List.getElem?_eq_some_iff.1 hI).1
      omega
    have hw : w[i]? = some w[i] := List.getElem?_eq_getElem hlt
    rw [hw]
    have := hp i hi
    rw [ha, getElem?_castL, hw] at this
    simp only [Option.map_some, Option.some.injEq] at this
    rw [this]
    exact mem_point_cast _

/-- **a claim refuted on one parameter value**: the existence box contains no zero with the parameters of `w` -/
theorem refutedSlice_sound {eqs : List (List Dag × Dag)} {e u : Box} {vars : List ℕ} {w : List ℚ} {d : ℕ}
    (h : refutedSlice eqs e vars w d = true) : ¬ SolClaim eqs e u vars := by
  simp only [refutedSlice, Bool.and_eq_true] at h
  intro hc
  have hpar := ratParamsIn_sound h.1
  obtain ⟨z, hze, hzp, hz0, -, -⟩ := hc (castL w) hpar
  have hl : w.length = e.length := by simpa [castL] using hpar.1
  exact noZero_sound d h.2 z (mem_slice hze hzp hl) hz0

/-! ### non-vacuity -/

section Examples
open Ibex.C06 (sq4)

/-- `x² + 1` (nodes: x, x², 1, x²+1) has no zero on `[−2, 2]`: proved at depth 0 -/
def sqp1 : Dag :=
  #[⟨.var 0, 1, 1⟩, ⟨.un "sqr" 0, 1, 1⟩, ⟨.const [Itv.point 1], 1, 1⟩, ⟨.bin "add" 1 2, 1, 1⟩]
example : noZero [([], sqp1)] 0 [I (-2) 2] = true := by decide +kernel
/-- `x² − 4` has no zero on `[−1, 1.5]` (depth 0) nor on `[2.5, 9]`; it cannot be excluded on `[1, 3]` -/
example : noZero [([], sq4)] 0 [I (-1) (3/2)] = true := by decide +kernel
example : noZero [([], sq4)] 3 [I 1 3] = false := by decide +kernel
/-- `x·x − 4` written with a product needs a subdivision on `[−1, 3/2]`... depth 2 suffices -/
def mul4 : Dag :=
  #[⟨.var 0, 1, 1⟩, ⟨.bin "mul" 0 0, 1, 1⟩, ⟨.const [Itv.point 4], 1, 1⟩, ⟨.bin "sub" 1 2, 1, 1⟩]
example : noZero [([], mul4)] 0 [I (-3) (3/2)] = false := by decide +kernel
example : noZero [([], mul4)] 2 [I (-3/2) (3/2)] = true := by decide +kernel
/-- a contraction `[1,3] ↦ [1, 3/2]` of `x² − 4 = 0` loses the zero 2; `[1,3] ↦ [15/8, 17/8]` keeps all zeros -/
example : lostZero [([], sq4)] [I 1 3] [I 1 (3/2)] [2] = true := by decide +kernel
example : keptAllBy [([], sq4)] [I 1 3] [I (15/8) (17/8)] [2] = true := by decide +kernel
/-- the box `[1, 3]` contains a zero of `x² − 4` (Krawczyk on the sub-box `[15/8, 17/8]`) -/
example : hasZeroBy [([], sq4)] [I 1 3] [I (15/8) (17/8)] [0] [2] = true := by decide +kernel

end Examples

/-! ### the rules evaluated with exact rational interval arithmetic -/

/-- **all the zeros kept** (square system), exact uniqueness certificate on the input box: EVERY real zero of
    the input box is in the output box -/
theorem keptAllByX_sound {eqs : List (List Dag × Dag)} {i o : Box} {z : List ℚ}
    (h : keptAllByX eqs i o z = true) : ∀ p, Box.Mem p i → Zero eqs p → Box.Mem p o := by
  simp only [keptAllByX, Bool.and_eq_true] at h
  exact keptAll_of_unique (unique_zero_square Rnd.exact_sound (jacobianG_sound Rnd.exact_sound) h.1.1.1)
    h.1.1.2 h.1.2 h.2

/-- **a feasibility claim certified** with the exact Krawczyk certificate: the box `s` contains a real zero -/
theorem hasZeroByX_sound {eqs : List (List Dag × Dag)} {s x : Box} {vars : List ℕ} {w : List ℚ}
    (h : hasZeroByX eqs s x vars w = true) : ∃ p, Box.Mem p s ∧ Zero eqs p := by
  simp only [hasZeroByX, Bool.and_eq_true] at h
  exact hasZero_of_exists h.1.1.2 h.2 (exists_zero_of_certX ((pointConsts_eq eqs).symm.trans h.1.1.1) h.1.2)

section ExamplesX
open Ibex.C06 (sq4)

/-- the box `[1, 2]` contains a zero of `x² − 2`: exact Krawczyk on the sub-box of 2 ulps around
    `1.4142135623730951` (`w` = its midpoint); the rounded rule does not decide -/
example : hasZeroByX [([], sqDag)] [I 1 2] [B52 6369051672525772 6369051672525774] [0]
    [6369051672525773 / (2 ^ 52 : ℕ)] = true := by decide +kernel
example : hasZeroBy [([], sqDag)] [I 1 2] [B52 6369051672525772 6369051672525774] [0]
    [6369051672525773 / (2 ^ 52 : ℕ)] = false := by decide +kernel
example : ∃ p, Box.Mem p [I 1 2] ∧ Zero [([], sqDag)] p :=
  hasZeroByX_sound (x := [B52 6369051672525772 6369051672525774]) (vars := [0])
    (w := [6369051672525773 / (2 ^ 52 : ℕ)]) (by decide +kernel)
example : hasZeroByX [([], sq4)] [I 1 3] [I (15/8) (17/8)] [0] [2] = true := by decide +kernel
/-- a contraction `[1,3] ↦ [15/8, 17/8]` of `x² − 4 = 0` keeps all zeros; `[−3,3]` has two zeros: not certified -/
example : keptAllByX [([], sq4)] [I 1 3] [I (15/8) (17/8)] [2] = true := by decide +kernel
example : keptAllByX [([], sq4)] [I (-3) 3] [I (15/8) (17/8)] [2] = false := by decide +kernel

end ExamplesX

end Ibex.C09
