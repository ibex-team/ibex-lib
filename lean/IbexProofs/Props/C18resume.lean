/-
  C18, PART 2 — an interrupted search can be resumed without loss.

  What runs at run time (workload `c18r` of `harness/h_solver.cpp`): the real `Solver` is interrupted by its cell
  limit at EVERY possible point k (and by the time limit), its data are saved to a COV file, loaded back,
  and a fresh solver is started from them (`Solver::solve(const CovSolverData&)`), possibly interrupted and
  resumed again (chains).  Each run is observed through the logging wrappers of C05; for each resumed run the
  driver evaluates `Cover.stageOk cert prev new log`:
    * `resumeOk`: every validated box (inner, solution with its unicity box and variables, boundary) of the
      loaded paving `prev` is in the new paving `new`, identical; every unknown / pending box of `prev` is one
      of the cells pushed at the very beginning of the log of the resumed run (or is kept as a box of `new`);
    * the log of the resumed run is accepted by the cover certificate `Cover.check` (C05) w.r.t. `new`.

  `resume_sound`: if the paving the run starts from covers every solution of the initial box, so does the paving
  of the resumed run; `resume_carry`: validated boxes are carried over unchanged.  `chain_sound` / `chain_carry`:
  the same for ANY number of successive interruptions (induction over the chain; no bound on the number of
  runs, events, cells or dimensions).  The first run of a chain is an ordinary (interrupted) search: its paving
  covers the solutions of the initial box by C05 `cover_sound` (cells left in the buffer at the interruption
  must be pending boxes of the paving).

  The verdict guarantees after a resumption (inner boxes proved, unknown boxes small, status agreeing with the
  output) are the rules of C05/C06 (`innerOk_sound`, `unknownSmall_iff`, `statusOk_*`), evaluated on the final
  data of the resumed run.
-/
import IbexProofs.Props.C05

namespace Ibex.C18
open Ibex Ibex.Cover

def Covered (items : List Item) (p : List ℝ) : Prop := ∃ it ∈ items, Box.Mem p it.box

theorem inPaving_pavingOf {items : List Item} {p : List ℝ} :
    InPaving (pavingOf items) p ↔ Covered items p := by
  simp only [InPaving, pavingOf, Covered, List.mem_map]
  constructor
  · rintro ⟨b, ⟨it, hit, rfl⟩, hp⟩; exact ⟨it, hit, hp⟩
  · rintro ⟨it, hit, hp⟩; exact ⟨it.box, ⟨it, hit, rfl⟩, hp⟩

/-- run-time facts that the cover certificate relies on, for one run (they are properties C04 and C06/C09
    of the contractor calls and of the certified solutions; checked on their own):
    the logged contractions keep the solutions, the replacement certificate is sound, a solution inside a
    unicity box is inside the existence box -/
structure RunHyp (Sol : Set (List ℝ)) (cert : Box → Box × Box × List Nat → Bool) (items : List Item)
    (log : List Ev) : Prop where
  leaf : ∀ i o, Ev.ctc i o ∈ log → ∀ p ∈ Sol, Box.Mem p i → Box.Mem p o
  cert : ∀ c eu, cert c eu = true → eu ∈ (pavingOf items).unicity → ∀ p ∈ Sol, Box.Mem p c → Box.Mem p eu.1
  uni : ∀ eu ∈ (pavingOf items).unicity, ∀ p ∈ Sol, Box.Mem p eu.2.1 → Box.Mem p eu.1

theorem hyp_of_runHyp {Sol : Set (List ℝ)} {cert : Box → Box × Box × List Nat → Bool} {items : List Item}
    {log : List Ev} (h : RunHyp Sol cert items log) : Cover.Hyp Sol cert (pavingOf items) where
  cert := h.cert
  uni := h.uni
  ex := by
    intro eu heu
    simp only [pavingOf, List.mem_filterMap] at heu
    obtain ⟨it, hit, h2⟩ := heu
    split at h2
    · injection h2 with h2
      subst h2
      exact List.mem_map.2 ⟨it, hit, rfl⟩
    · cases h2

/-- **validated boxes are carried over unchanged** by a resumed run -/
theorem resume_carry {cert : Box → Box × Box × List Nat → Bool} {prev new : List Item} {log : List Ev}
    (hok : stageOk cert prev new log = true) :
    ∀ it ∈ prev, it.validated = true → it ∈ new := by
  intro it hit hv
  simp only [stageOk, Bool.and_eq_true, resumeOk, List.all_eq_true] at hok
  have := hok.1 it hit
  rw [if_pos hv] at this
  exact of_decide_eq_true this

/-- **a resumed run loses no solution**: if the paving `prev` it starts from covers every solution of the
    initial box `root`, so does its own paving `new` -/
theorem resume_sound {Sol : Set (List ℝ)} {cert : Box → Box × Box × List Nat → Bool} {prev new : List Item}
    {log : List Ev} {root : Box}
    (hok : stageOk cert prev new log = true) (H : RunHyp Sol cert new log)
    (hprev : ∀ p ∈ Sol, Box.Mem p root → Covered prev p) :
    ∀ p ∈ Sol, Box.Mem p root → Covered new p := by
  intro p hs hp
  obtain ⟨it, hit, hpit⟩ := hprev p hs hp
  have hok' := hok
  simp only [stageOk, Bool.and_eq_true, resumeOk, List.all_eq_true] at hok'
  obtain ⟨hres, hchk⟩ := hok'
  have h1 := hres it hit
  by_cases hv : it.validated = true
  · rw [if_pos hv] at h1
    exact ⟨it, of_decide_eq_true h1, hpit⟩
  · rw [if_neg hv] at h1
    rcases Bool.or_eq_true_iff.1 h1 with h1 | h1
    · have hroot : it.box ∈ leadingPushes log := of_decide_eq_true h1
      split at hchk
      · rename_i k hk
        exact inPaving_pavingOf.1
          (Cover.check_sound_roots (hyp_of_runHyp H) hk H.leaf it.box hroot p hs hpit)
      · cases hchk
    · obtain ⟨j, hj, hjb⟩ := List.mem_map.1 (of_decide_eq_true h1)
      exact ⟨j, hj, hjb ▸ hpit⟩

def lastItems : List Item → List (List Item × List Ev) → List Item
  | prev, [] => prev
  | _, (new, _) :: rest => lastItems new rest

/-- **any number of interruptions**: every solution of the initial box covered by the paving of the first
    (interrupted) run is covered by the paving of the last run of the chain -/
theorem chain_sound {Sol : Set (List ℝ)} {cert : Box → Box × Box × List Nat → Bool} {root : Box} :
    ∀ (stages : List (List Item × List Ev)) (first : List Item),
      chainOk cert first stages = true →
      (∀ st ∈ stages, RunHyp Sol cert st.1 st.2) →
      (∀ p ∈ Sol, Box.Mem p root → Covered first p) →
      ∀ p ∈ Sol, Box.Mem p root → Covered (lastItems first stages) p
  | [], _, _, _, hfirst => hfirst
  | (new, log) :: rest, first, hc, hH, hfirst => by
    simp only [chainOk, Bool.and_eq_true] at hc
    exact chain_sound rest new hc.2 (fun st hst => hH st (List.mem_cons_of_mem _ hst))
      (resume_sound hc.1 (hH (new, log) (List.mem_cons_self ..)) hfirst)

/-- **validated boxes survive any number of interruptions**, unchanged -/
theorem chain_carry {cert : Box → Box × Box × List Nat → Bool} :
    ∀ (stages : List (List Item × List Ev)) (first : List Item),
      chainOk cert first stages = true →
      ∀ it ∈ first, it.validated = true → it ∈ lastItems first stages
  | [], _, _, _, hit, _ => hit
  | (new, log) :: rest, first, hc, it, hit, hv => by
    simp only [chainOk, Bool.and_eq_true] at hc
    exact chain_carry rest new hc.2 it (resume_carry hc.1 it hit hv) hv

/-! ### non-vacuity -/

section Examples
open Ibex.C05 (iv noCert)

def item (k : String) (a b : Int) : Item := ⟨k, [iv a b], [iv a b], [], false⟩

/-- first run on `[0,4]`, interrupted after one bisection: `[2,3]` validated (inner), `[1,2]` pending -/
def prev1 : List Item := [item "I" 2 3, item "D" 1 2]
/-- the resumed run starts from `[1,2]`, which the contractor empties -/
def new1 : List Item := [item "I" 2 3]
def logR : List Ev := [.push [iv 1 2], .top [iv 1 2], .ctc [iv 1 2] [.empty], .pop [.empty]]

example : stageOk noCert prev1 new1 logR = true := by decide +kernel
/-- forgetting the pending box (the resumed run starts from nothing) is rejected -/
example : stageOk noCert prev1 new1 [] = false := by decide +kernel
/-- changing a validated box is rejected -/
example : stageOk noCert prev1 [item "I" 2 4] logR = false := by decide +kernel
/-- changing its verdict is rejected -/
example : stageOk noCert prev1 [item "B" 2 3] logR = false := by decide +kernel
/-- copying the pending box to the output as `unknown` without re-queuing it loses nothing: accepted
    (the status rule then demands a status that admits unknown boxes) -/
example : stageOk noCert prev1 [item "I" 2 3, item "U" 1 2] [] = true := by decide +kernel
/-- a chain of two resumed runs (the second one has nothing left to do) -/
example : chainOk noCert prev1 [(new1, logR), (new1, [])] = true := by decide +kernel

end Examples

end Ibex.C18
