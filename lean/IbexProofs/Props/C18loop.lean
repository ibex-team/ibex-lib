/-
  C18 — a search resumed from a saved paving, on the MODEL of the search loop (`IbexModel/SearchLoop.lean`).

  `St.resume prev` is `Solver::start(const CovSolverData&)`: the validated boxes of the previous paving (inner, solution,
  boundary) are carried over, every other box (unknown, pending) is pushed into the buffer; `run P fuel` then continues the
  search with FRESH components (policy `P`).  `resumedItems prev s` is the paving of the resumed run.

  * `resumed_stage_accepted`: for EVERY previous paving, policy and number of iterations, the stage certificate
    `Cover.stageOk` that judges the real resumed runs (carry-over rule + accepted log with several roots) accepts the resumed
    run of the model — the certificate raises no alarm on a correct `start(data)`, whatever the components are.
  What an accepted stage means is `C18.resume_sound`; the direct invariant over any chain of runs is
  `C05loop.chain_covers`.
-/
import IbexProofs.SearchLoop
import IbexProofs.Props.C18resume
import IbexProofs.Props.C05loop

namespace Ibex.C18loop
open Ibex Ibex.Cover Ibex.SearchLoop

/-- **The stage certificate accepts every resumed run of the modelled loop.** -/
theorem resumed_stage_accepted (cert : Box → Box × Box × List Nat → Bool) (P : Policy) (prev : List Item) (fuel : Nat)
    (hne : ∀ b ∈ requeued prev, Box.isEmpty b = false)
    (hsub : ∀ x, Box.subset (P.ctc x) x = true)
    (hact : ∀ o, Box.isEmpty o = false → actOk o (P.act o) = true) :
    Cover.stageOk cert prev (resumedItems prev (run P fuel (St.resume prev))) (run P fuel (St.resume prev)).log = true :=
  resume_stage prev fuel hne hsub hact

/-! ### the hypotheses are satisfiable: a paving with one validated and two pending boxes, resumed by the toy policy -/

def prev0 : List Item :=
  [⟨"I", [C05loop.iv 0 1], [C05loop.iv 0 1], [], false⟩, ⟨"D", [C05loop.iv 1 3], [C05loop.iv 1 3], [], false⟩,
   ⟨"U", [C05loop.iv 5 8], [C05loop.iv 5 8], [], false⟩]

example : Cover.stageOk (fun _ _ => false) prev0 (resumedItems prev0 (run C05loop.toy 50 (St.resume prev0)))
    (run C05loop.toy 50 (St.resume prev0)).log = true := by decide +kernel
/-- the inner box is still there, the pending box has been split into two stored boxes, the unknown box has been emptied
    by the contractor (`x ≤ 3`) -/
example : (resumedItems prev0 (run C05loop.toy 50 (St.resume prev0))).map (·.box) =
    [[C05loop.iv 0 1], [C05loop.iv 1 2], [C05loop.iv 2 3]] := by decide +kernel
/-- a resumed run that forgets the pending box is rejected by the stage certificate -/
example : Cover.stageOk (fun _ _ => false) prev0 [⟨"I", [C05loop.iv 0 1], [C05loop.iv 0 1], [], false⟩]
    [.push [C05loop.iv 5 8], .top [C05loop.iv 5 8], .ctc [C05loop.iv 5 8] [.empty], .pop [.empty]] = false := by
  decide +kernel

end Ibex.C18loop
