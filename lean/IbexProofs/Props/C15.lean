/-
  C15 — interval linear algebra encloses every real instance; certificates are sound.

  Real vectors / matrices are lists (`List ℝ`, rows); `VMem x X`, `MMem a A`: component-wise
  membership in an interval vector / matrix; `Solves a b x`: `a·x = b` row by row.
  The models and checkers are those of `IbexModel/LinAlg.lean`, run by the driver on the outputs of the
  C++ routines of `ibex_Linear.cpp` (see `Driver/OpsLinAlg.lean`).

  (a) linear systems: the model of ibex's Gauss–Seidel (row loop, `r % n` rule for rectangular systems, relational
  division, tightest outward rounding), its inflating variant and preconditioning keep every solution of every real
  instance `(a, b)` of `([A],[b])`, for any number of sweeps, any shape, any intervals (unbounded, zero-straddling
  pivots, …); an implementation result that contains the model's result inherits this.
  (b) certificates (diagonal dominance, vertex determinants, `‖I − C[A]‖∞ < 1`, square sub-matrix, exact `L D Lᵀ`) hold
  for every real instance; the witnesses shown with a FAIL verdict are genuine.
  (c) enclosures: the executable determinant is `Matrix.det`; the determinant of every instance lies between the
  vertex determinants; the inverse compared with the implementation's enclosure is the inverse.
-/
import IbexProofs.LinAlg
import IbexProofs.LinDet

namespace Ibex.C15
open Ibex Ibex.LinAlg Matrix

/-! ### (a) Gauss–Seidel -/

/-- one row projection `x_i ← x_i ∩ (b_r − Σ_{j≠i} A_rj·x_j) ⊘ A_ri` keeps every solution -/
theorem gs_row_sound {row : IVec} {br : Itv} {X : IVec} {a : RVec} {b : ℝ} {x : RVec} (i : Nat)
    (ha : VMem a row) (hb : b ∈ br) (hx : VMem x X) (heq : dotR a x = b) :
    VMem x (rowStep row br X i) := rowStep_sound i ha hb hx heq

/-- any number of sweeps over all the rows (square or rectangular system) keeps every solution -/
theorem gauss_seidel_sound {A : IMat} {B X : IVec} {a : RMat} {b x : RVec} (fuel : Nat)
    (ha : MMem a A) (hb : VMem b B) (hx : VMem x X) (hs : Solves a b x) :
    VMem x (gsIter fuel A B X).1 := gsIter_sound ha hb hs fuel hx

/-- acceptance: the implementation's box `impl` contains the model's box ⇒ for ALL real instances
    `a ∈ [A]`, `b ∈ [b]` and all `x ∈ [x]` with `a·x = b`: `x ∈ impl`. -/
theorem gs_accept {fuel : Nat} {A : IMat} {B X impl : IVec} (h : gsOk fuel A B X impl = true)
    {a : RMat} {b x : RVec} (ha : MMem a A) (hb : VMem b B) (hx : VMem x X) (hs : Solves a b x) :
    VMem x impl := (gsIter_sound ha hb hs fuel hx).of_subset h

/-- the inflating variant: solutions contained in the starting box stay in every iterate -/
theorem inflating_gs_sound {A : IMat} {B X : IVec} {a : RMat} {b x : RVec} (k : Nat)
    (ha : MMem a A) (hb : VMem b B) (hx : VMem x X) (hs : Solves a b x) :
    VMem x (inflIter k A B X) := inflIter_sound ha hb hs k hx

/-- acceptance for the inflating variant: the implementation's box contains the model's iterate after
    some number of sweeps ⇒ it contains every solution (of every real instance) of the starting box -/
theorem inflating_gs_accept {fuel : Nat} {A : IMat} {B X impl : IVec} (h : inflOk fuel A B X impl = true)
    {a : RMat} {b x : RVec} (ha : MMem a A) (hb : VMem b B) (hx : VMem x X) (hs : Solves a b x) :
    VMem x impl := inflOk_sound ha hb hs fuel hx h

/-! ### (a) preconditioning -/

/-- for ANY real matrix `C` (no regularity needed): `a·x = b ⇒ (C·a)·x = C·b` -/
theorem precond_sound (n : Nat) (C : List (List ℝ)) {a : RMat} {b x : RVec} (hn : ∀ r ∈ a, r.length = n)
    (h : Solves a b x) : Solves (mulRR n C a) (mulRV C b) x := precond_real n C hn h

/-- acceptance of the implementation's `(A', b')` against the model products `C·[A]`, `C·[b]` -/
theorem precond_accept {n : Nat} {C : QMat} {A A' : IMat} {B B' : IVec} (hn : ∀ R ∈ A, R.length = n)
    (hok : precondOk n C A B A' B' = true) {a : RMat} {b x : RVec}
    (ha : MMem a A) (hb : VMem b B) (hs : Solves a b x) :
    ∃ a' b', MMem a' A' ∧ VMem b' B' ∧ Solves a' b' x := precondOk_sound hn hok ha hb hs

/-! ### (a) point rules on planted instances -/

/-- a planted instance accepted by the driver (`A_k ∈ [A]`, `A_k x_k ∈ [b]`, `x_k ∈ [x]`) whose point
    is not in the returned box IS a violation: a real instance with a solution outside the result. -/
theorem planted_violation {A : IMat} {B X X' : IVec} {Ak : QMat} {xk : QVec}
    (hA : matIn Ak A = true) (hb : vecIn (mulVecQ Ak xk) B = true) (hx : vecIn xk X = true)
    (hout : vecIn xk X' = false) :
    ∃ (a : RMat) (b x : RVec), MMem a A ∧ VMem b B ∧ VMem x X ∧ Solves a b x ∧ ¬ VMem x X' :=
  ⟨castM Ak, castV (mulVecQ Ak xk), castV xk, matIn_iff.1 hA, vecIn_iff.1 hb, vecIn_iff.1 hx,
    solves_mulVecQ Ak xk, fun h => by rw [vecIn_iff.2 h] at hout; exact absurd hout (by simp)⟩

/-- a point rejected by the exact Oettli–Prager test solves no instance of `([A'],[b'])` -/
theorem sigma_reject_sound {A : IMat} {B : IVec} {x : QVec} (h : sigmaMem A B x = false) :
    ¬ ∃ (a : RMat) (b : RVec), MMem a A ∧ VMem b B ∧ Solves a b (castV x) := by
  rintro ⟨a, b, ha, hb, hs⟩
  rw [sigmaMem_of_solution ha hb hs] at h
  exact absurd h (by simp)

/-! ### (b) certificates -/

/-- `is_diagonal_dominant` may answer `true` only when the exact test holds; then every real matrix of
    `[A]` is strictly diagonally dominant by rows -/
theorem diag_dominant_sound {A : IMat} (h : ddOk A = true) {a : RMat} (ha : MMem a A) : SDDRows 0 a :=
  ddRows_sound ha 0 h

/-- a square interval matrix that passes the exact dominance test has only regular instances (Gershgorin) -/
theorem diag_dominant_regular {n : Nat} {A : IMat} (h : ddOk A = true) (hlen : A.length = n)
    (hrow : ∀ R ∈ A, R.length = n) {a : RMat} (ha : MMem a A) : (toMat n n a).det ≠ 0 := by
  apply sdd_det_ne_zero
  · rw [← hlen]; exact List.Forall₂.length_eq ha
  · intro r hr; exact le_of_eq (ha.row_length hrow r hr)
  · exact diag_dominant_sound h ha

/-- regularity of EVERY real instance from the exact determinants of the vertex matrices -/
theorem det_vertices_regular {n : Nat} {A : IMat} {vs : List QMat}
    (hvs : matVertices A = some vs) (hchk : detVerticesSameSign n vs = true)
    {a : RMat} (ha : MMem a A) : (toMat n n a).det ≠ 0 := LinAlg.det_vertices_regular hvs hchk ha

/-- regularity of EVERY real instance from the exact test `‖I − C·[A]‖∞ < 1` (any rational `C`) -/
theorem strong_regularity_certificate {n : Nat} {C : QMat} {A : IMat} (hok : betaOk n C A = true)
    {a : RMat} (ha : MMem a A) (hlen : a.length = n) : (toMat n n a).det ≠ 0 := betaOk_sound hok ha hlen

/-- rectangular matrices: a square sub-matrix (rows `rs`, columns `cs`) whose vertex determinants have the
    same strict sign is regular in EVERY real instance, i.e. every instance has a non-zero minor of
    order `k` (full rank when `k = min m n`) -/
theorem full_rank_by_minor_vertices {k : Nat} {A : IMat} {rs cs : List Nat} {vs : List QMat}
    (hvs : matVertices (subI rs cs A) = some vs) (hchk : detVerticesSameSign k vs = true)
    {a : RMat} (ha : MMem a A) : (toMat k k (subR rs cs a)).det ≠ 0 :=
  LinAlg.det_vertices_regular hvs hchk (ha.sub rs cs)

/-- same with the strong-regularity test on the sub-matrix -/
theorem full_rank_by_minor_beta {A : IMat} {rs cs : List Nat} {C : QMat}
    (hok : betaOk rs.length C (subI rs cs A) = true) {a : RMat} (ha : MMem a A) :
    (toMat rs.length rs.length (subR rs cs a)).det ≠ 0 :=
  betaOk_sound hok (ha.sub rs cs) (List.length_map _)

/-- a witness printed with `FAIL rank-deficient-instance`: a non-zero vector of the kernel -/
theorem kernel_certificate {m n : Nat} {A : QMat} {v : QVec} (hm : A.length = m) (h : isNullVec n A v = true) :
    toVec n v ≠ 0 ∧ (toMat m n A).mulVec (toVec n v) = 0 := isNullVec_sound m h

/-- for a square matrix the kernel witness means `det = 0` -/
theorem kernel_certificate_det {n : Nat} {A : QMat} {v : QVec} (hm : A.length = n) (h : isNullVec n A v = true) :
    (toMat n n A).det = 0 := by
  obtain ⟨h1, h2⟩ := isNullVec_sound n h
  exact Matrix.exists_mulVec_eq_zero_iff.1 ⟨_, h1, h2⟩

/-- positive definiteness of EVERY real instance (`xᵀ a x > 0` for all `x ≠ 0`) from the exact certificate
    `A_c − (μ+ε)I = L·D·Lᵀ`, `D ≥ 0`, `μ ≥` every row and column sum of the radius matrix, `ε > 0` -/
theorem posdef_certificate {n : Nat} {A : IMat} {L : QMat} {d : List ℚ} {mu eps : ℚ}
    (hok : pdCertOk n A L d mu eps = true) {a : RMat} (ha : MMem a A) (x : Fin n → ℝ) (hx : x ≠ 0) :
    0 < ∑ i, ∑ j, x i * toMat n n a i j * x j := pdCertOk_sound hok ha x hx

/-- the certificate search of the driver only answers `true` with a verified certificate -/
theorem posdef_certificate_found {n : Nat} {A : IMat} (hok : pdCertFind n A = true) {a : RMat} (ha : MMem a A)
    (x : Fin n → ℝ) (hx : x ≠ 0) : 0 < ∑ i, ∑ j, x i * toMat n n a i j * x j := pdCertFind_sound hok ha x hx

/-- a witness printed with `FAIL instance-not-positive-definite`: `vᵀ A v ≤ 0` with `v ≠ 0` -/
theorem quad_certificate {n : Nat} {A : QMat} {v : QVec} (hA : A.length = n) (hv : v.length = n)
    (hq : quadQ A v ≤ 0) : toVec n v ⬝ᵥ (toMat n n A).mulVec (toVec n v) ≤ 0 := by
  rw [← quadQ_eq hA hv]; exact hq

/-! ### (c) determinant and inverse -/

/-- the executable Laplace expansion is the determinant (all sizes) -/
theorem detQ_eq_det (n : Nat) (A : List (List ℚ)) : detQ n A = (toMat n n A).det := LinAlg.detQ_eq_det n A

/-- `det([A])` accepted by vertex enumeration encloses the determinant of EVERY real instance -/
theorem det_vertices_sound {n : Nat} {A : IMat} {vs : List QMat} {lo hi : Ext}
    (hvs : matVertices A = some vs) (hchk : detVerticesIn n vs (.mk lo hi) = true)
    {a : RMat} (ha : MMem a A) : (toMat n n a).det ∈ Itv.mk lo hi := LinAlg.det_vertices_sound hvs hchk ha

/-- the matrix `B` compared with the returned enclosure satisfies `A·B = 1` -/
theorem inverse_certificate {n : Nat} {A B : QMat} (h : isInverse n A B = true) :
    toMat n n A * toMat n n B = 1 := isInverse_sound h

/-! ### non-vacuity -/

private def I (a b : Rat) : Itv := .mk (.fin a) (.fin b)
private def P (a : Rat) : Itv := .mk (.fin a) (.fin a)

-- 2x + [−1,1]y = [3,5], y = 1 on x ∈ [0,10], y ∈ [0,2]: Gauss–Seidel gives x ∈ [1, 3], y = 1
example : (gsIter 10 [[P 2, I (-1) 1], [P 0, P 1]] [I 3 5, P 1] [I 0 10, I 0 2]).1 = [I 1 3, P 1] := by
  decide +kernel
example : gsOk 10 [[P 2, I (-1) 1], [P 0, P 1]] [I 3 5, P 1] [I 0 10, I 0 2] [I 1 3, I 1 1] = true := by
  decide +kernel
-- a result that drops x = 3 (instance 2x − y = 5) is rejected
example : gsOk 10 [[P 2, I (-1) 1], [P 0, P 1]] [I 3 5, P 1] [I 0 10, I 0 2] [I 1 (5/2), I 1 1] = false := by
  decide +kernel
-- rectangular 3×2 system: rows 0 and 2 project on x₀ (r % n)
example : (gsSweep [[P 1, P 0], [P 0, P 1], [P 2, P 0]] [I 0 4, I 1 2, I 2 6] [I (-8) 8, I (-8) 8]) = [I 1 3, I 1 2] := by
  decide +kernel
-- preconditioning by C = diag(1/2, 1)
example : precondOk 2 [[1/2, 0], [0, 1]] [[I 2 4, I 0 2], [P 0, P 1]] [I 2 4, P 1]
    [[I 1 2, I 0 1], [P 0, P 1]] [I 1 2, P 1] = true := by decide +kernel
example : precondOk 2 [[1/2, 0], [0, 1]] [[I 2 4, I 0 2], [P 0, P 1]] [I 2 4, P 1]
    [[I 1 2, I 0 (1/2)], [P 0, P 1]] [I 1 2, P 1] = false := by decide +kernel
-- Oettli–Prager: (1,1) solves [1,2]x + y = 3 (a = 2), (3,1) does not
example : sigmaMem [[I 1 2, P 1]] [P 3] [1, 1] = true := by decide +kernel
example : sigmaMem [[I 1 2, P 1]] [P 3] [3, 1] = false := by decide +kernel
example : ddOk [[I 3 4, I (-1) 1, P 1], [P 0, I (-5) (-3), I 1 2], [P 1, P 1, I 3 3]] = true := by decide +kernel
example : ddOk [[I 2 4, I (-1) 1, P 1], [P 0, I (-5) (-3), I 1 2], [P 1, P 1, I 3 3]] = false := by decide +kernel
-- determinant of [[ [1,2], 1 ], [ 1, [3,4] ]] ranges over [2, 7]
example : matVertices [[I 1 2, P 1], [P 1, I 3 4]] = some [[[1, 1], [1, 3]], [[1, 1], [1, 4]], [[2, 1], [1, 3]], [[2, 1], [1, 4]]] := by
  decide +kernel
example : detVerticesIn 2 [[[1, 1], [1, 3]], [[1, 1], [1, 4]], [[2, 1], [1, 3]], [[2, 1], [1, 4]]] (I 2 7) = true := by decide +kernel
example : detVerticesIn 2 [[[1, 1], [1, 3]], [[1, 1], [1, 4]], [[2, 1], [1, 3]], [[2, 1], [1, 4]]] (I 2 6) = false := by decide +kernel
example : detVerticesSameSign 2 [[[1, 1], [1, 3]], [[1, 1], [1, 4]], [[2, 1], [1, 3]], [[2, 1], [1, 4]]] = true := by decide +kernel
example : (detQ 3 [[2, 0, 1], [1, 3, 2], [1, 1, 2]] == 6) = true := by decide +kernel
example : inverseQ 2 [[2, 1], [1, 1]] = some [[1, -1], [-1, 2]] := by decide +kernel
example : isInverse 2 [[2, 1], [1, 1]] [[1, -1], [-1, 2]] = true := by decide +kernel
example : isNullVec 2 [[1, 2], [2, 4]] [2, -1] = true := by decide +kernel
-- [[ [3,4], [−1,1] ], [ [−1,1], [3,4] ]]: centre diag(7/2), radii rows sum to 3/2; 7/2 − (3/2 + 1) = 1 = L D Lᵀ with L = I, D = I
example : pdCertOk 2 [[I 3 4, I (-1) 1], [I (-1) 1, I 3 4]] [[1, 0], [0, 1]] [1, 1] (3/2) 1 = true := by decide +kernel
example : pdCertOk 2 [[I 1 4, I (-1) 1], [I (-1) 1, I 3 4]] [[1, 0], [0, 1]] [1, 1] (3/2) 1 = false := by decide +kernel
example : betaOk 2 [[1/2, 0], [0, 1/4]] [[I (3/2) (5/2), I (-1/2) (1/2)], [I (-1) 1, I 3 5]] = true := by decide +kernel
example : betaOk 2 [[1/2, 0], [0, 1/4]] [[I 1 3, I (-1) 1], [I (-1) 1, I 3 5]] = false := by decide +kernel
example : notPDWitness 2 [[1, 2], [2, 1]] = some [-2, 1] := by decide +kernel

end Ibex.C15
