/-
  C09 — soundness of the uniqueness certificates `Newton.uniqueCertVars` / `Newton.uniqueCert`,
  `Newton.uniqueCertVarsG r` and of the replacement certificates `Newton.replaceCert`,
  `Newton.replaceCertG r` (IbexModel/Newton.lean), for every sound rounding pair `r`.

  * `unique_of_cert_sel` : if the certificate holds, two real points `x y` of the box `h` that agree
    outside `vars` and at which the system `progs` is defined with the same values (e.g. two zeros) are
    equal.
  * `replace_sound_sel` : if the replacement certificate holds and `e` contains a zero for every
    value of the parameters in its parameter ranges, then every zero in the cell `c` lies in `e`.

  The binary64 certificate and the generic one differ by the procedure that computes the interval
  Jacobian (`Newton.jacobian`, `Newton.jacobianG r`): the theorems are proved for
  `Newton.uniqueCertOf r jac`, `Newton.replaceCertOf r jac` with any `jac` that encloses the Jacobian
  (`JacSound`), over `Alg.realWith ch` for every selection `ch` of the thick interval constants, and
  over the real semantics `Alg.real` of the DAGs (`unique_zero_of_certOf`, `replace_sound`); `unique_zero`,
  `replaceCert_sound` are the binary64 instances.
  The chain: interval forward AD encloses the gradients on the whole box (`jacobian_encl`,
  NewtonCert.lean) ⇒ mean value theorem, one coordinate at a time inside the box (`C08.hansen_slope`)
  ⇒ `f x − f y = Ã (x − y)` with `Ã ∈ [J]` (`slope_row`) ⇒ the columns `vars` of `Ã` are regular
  (`regular_of_certG`) ⇒ `x = y` (`eq_zero_of_regular_cols`).
-/
import IbexProofs.NewtonExist
import IbexProofs.Props.C08

namespace Ibex.C09
open Ibex List Filter Topology

variable {r : Rnd} {jac : List (List Dag × Dag) → Box → Option (List (List Itv))}

/-! ### boxes are convex, coordinate by coordinate -/

theorem Itv.mem_of_uIcc {I : Itv} {a b t : ℝ} (ha : a ∈ I) (hb : b ∈ I) (ht : t ∈ Set.uIcc a b) : t ∈ I := by
  rcases le_total a b with h | h
  · rw [Set.uIcc_of_le h] at ht
    exact Itv.ordConnected ha hb ht.1 ht.2
  · rw [Set.uIcc_of_ge h] at ht
    exact Itv.ordConnected hb ha ht.1 ht.2

theorem box_mem_ofFn {n : ℕ} {h : Box} (hn : h.length = n) (p : Fin n → ℝ) :
    Box.Mem (List.ofFn p) h ↔ ∀ k : Fin n, p k ∈ h.getD k .empty := by
  unfold Box.Mem
  rw [List.forall₂_iff_get]
  constructor
  · rintro ⟨_, hh⟩ k
    have hk : (k : ℕ) < h.length := hn ▸ k.2
    have := hh k (by simp) hk
    rw [List.getD_eq_getElem?_getD, List.getElem?_eq_getElem hk]
    simpa using this
  · intro hh
    refine ⟨by simp [hn], fun i h1 h2 => ?_⟩
    have hi : i < n := by simpa using h1
    have := hh ⟨i, hi⟩
    rw [List.getD_eq_getElem?_getD, List.getElem?_eq_getElem h2] at this
    simpa using this

theorem ofFn_getElem {n : ℕ} {x : List ℝ} (hx : x.length = n) :
    List.ofFn (fun k : Fin n => x[(k : ℕ)]'(hx ▸ k.2)) = x := by
  apply List.ext_getElem
  · simp [hx]
  · intro i h1 h2
    simp

/-! ### the mean value theorem on a box, row form -/

theorem slope_row {h : Box} {f : (Fin h.length → ℝ) → ℝ} {row : List Itv}
    (hf : ∀ p : Fin h.length → ℝ, Box.Mem (List.ofFn p) h →
      ∃ g : List ℝ, g.length = h.length ∧ Forall₂ RMem g row ∧ HasFDerivAt f (gradR h.length g) p)
    {x y : Fin h.length → ℝ} (hx : Box.Mem (List.ofFn x) h) (hy : Box.Mem (List.ofFn y) h) :
    ∃ s : Fin h.length → ℝ, (∀ k : Fin h.length, s k ∈ row.getD k .empty) ∧
      f x - f y = ∑ k, s k * (x k - y k) := by
  rw [box_mem_ofFn rfl] at hx hy
  refine C08.hansen_slope_ex (H := fun k : Fin h.length => row.getD k .empty) fun k t ht => ?_
  have hP : Box.Mem (List.ofFn (Function.update (C08.mix y x k) k t)) h := by
    rw [box_mem_ofFn rfl]
    intro i
    by_cases hik : i = k
    · subst hik
      rw [Function.update_self]
      exact Itv.mem_of_uIcc (hy i) (hx i) ht
    · rw [Function.update_of_ne hik]
      unfold C08.mix
      split
      · exact hx i
      · exact hy i
  obtain ⟨g, hgl, hgm, hfd⟩ := hf _ hP
  refine ⟨g.getD k 0, ?_, ?_⟩
  · have h1 := hasDerivAt_update (C08.mix y x k) k t
    have := hfd.comp_hasDerivAt t h1
    rw [gradR_single] at this
    exact this
  · have hk : (k : ℕ) < g.length := by rw [hgl]; exact k.2
    obtain ⟨hk', hmem⟩ := forall₂_getElem hgm hk
    simp only [List.getD_eq_getElem?_getD, List.getElem?_eq_getElem hk, List.getElem?_eq_getElem hk',
      Option.getD_some]
    exact hmem

/-! ### parameters

  The coordinates of a box outside the variables `vars` of a system are its parameters.  The two
  predicates are named after the claim `C06.SolClaim` of the solver, in whose statement they occur. -/

def _root_.Ibex.C06.ParamsIn (vars : List ℕ) (π : List ℝ) (e : Box) : Prop :=
  π.length = e.length ∧ ∀ i t I, i ∉ vars → π[i]? = some t → e[i]? = some I → t ∈ I

def _root_.Ibex.C06.SameParams (vars : List ℕ) (z π : List ℝ) : Prop := ∀ i, i ∉ vars → z[i]? = π[i]?

open Ibex.C06 (ParamsIn SameParams)

/-! ### the certificate -/

/-- `Newton.uniqueCertVars` (`r = Rnd.dbl`) and `Newton.uniqueCertVarsG r` as a function of the procedure
    `jac` that computes the interval Jacobian -/
def _root_.Ibex.Newton.uniqueCertOf (r : Rnd) (jac : List (List Dag × Dag) → Box → Option (List (List Itv)))
    (progs : List (List Dag × Dag)) (h : Box) (vars : List Nat) : Bool :=
  progs.length == vars.length && !Box.isEmpty h && vars.all (· < h.length) &&
  Newton.withInverse jac progs h vars fun j _ c => Newton.diagDominant (Newton.precondG r c j)

/-! The model's two certificates are `uniqueCertOf` at their own procedure: `uniqueCertVarsG r` uses
    `jacobianG r`; `uniqueCertVars` is written with `precond` (`= precondG Rnd.dbl` by unfolding) and uses
    `jacobian`.  Nothing else differs. -/

theorem uniqueCertVarsG_eq (progs : List (List Dag × Dag)) (h : Box) (vars : List ℕ) :
    Newton.uniqueCertVarsG r progs h vars = Newton.uniqueCertOf r (Newton.jacobianG r) progs h vars := by rfl

theorem uniqueCertVars_eq (progs : List (List Dag × Dag)) (h : Box) (vars : List ℕ) :
    Newton.uniqueCertVars progs h vars = Newton.uniqueCertOf Rnd.dbl Newton.jacobian progs h vars := by rfl

theorem cert_unpack {progs : List (List Dag × Dag)} {h : Box} {vars : List ℕ}
    (hcert : Newton.uniqueCertOf r jac progs h vars = true) :
    progs.length = vars.length ∧ (∀ v ∈ vars, v < h.length) ∧
    ∃ (jfull : List (List Itv)) (c : List (List ℚ)), jac progs h = some jfull ∧
      c.length = jfull.length ∧
      Newton.diagDominant (Newton.precondG r c
        (jfull.map fun row => vars.map fun v => row.getD v .empty)) = true := by
  unfold Newton.uniqueCertOf at hcert
  simp only [Bool.and_eq_true, beq_iff_eq, List.all_eq_true, decide_eq_true_eq] at hcert
  obtain ⟨⟨⟨hlen, _⟩, hvars⟩, hmatch⟩ := hcert
  refine ⟨hlen, hvars, ?_⟩
  obtain ⟨jfull, _, c, hJ, hc, hdd⟩ := withInverse_unpack hmatch
  exact ⟨jfull, c, hJ, hc, hdd⟩

/-! ### uniqueness -/

theorem valW_eq (ch : Itv → Option ℝ) (q : List Dag × Dag) {n : ℕ} (x : Fin n → ℝ) :
    valW ch q x = (((rootW ch q (List.ofFn x)).map (·.d)).bind (·[0]?)).getD 0 := by
  unfold valW
  cases rootW ch q (List.ofFn x) <;> rfl

theorem sum_comp_inj {m n : ℕ} (e : Fin m → Fin n) (hinj : Function.Injective e) (w : Fin n → ℝ)
    (hw : ∀ j, (∀ c, e c ≠ j) → w j = 0) : ∑ c, w (e c) = ∑ j, w j :=
  Finset.sum_of_injOn e (fun _ _ _ _ hab => hinj hab) (fun _ _ => Finset.mem_coe.2 (Finset.mem_univ _))
    (fun k _ hk => hw k fun c hc => hk ⟨c, Finset.mem_coe.2 (Finset.mem_univ _), hc⟩) (fun _ _ => rfl)

/-- `S d = 0`, where `d` vanishes outside the columns `e` of `S` and these columns form a regular matrix:
    `d = 0`.  The columns are pairwise distinct, since two equal columns `c₁ ≠ c₂` would put
    `e_c₁ − e_c₂` in the kernel: the uniqueness certificate needs no test that the variables are distinct
    (the existence certificate has one, `nodupB`). -/
theorem eq_zero_of_regular_cols {m n : ℕ} (e : Fin m → Fin n) (s : Fin m → Fin n → ℝ)
    (hreg : ∀ v : Fin m → ℝ, (∀ i, ∑ c, s i (e c) * v c = 0) → v = 0)
    (d : Fin n → ℝ) (hd : ∀ k, (∀ c, e c ≠ k) → d k = 0) (hsum : ∀ i, ∑ k, s i k * d k = 0) : d = 0 := by
  have hinj : Function.Injective e := by
    intro c1 c2 h12
    by_contra hne
    have := hreg (Pi.single c1 1 - Pi.single c2 1) fun i => by
      simp only [Pi.sub_apply, mul_sub, Finset.sum_sub_distrib, Pi.single_apply, mul_ite, mul_one,
        mul_zero, Finset.sum_ite_eq', Finset.mem_univ, if_true, h12, sub_self]
    have h1 := congrFun this c1
    simp [Ne.symm hne] at h1
  have hzero := hreg (fun c => d (e c)) fun i => by
    rw [← hsum i]
    exact sum_comp_inj e hinj (fun k => s i k * d k) fun k hk => by rw [hd k hk, mul_zero]
  funext k
  by_cases hk : ∃ c, e c = k
  · obtain ⟨c, rfl⟩ := hk
    exact congrFun hzero c
  · exact hd k fun c hc => hk ⟨c, hc⟩

/-- **Soundness of the uniqueness certificate** (thick constants selected by `ch`).
    If `uniqueCertOf r jac progs h vars = true`, then two points `x y` of the box `h` that have the same
    coordinates outside `vars` (same parameters) and the same image under the system `progs` are
    equal.  (The system is defined on the whole box, see `jacobian_encl`.) -/
theorem unique_of_cert_sel (hr : r.Sound) (hj : JacSound jac) {ch : Itv → Option ℝ} (hch : Sel ch)
    {progs : List (List Dag × Dag)} {h : Box} {vars : List ℕ}
    (hcert : Newton.uniqueCertOf r jac progs h vars = true) {x y : List ℝ}
    (hx : Box.Mem x h) (hy : Box.Mem y h) (hpar : SameParams vars x y)
    (hf : ∀ q ∈ progs, (rootW ch q x).map (·.d) = (rootW ch q y).map (·.d)) : x = y := by
  obtain ⟨hlen, hvars, jfull, c, hJ, hc, hdd⟩ := cert_unpack hcert
  have hencl := hj hch hJ
  have hJl : jfull.length = progs.length := hencl.length_eq.symm
  have hxl : x.length = h.length := hx.length_eq
  have hyl : y.length = h.length := hy.length_eq
  let x' : Fin h.length → ℝ := fun k => x[(k : ℕ)]'(by rw [hxl]; exact k.2)
  let y' : Fin h.length → ℝ := fun k => y[(k : ℕ)]'(by rw [hyl]; exact k.2)
  have hx' : List.ofFn x' = x := ofFn_getElem hxl
  have hy' : List.ofFn y' = y := ofFn_getElem hyl
  let e : Fin vars.length → Fin h.length := fun c => ⟨vars[(c : ℕ)], hvars _ (List.getElem_mem c.2)⟩
  -- the slope matrix `S`, one row per function: `S (x − y) = f x − f y = 0`
  have hrows : ∀ i : Fin vars.length, ∃ s : Fin h.length → ℝ,
      (∀ k : Fin h.length, s k ∈ ((jfull.getD i []).getD k .empty)) ∧ ∑ k, s k * (x' k - y' k) = 0 := by
    intro i
    have hi : (i : ℕ) < progs.length := by rw [hlen]; exact i.2
    obtain ⟨hi', hrow, hq⟩ := forall₂_getElem hencl hi
    have hval : valW ch progs[(i : ℕ)] x' = valW ch progs[(i : ℕ)] y' := by
      rw [valW_eq, valW_eq, hx', hy', hf _ (List.getElem_mem hi)]
    obtain ⟨s, hs, hsum⟩ := slope_row (f := valW ch progs[(i : ℕ)]) (row := jfull[(i : ℕ)])
      (fun p hp => (hq p hp).2) (x := x') (y := y') (hx' ▸ hx) (hy' ▸ hy)
    refine ⟨s, fun k => ?_, ?_⟩
    · rw [List.getD_eq_getElem?_getD (l := jfull), List.getElem?_eq_getElem hi']
      exact hs k
    · rw [← hsum, hval, sub_self]
  choose s hs hsum using hrows
  -- its columns `vars` are in the columns `vars` of the interval Jacobian, all of whose members are regular
  have hjl : (jfull.map fun row => vars.map fun v => row.getD v Itv.empty).length = vars.length := by
    rw [List.length_map, hJl, hlen]
  have hreg := regular_of_certG hr hjl (by rw [hc, hJl, hlen]) hdd (fun i c => s i (e c)) fun i k => by
    have hi : (i : ℕ) < jfull.length := by rw [hJl, hlen]; exact i.2
    have := hs i (e k)
    simp only [List.getD_eq_getElem?_getD, List.getElem?_map, List.getElem?_eq_getElem hi,
      List.getElem?_eq_getElem k.2, Option.map_some, Option.getD_some] at this ⊢
    exact this
  have hd0 := eq_zero_of_regular_cols e s hreg (fun k => x' k - y' k) (fun k hk => by
    have hkv : (k : ℕ) ∉ vars := fun hmem => by
      obtain ⟨c, hc, hck⟩ := List.getElem_of_mem hmem
      exact hk ⟨c, hc⟩ (Fin.ext hck)
    have := hpar k hkv
    rw [List.getElem?_eq_getElem (by rw [hxl]; exact k.2), List.getElem?_eq_getElem (by rw [hyl]; exact k.2),
      Option.some.injEq] at this
    exact sub_eq_zero.2 this) hsum
  apply List.ext_getElem (by rw [hxl, hyl])
  intro k h1 h2
  exact sub_eq_zero.1 (congrFun hd0 ⟨k, by rw [← hxl]; exact h1⟩)

/-! ### the point semantics `Alg.real` is the restriction of a selection semantics -/

open Classical in
/-- a selection that extends `realOfItv`: degenerate constants denote their point, the other
    constants any of their members -/
noncomputable def chReal : Itv → Option ℝ := fun I =>
  match realOfItv I with
  | some x => some x
  | none => if h : ∃ x : ℝ, x ∈ I then some (Classical.choose h) else none

theorem realOfItv_mem {I : Itv} {a : ℝ} (h : realOfItv I = some a) : a ∈ I := by
  unfold realOfItv at h
  split at h
  · split at h
    · rename_i e
      subst e
      simp only [Option.some.injEq] at h
      subst h
      exact Itv.mem_point.2 rfl
    · exact absurd h (by simp)
  · exact absurd h (by simp)

theorem chReal_sel : Sel chReal := by
  intro I hI
  unfold chReal
  split
  · rename_i x hx
    exact ⟨x, rfl, realOfItv_mem hx⟩
  · rw [dif_pos hI]
    exact ⟨_, rfl, Classical.choose_spec hI⟩

theorem rootW_mono {ch ch' : Itv → Option ℝ} (hsub : ∀ I a, ch I = some a → ch' I = some a)
    {q : List Dag × Dag} {x : List ℝ} {m : Mat ℝ} (h : rootW ch q x = some m) : rootW ch' q x = some m :=
  Eval.root_of_ofItv (A := Alg.realWith ch) hsub h

/-- the real value (point semantics) at the flattened point `x` of the DAG `q.2`, with applied
    functions `q.1` -/
noncomputable def rootR (q : List Dag × Dag) (x : List ℝ) : Option (Mat ℝ) :=
  Eval.root Alg.real x (Eval.buildCalls Alg.real q.1) q.2

theorem rootW_of_rootR {q : List Dag × Dag} {x : List ℝ} {m : Mat ℝ} (h : rootR q x = some m) :
    rootW chReal q x = some m :=
  rootW_mono (ch := realOfItv) (fun I a hI => by unfold chReal; rw [hI]) h

/-- **Soundness of the uniqueness certificate, real semantics.**  If
    `uniqueCertOf r jac progs h vars = true`, two real points `x y` of the box `h` with the same
    parameters (coordinates outside `vars`) at which every function of the system is defined and takes
    the same value are equal: restricted to the variables `vars`, the system is injective on `h`. -/
theorem unique_of_cert (hr : r.Sound) (hj : JacSound jac) {progs : List (List Dag × Dag)} {h : Box} {vars : List ℕ}
    (hcert : Newton.uniqueCertOf r jac progs h vars = true) {x y : List ℝ}
    (hx : Box.Mem x h) (hy : Box.Mem y h) (hpar : SameParams vars x y)
    (hf : ∀ q ∈ progs, ∃ mx my, rootR q x = some mx ∧ rootR q y = some my ∧ mx.d = my.d) : x = y := by
  refine unique_of_cert_sel hr hj chReal_sel hcert hx hy hpar fun q hq => ?_
  obtain ⟨mx, my, h1, h2, h3⟩ := hf q hq
  rw [rootW_of_rootR h1, rootW_of_rootR h2]
  simp [h3]

/-- `z` is a zero of the system (real semantics) -/
def Zero (progs : List (List Dag × Dag)) (z : List ℝ) : Prop :=
  ∀ q ∈ progs, ∃ m, rootR q z = some m ∧ m.d = [0]

/-- `z` is a zero of the system (thick constants selected by `ch`) -/
def ZeroW (ch : Itv → Option ℝ) (progs : List (List Dag × Dag)) (z : List ℝ) : Prop :=
  ∀ q ∈ progs, ∃ m, rootW ch q z = some m ∧ m.d = [0]

theorem Zero.toW {progs : List (List Dag × Dag)} {z : List ℝ} (h : Zero progs z) : ZeroW chReal progs z :=
  fun q hq => by
    obtain ⟨m, hm, hd⟩ := h q hq
    exact ⟨m, rootW_of_rootR hm, hd⟩

/-- **At most one zero** in the box for each value of the parameters, for every sound rounding pair and
    every procedure that encloses the Jacobian. -/
theorem unique_zero_of_certOf (hr : r.Sound) (hj : JacSound jac) {progs : List (List Dag × Dag)} {h : Box}
    {vars : List ℕ} (hcert : Newton.uniqueCertOf r jac progs h vars = true) {x y : List ℝ}
    (hx : Box.Mem x h) (hy : Box.Mem y h) (hpar : SameParams vars x y)
    (hzx : Zero progs x) (hzy : Zero progs y) : x = y :=
  unique_of_cert hr hj hcert hx hy hpar fun q hq => by
    obtain ⟨mx, h1, h2⟩ := hzx q hq
    obtain ⟨my, h3, h4⟩ := hzy q hq
    exact ⟨mx, my, h1, h3, h2.trans h4.symm⟩

/-- **At most one zero** in the box for each value of the parameters. -/
theorem unique_zero {progs : List (List Dag × Dag)} {h : Box} {vars : List ℕ}
    (hcert : Newton.uniqueCertVars progs h vars = true) {x y : List ℝ}
    (hx : Box.Mem x h) (hy : Box.Mem y h) (hpar : ∀ k, k ∉ vars → x[k]? = y[k]?)
    (hzx : Zero progs x) (hzy : Zero progs y) : x = y :=
  unique_zero_of_certOf Rnd.dbl_sound jacobian_sound hcert hx hy hpar hzx hzy

theorem unique_zero_square (hr : r.Sound) (hj : JacSound jac) {progs : List (List Dag × Dag)} {h : Box}
    (hcert : Newton.uniqueCertOf r jac progs h (List.range h.length) = true) {x y : List ℝ}
    (hx : Box.Mem x h) (hy : Box.Mem y h) (hzx : Zero progs x) (hzy : Zero progs y) : x = y := by
  refine unique_zero_of_certOf hr hj hcert hx hy (fun k hk => ?_) hzx hzy
  have hk' : ¬ k < h.length := by simpa using hk
  rw [List.getElem?_eq_none (by rw [hx.length_eq]; omega), List.getElem?_eq_none (by rw [hy.length_eq]; omega)]

/-! ### replacement of a cell by an existence box -/

/-- `Newton.replaceCert` (`r = Rnd.dbl`) and `Newton.replaceCertG r` as a function of the procedure `jac` -/
def _root_.Ibex.Newton.replaceCertOf (r : Rnd) (jac : List (List Dag × Dag) → Box → Option (List (List Itv)))
    (progs : List (List Dag × Dag)) (c e : Box) (vars : List Nat) : Bool :=
  c.length == e.length &&
  ((List.range c.length).all fun i => vars.contains i ||
      (match c[i]?, e[i]? with | some ci, some ei => Itv.subset ci ei | _, _ => false)) &&
  Newton.uniqueCertOf r jac progs (Box.hull c e) vars

/-! `replaceCertG r` and `replaceCert` differ by their uniqueness certificate only. -/

theorem replaceCertG_eq (progs : List (List Dag × Dag)) (c e : Box) (vars : List ℕ) :
    Newton.replaceCertG r progs c e vars = Newton.replaceCertOf r (Newton.jacobianG r) progs c e vars := by rfl

theorem replaceCert_eq (progs : List (List Dag × Dag)) (c e : Box) (vars : List ℕ) :
    Newton.replaceCert progs c e vars = Newton.replaceCertOf Rnd.dbl Newton.jacobian progs c e vars := by rfl

theorem paramsIn_of_subset {c e : Box} {vars : List ℕ} {p : List ℝ} (hp : Box.Mem p c)
    (hlen : c.length = e.length)
    (hsub : ∀ i < c.length, i ∈ vars ∨
      (match c[i]?, e[i]? with | some ci, some ei => Itv.subset ci ei | _, _ => false) = true) :
    ParamsIn vars p e := by
  refine ⟨hp.length_eq.trans hlen, fun i t I hi hpt heI => ?_⟩
  have hic : i < c.length := by
    rw [← hp.length_eq]
    exact (List.getElem?_eq_some_iff.1 hpt).1
  rcases hsub i hic with hv | hs
  · exact absurd hv hi
  · split at hs
    · rename_i ci ei hci hei
      rw [heI] at hei
      cases hei
      exact Itv.mem_of_subset hs ((Box.mem_iff.1 hp).2 i t ci hpt hci)
    · cases hs

theorem box_hull_eq {c e : Box} {p z : List ℝ} (hp : Box.Mem p c) (hz : Box.Mem z e) :
    Box.hull c e = List.zipWith Itv.hull c e := by
  unfold Box.hull
  rw [if_neg (by simp [Box.isEmpty_eq_false_of_mem hp]), if_neg (by simp [Box.isEmpty_eq_false_of_mem hz])]

theorem ZeroW.same_values {ch : Itv → Option ℝ} {progs : List (List Dag × Dag)} {x y : List ℝ}
    (hx : ZeroW ch progs x) (hy : ZeroW ch progs y) :
    ∀ q ∈ progs, (rootW ch q x).map (·.d) = (rootW ch q y).map (·.d) := fun q hq => by
  obtain ⟨m1, h1, h2⟩ := hx q hq
  obtain ⟨m2, h3, h4⟩ := hy q hq
  rw [h1, h3, Option.map_some, Option.map_some, h2, h4]

/-- **Soundness of the replacement certificate** (thick constants selected by `ch`): the zero of `e` that
    has the parameters of a zero `p` of the cell is `p`, by uniqueness on the hull of `c` and `e`. -/
theorem replace_sound_sel (hr : r.Sound) (hj : JacSound jac) {ch : Itv → Option ℝ} (hch : Sel ch)
    {progs : List (List Dag × Dag)}
    {c e : Box} {vars : List ℕ} (hcert : Newton.replaceCertOf r jac progs c e vars = true)
    (hE : ∀ π, ParamsIn vars π e → ∃ z, Box.Mem z e ∧ SameParams vars z π ∧ ZeroW ch progs z)
    {p : List ℝ} (hp : Box.Mem p c) (hz : ZeroW ch progs p) : Box.Mem p e := by
  unfold Newton.replaceCertOf at hcert
  simp only [Bool.and_eq_true, beq_iff_eq, List.all_eq_true, List.mem_range, Bool.or_eq_true,
    List.contains_iff_mem] at hcert
  obtain ⟨⟨hlen, hsub⟩, huniq⟩ := hcert
  obtain ⟨z, hze, hzpar, hzz⟩ := hE p (paramsIn_of_subset hp hlen hsub)
  rw [box_hull_eq hp hze] at huniq
  have : p = z := unique_of_cert_sel hr hj hch huniq (Box.mem_zipWith_left (fun _ _ _ => Itv.mem_hull_left) hp hlen)
    (Box.mem_zipWith_right (fun _ _ _ => Itv.mem_hull_right) hze hlen) (fun k hk => (hzpar k hk).symm) (hz.same_values hzz)
  rw [this]
  exact hze

/-- **Soundness of the replacement certificate, real semantics** (existence in `e` assumed; `replace_sound'`
    in Props/C09exist.lean discharges it by the existence certificate), for every sound rounding pair and
    every procedure that encloses the Jacobian. -/
theorem replace_sound (hr : r.Sound) (hj : JacSound jac) {progs : List (List Dag × Dag)} {c e : Box}
    {vars : List ℕ} (hcert : Newton.replaceCertOf r jac progs c e vars = true)
    (hE : ∀ π, ParamsIn vars π e → ∃ z, Box.Mem z e ∧ SameParams vars z π ∧ Zero progs z)
    {p : List ℝ} (hp : Box.Mem p c) (hz : Zero progs p) : Box.Mem p e :=
  replace_sound_sel hr hj chReal_sel hcert (fun π hπ => by
    obtain ⟨z, hz1, hz2, hz3⟩ := hE π hπ
    exact ⟨z, hz1, hz2, hz3.toW⟩) hp hz.toW

/-- **Soundness of the replacement certificate, real semantics.**  `c` is a search cell, `e` a box
    such that for every value `π` of the parameters (the coordinates outside `vars`) in the parameter
    ranges of `e`, the system has a zero in `e` with these parameters (existence, ASSUMED: it is what a
    Newton existence test establishes).  If `replaceCert progs c e vars = true` then every zero of
    the system in the cell `c` belongs to `e`: dropping `c` in favour of `e` loses no solution. -/
theorem replaceCert_sound {progs : List (List Dag × Dag)} {c e : Box} {vars : List ℕ}
    (hcert : Newton.replaceCert progs c e vars = true)
    (hE : ∀ π : List ℝ, π.length = e.length →
      (∀ i t I, i ∉ vars → π[i]? = some t → e[i]? = some I → t ∈ I) →
      ∃ z, Box.Mem z e ∧ (∀ i, i ∉ vars → z[i]? = π[i]?) ∧ Zero progs z)
    {p : List ℝ} (hp : Box.Mem p c) (hz : Zero progs p) : Box.Mem p e :=
  replace_sound Rnd.dbl_sound jacobian_sound hcert (fun π hπ => hE π hπ.1 hπ.2) hp hz

/-! ### non-vacuity -/

def I (a b : ℚ) : Itv := Itv.mk (.fin a) (.fin b)

/-- `x² − 2`; nodes: 0 = x, 1 = x², 2 = 2, 3 = x² − 2 -/
def sqDag : Dag :=
  #[⟨.var 0, 1, 1⟩, ⟨.un "sqr" 0, 1, 1⟩, ⟨.const [Itv.point 2], 1, 1⟩, ⟨.bin "sub" 1 2, 1, 1⟩]

/-- accepted on `[1,2]` (interval derivative `[2,4]`), rejected on `[−2,2]` (two zeros) -/
example : Newton.jacobian [([], sqDag)] [I 1 2] = some [[I 2 4]] := by decide +kernel
example : Newton.uniqueCert [([], sqDag)] [I 1 2] = true := by decide +kernel
example : Newton.uniqueCert [([], sqDag)] [I (-2) 2] = false := by decide +kernel

/-- the circle `x² + y² − 1` and the diagonal `x − y` -/
def circ : Dag :=
  #[⟨.var 0, 1, 1⟩, ⟨.var 1, 1, 1⟩, ⟨.un "sqr" 0, 1, 1⟩, ⟨.un "sqr" 1, 1, 1⟩, ⟨.bin "add" 2 3, 1, 1⟩,
    ⟨.const [Itv.point 1], 1, 1⟩, ⟨.bin "sub" 4 5, 1, 1⟩]
def diag : Dag := #[⟨.var 0, 1, 1⟩, ⟨.var 1, 1, 1⟩, ⟨.bin "sub" 0 1, 1, 1⟩]

/-- 2×2: accepted on the quadrant box `[1/2,1]²` (one intersection), rejected on `[−1,1]²` (two) -/
example : Newton.uniqueCert [([], circ), ([], diag)] [I (1/2) 1, I (1/2) 1] = true := by decide +kernel
example : Newton.uniqueCert [([], circ), ([], diag)] [I (-1) 1, I (-1) 1] = false := by decide +kernel
/-- one equation, variable `x`, parameter `y`: accepted; a repeated variable is rejected -/
example : Newton.uniqueCertVars [([], circ)] [I (1/2) 1, I (1/2) 1] [0] = true := by decide +kernel
example : Newton.uniqueCertVars [([], circ), ([], diag)] [I (1/2) 1, I (1/2) 1] [0, 0] = false := by
  decide +kernel
/-- the cell `[1,3/2]` is replaced by the existence box `[1.41,1.42]` of `√2` -/
example : Newton.replaceCert [([], sqDag)] [I 1 (3/2)] [I (141/100) (142/100)] [0] = true := by
  decide +kernel
/-- a division whose denominator interval contains 0, an ill-formed constant: no Jacobian -/
def invDag : Dag := #[⟨.var 0, 1, 1⟩, ⟨.const [Itv.point 1], 1, 1⟩, ⟨.bin "div" 1 0, 1, 1⟩]
example : Newton.jacobian [([], invDag)] [I (-1) 1] = none := by decide +kernel
example : Newton.jacobian [([], invDag)] [I 1 2] = some [[I (-1) (-1/4)]] := by decide +kernel
example : Newton.jacobian [([], #[⟨.const [I 3 1], 1, 1⟩])] [I 1 2] = none := by decide +kernel

/-- the hypotheses of `unique_zero_square` are satisfiable and its conclusion is the expected one:
    `x² − 2` has at most one zero in `[1,2]` -/
theorem sq_root (a : ℝ) : rootR ([], sqDag) [a] = some (Mat.scalar (a * a - 2)) := by
  simp +decide only [rootR, sqDag, dag_eval]

theorem mem_box_one {a : ℝ} {lo hi : ℚ} : Box.Mem [a] [I lo hi] ↔ (lo : ℝ) ≤ a ∧ a ≤ (hi : ℝ) :=
  ⟨fun h => mem_fin_iff.1 (List.forall₂_cons.1 h).1,
    fun h => List.Forall₂.cons (mem_fin_iff.2 h) List.Forall₂.nil⟩

theorem zero_sqDag {a : ℝ} : Zero [([], sqDag)] [a] ↔ a * a - 2 = 0 := by
  constructor
  · intro h
    obtain ⟨m, hm, hd⟩ := h _ (List.mem_singleton.2 rfl)
    rw [sq_root a] at hm
    cases hm
    simpa [Mat.scalar] using hd
  · intro h q hq
    cases List.mem_singleton.1 hq
    exact ⟨_, sq_root a, by simp [Mat.scalar, h]⟩

theorem sq_zero_of_exists {lo hi : ℚ} (hex : ∃ z, Box.Mem z [I lo hi] ∧ Zero [([], sqDag)] z) :
    ∃ a : ℝ, ((lo : ℝ) ≤ a ∧ a ≤ (hi : ℝ)) ∧ a * a - 2 = 0 := by
  obtain ⟨z, hz, hzero⟩ := hex
  obtain ⟨a, rfl⟩ : ∃ a, z = [a] := by
    have := hz.length_eq
    match z, this with
    | [a], _ => exact ⟨a, rfl⟩
  exact ⟨a, mem_box_one.1 hz, zero_sqDag.1 hzero⟩

example (a b : ℝ) (ha : 1 ≤ a ∧ a ≤ 2) (hb : 1 ≤ b ∧ b ≤ 2) (ha0 : a * a - 2 = 0) (hb0 : b * b - 2 = 0) :
    a = b := by
  have := unique_zero_square Rnd.dbl_sound jacobian_sound (progs := [([], sqDag)]) (h := [I 1 2])
    (by decide +kernel) (mem_box_one.2 (by simpa using ha)) (mem_box_one.2 (by simpa using hb))
    (zero_sqDag.2 ha0) (zero_sqDag.2 hb0)
  simpa using this

end Ibex.C09
