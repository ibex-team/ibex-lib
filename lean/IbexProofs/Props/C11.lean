/-
  C11 — a transformed expression (simplified / copied / converted to a DAG / component extracted)
  denotes the same real function as the original.

  The driver op `equivnf` (`equivcompnf` for one entry of `dag₁` against a scalar `dag₂`) runs the *symbolic* checker
  `Equiv.check funs₁ dag₁ funs₂ dag₂ n`
  (`IbexModel/RatFun.lean`): both DAGs are evaluated by the generic evaluator `Eval.root` in the
  algebra `Alg.rf` of rational functions with rational coefficients on the environment
  `[x₀, …, x_{n-1}]` — so vectors, matrices, indexing, products, transposition and applied
  functions are handled by the very evaluator whose real instance is the specification — and the
  resulting matrices of formal quotients are compared entry by entry by cross-multiplication of
  canonical polynomials.

  Fragment: degenerate constants, variables, `add sub mul div`, unary minus, `sqr`, integer
  powers, and every structural node (vector/matrix construction, indexing, transposition, matrix
  products, applied functions).  Any other operator (`abs max min sign chi floor ceil sqrt`,
  elementary functions, thick constants) makes the checker answer `none`: nothing is claimed
  (driver: `ok unsupported`).  The answer `some false` (driver: `FAIL normal-forms-differ`) is NOT
  covered by a theorem here (it would need uniqueness of canonical forms): it is a diagnosis.

  What the theorem does not say: that the transformed expression is defined wherever the original
  is (e.g. `x/x` and `1` are accepted: they agree wherever both are defined).
-/
import IbexProofs.RatFun

namespace Ibex.C11
open Ibex Ibex.Eval List

/-- `check_sound` for any size bound `B` of the normal forms (`RF.guard`, `RF.eqv`); the driver's
    `Equiv.check`, `checkComp`, `checkDiff` are `checkB`, `checkCompB`, `checkDiffB` at `Equiv.bound`. -/
theorem checkB_sound {B : ℕ} {funs₁ funs₂ : List Dag} {dag₁ dag₂ : Dag} {n : ℕ}
    (h : Equiv.checkB B funs₁ dag₁ funs₂ dag₂ n = some true)
    {ρ : List ℝ} (hρ : ρ.length = n) {v₁ v₂ : Mat ℝ}
    (h₁ : root Alg.real ρ (buildCalls Alg.real funs₁) dag₁ = some v₁)
    (h₂ : root Alg.real ρ (buildCalls Alg.real funs₂) dag₂ = some v₂) : v₁ = v₂ := by
  unfold Equiv.checkB at h
  simp only [bind, Option.bind_eq_some_iff] at h
  obtain ⟨F₁, hF₁, F₂, hF₂, h⟩ := h
  split at h
  case isFalse => exact nomatch h
  rename_i hdim
  obtain ⟨hr₁, hc₁, hd₁⟩ := nf_real hρ hF₁ h₁
  obtain ⟨hr₂, hc₂, hd₂⟩ := nf_real hρ hF₂ h₂
  have hd := eqvList_sound h hd₁ hd₂
  obtain ⟨r₁, c₁, d₁⟩ := v₁
  obtain ⟨r₂, c₂, d₂⟩ := v₂
  simp only at hr₁ hc₁ hr₂ hc₂ hd
  rw [hr₁, hc₁, hr₂, hc₂, hd, hdim.1, hdim.2]

/-- **C11 (soundness of the symbolic equivalence check).**  An accepted pair of DAGs has the same
    real value at every real point where both are defined. -/
theorem check_sound {funs₁ funs₂ : List Dag} {dag₁ dag₂ : Dag} {n : ℕ}
    (h : Equiv.check funs₁ dag₁ funs₂ dag₂ n = some true)
    {ρ : List ℝ} (hρ : ρ.length = n) {v₁ v₂ : Mat ℝ}
    (h₁ : root Alg.real ρ (buildCalls Alg.real funs₁) dag₁ = some v₁)
    (h₂ : root Alg.real ρ (buildCalls Alg.real funs₂) dag₂ = some v₂) : v₁ = v₂ :=
  checkB_sound h hρ h₁ h₂

theorem checkCompB_sound {B : ℕ} {funs₁ funs₂ : List Dag} {dag₁ dag₂ : Dag} {i n : ℕ}
    (h : Equiv.checkCompB B funs₁ dag₁ funs₂ dag₂ i n = some true)
    {ρ : List ℝ} (hρ : ρ.length = n) {v₁ v₂ : Mat ℝ}
    (h₁ : root Alg.real ρ (buildCalls Alg.real funs₁) dag₁ = some v₁)
    (h₂ : root Alg.real ρ (buildCalls Alg.real funs₂) dag₂ = some v₂) :
    ∃ x, v₁.d[i]? = some x ∧ v₂.d = [x] := by
  unfold Equiv.checkCompB at h
  simp only [bind, Option.bind_eq_some_iff] at h
  obtain ⟨F₁, hF₁, F₂, hF₂, h⟩ := h
  obtain ⟨_, _, hd₁⟩ := nf_real hρ hF₁ h₁
  obtain ⟨_, _, hd₂⟩ := nf_real hρ hF₂ h₂
  split at h
  · rename_i a b ha hb
    rw [hb, forall₂_cons_right_iff] at hd₂
    obtain ⟨y, ys, hyb, hys, hv₂⟩ := hd₂
    rw [forall₂_nil_right_iff] at hys
    subst hys
    obtain ⟨x, hx, hxa⟩ := forall₂_getElem?_right hd₁ ha
    exact ⟨x, hx, by rw [hv₂, RF.eqv_sound h hxa hyb]⟩
  · exact absurd h (by simp)

/-- **C11, component form.**  If entry `i` (row-major) of `dag₁` and the scalar `dag₂` are
    accepted, then at every real point where both are defined, `dag₂`'s value is that entry. -/
theorem checkComp_sound {funs₁ funs₂ : List Dag} {dag₁ dag₂ : Dag} {i n : ℕ}
    (h : Equiv.checkComp funs₁ dag₁ funs₂ dag₂ i n = some true)
    {ρ : List ℝ} (hρ : ρ.length = n) {v₁ v₂ : Mat ℝ}
    (h₁ : root Alg.real ρ (buildCalls Alg.real funs₁) dag₁ = some v₁)
    (h₂ : root Alg.real ρ (buildCalls Alg.real funs₂) dag₂ = some v₂) :
    ∃ x, v₁.d[i]? = some x ∧ v₂.d = [x] :=
  checkCompB_sound h hρ h₁ h₂

/-! ### non-vacuity -/

def k (q : Rat) : Node := ⟨.const [Itv.point q], 1, 1⟩
def x : Node := ⟨.var 0, 1, 1⟩

/-- `(x+1)²`: nodes 0 = x, 1 = 1, 2 = x+1, 3 = sqr -/
def sq1 : Dag := #[x, k 1, ⟨.bin "add" 0 1, 1, 1⟩, ⟨.un "sqr" 2, 1, 1⟩]
/-- `x² + 2x + 1` -/
def sq2 : Dag := #[x, ⟨.pow 0 2, 1, 1⟩, k 2, ⟨.bin "mul" 2 0, 1, 1⟩, ⟨.bin "add" 1 3, 1, 1⟩, k 1,
  ⟨.bin "add" 4 5, 1, 1⟩]
/-- `x·x` and `x³` -/
def xx : Dag := #[x, ⟨.bin "mul" 0 0, 1, 1⟩]
def x3 : Dag := #[x, ⟨.pow 0 3, 1, 1⟩]
/-- `(x² - 1)/(x - 1)` and `x + 1`: equal as rational functions -/
def q1 : Dag := #[x, ⟨.un "sqr" 0, 1, 1⟩, k 1, ⟨.bin "sub" 1 2, 1, 1⟩, ⟨.bin "sub" 0 2, 1, 1⟩,
  ⟨.bin "div" 3 4, 1, 1⟩]
def q2 : Dag := #[x, k 1, ⟨.bin "add" 0 1, 1, 1⟩]
/-- `|x|`: outside the fragment -/
def ab : Dag := #[x, ⟨.un "abs" 0, 1, 1⟩]

theorem sq_check : Equiv.check [] sq1 [] sq2 1 = some true := by decide +kernel
example : Equiv.check [] sq1 [] sq2 1 = some true := sq_check
example : Equiv.check [] xx [] x3 1 = some false := by decide +kernel
example : Equiv.check [] q1 [] q2 1 = some true := by decide +kernel
example : Equiv.check [] x3 [] q2 1 = some false := by decide +kernel
example : Equiv.check [] ab [] ab 1 = none := by decide +kernel

/-- a 2×2 matrix product `A·B` (`A` = variables 0‥3, `B` = variables 4‥7) -/
def mm : Dag := #[⟨.var 0, 2, 2⟩, ⟨.var 4, 2, 2⟩, ⟨.bin "mul" 0 1, 2, 2⟩]
def v (i : Nat) : Node := ⟨.var i, 1, 1⟩
/-- `a₀₀·b₀₁ + a₀₁·b₁₁` (entry (0,1) of the product, row-major index 1) -/
def e01 : Dag := #[v 0, v 5, ⟨.bin "mul" 0 1, 1, 1⟩, v 1, v 7, ⟨.bin "mul" 3 4, 1, 1⟩,
  ⟨.bin "add" 2 5, 1, 1⟩]

example : Equiv.checkComp [] mm [] e01 1 8 = some true := by decide +kernel
example : Equiv.checkComp [] mm [] e01 2 8 = some false := by decide +kernel

/-- through an applied function: `f(y) = y²`, `f(x+1)` against `x² + 2x + 1` -/
def sqrFun : Dag := #[x, ⟨.un "sqr" 0, 1, 1⟩]
def app : Dag := #[x, k 1, ⟨.bin "add" 0 1, 1, 1⟩, ⟨.apply 0 [2], 1, 1⟩]
example : Equiv.check [sqrFun] app [] sq2 1 = some true := by decide +kernel

/-- the real evaluations of the first example are defined everywhere, so the theorem applies at
    every real `t` and its conclusion is the expected identity -/
theorem sq1_root (t : ℝ) : root Alg.real [t] (buildCalls Alg.real []) sq1 =
    some (Mat.scalar ((t + 1) * (t + 1))) := by
  simp +decide only [sq1, x, k, dag_eval]

theorem sq2_root (t : ℝ) : root Alg.real [t] (buildCalls Alg.real []) sq2 =
    some (Mat.scalar (t ^ 2 + 2 * t + 1)) := by
  simp +decide only [sq2, x, k, dag_eval]

example (t : ℝ) : (t + 1) * (t + 1) = t ^ 2 + 2 * t + 1 := by
  have h := check_sound sq_check (ρ := [t]) rfl (sq1_root t) (sq2_root t)
  simpa [Mat.scalar] using h

end Ibex.C11
