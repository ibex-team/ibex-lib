/-
  C02 — forward evaluation of an expression DAG encloses the value of the expression at every
  real point of the box.

  The driver does not compare the implementation's node domains with the model's evaluation
  (the implementation is allowed to be less tight); it runs the *certificate checker*
  `Eval.certOk funs dag box doms` on the node domains `doms` that the implementation computed for
  `box`: node `i` is accepted when the model's (tightest, outward-rounded) interval operator applied
  to the implementation's ARGUMENT domains is included in the implementation's domain of node `i`.

  `cert_sound` says what an accepted certificate means: for EVERY real point `p` of the box — not
  only the sampled ones — and for every DAG (any number of nodes, any sharing, scalar / vector /
  matrix nodes, applied functions), the real value of every node at `p` belongs to the
  implementation's domain of that node; in particular (`cert_sound_root`) the value of the
  expression belongs to the domain of the root.

  What is assumed (hypothesis `hyp`): the nodes that the certificate cannot check are enclosed.
  These are exactly (`Eval.Unchecked`, proved exhaustive by `Eval.nodeVal_rel`):
    * nodes `.un op _` whose operator name is not an interval operator of the model
      (`Alg.itv.un op = none`: the elementary functions exp, log, cos, …, validated separately
      against an MPFR oracle), and
    * nodes `.apply f _` for which the model's own interval evaluation of the function body on the
      implementation's argument domains is undefined (the body contains such an operator).
  An interval operator of the model that returns the empty set is NOT in this list: the
  corresponding real operation is then undefined at every point of the arguments.

  The real semantics is `Alg.real` (the operators of `Alg.rat` on ℝ, the real `sqrt` in place of the
  exact one of perfect squares, and the elementary functions on their natural domains); `rat_run_real` shows that the exact rational evaluation
  performed by the driver at sample points is this real semantics.
  Limitation: `Eval.binVal` gives no meaning to binary operators other than add/sub/mul/div/max/min
  (e.g. `atan2`) in any algebra, so a DAG containing one has no real value here (`run` is `none`)
  and the theorem is vacuous for it.  Thick interval constants have no point value either.
-/
import IbexProofs.EvalCert
import IbexProofs.SetAlg

namespace Ibex.C02
open Ibex Ibex.Eval

/-! ### operator level -/

theorem real_itv : AlgRel RMem Alg.real Alg.itv := Alg.real_itv

theorem rat_real : AlgRel RCast Alg.rat Alg.real := Alg.rat_real

def itvUnary : List String := ["minus", "sqr", "abs", "sign", "sqrt", "floor", "ceil"]

theorem itv_un_none_iff (op : String) : Alg.itv.un op = none ↔ op ∉ itvUnary := by
  simp only [Alg.itv]
  split <;> simp_all [itvUnary]

/-- **One node**: if the real arguments belong to the argument domains, the real value of the node
    belongs to the value that the model's interval operator computes from these domains. -/
theorem nodeVal_encl {p : List ℝ} {box : List Itv} {rcall : Nat → List (Mat ℝ) → Option (Mat ℝ)}
    {icall : Nat → List (Mat Itv) → Option (Mat Itv)} {rvals : Array (Mat ℝ)} {doms : Array (Mat Itv)}
    {n : Node} {v : Mat ℝ} {m : Mat Itv}
    (hp : EnvMem p box) (hcall : CallRel RMem rcall icall) (hsz : rvals.size ≤ doms.size)
    (hargs : ∀ (j : Nat) v z, rvals[j]? = some v → doms[j]? = some z → MatMem v z)
    (hv : nodeVal Alg.real p rcall rvals n = some v)
    (hm : nodeVal Alg.itv box icall doms n = some m) : MatMem v m := by
  refine nodeVal_rel_of_some Alg.real_itv hp hcall ?_ hv hm
  intro j w hj
  obtain ⟨hj', _⟩ := Array.getElem?_eq_some_iff.1 hj
  have hd := Array.getElem?_eq_getElem (Nat.lt_of_lt_of_le hj' hsz)
  exact ⟨_, hd, hargs j w _ hj hd⟩

/-- **One node, definedness**: under the same hypotheses the model's interval operator is defined,
    unless the node is one of the two `Unchecked` kinds. -/
theorem nodeVal_defined {p : List ℝ} {box : List Itv} {rcall : Nat → List (Mat ℝ) → Option (Mat ℝ)}
    {icall : Nat → List (Mat Itv) → Option (Mat Itv)} {rvals : Array (Mat ℝ)} {doms : Array (Mat Itv)}
    {n : Node} {v : Mat ℝ}
    (hp : EnvMem p box) (hcall : CallRel RMem rcall icall) (hargs : ArgsRel RMem rvals doms)
    (hv : nodeVal Alg.real p rcall rvals n = some v) :
    (∃ m, nodeVal Alg.itv box icall doms n = some m ∧ MatMem v m) ∨ Unchecked Alg.itv icall doms n :=
  nodeVal_rel Alg.real_itv hp hcall hargs n hv

/-! ### the model's own interval evaluation (natural interval extension) -/

/-- **Interval evaluation encloses the value at every point of the box**: all nodes. -/
theorem run_encl {funs : List Dag} {dag : Dag} {p : List ℝ} {box : List Itv} {rv : Array (Mat ℝ)}
    {iv : Array (Mat Itv)} (hp : EnvMem p box)
    (hr : run Alg.real p (buildCalls Alg.real funs) dag = some rv)
    (hi : run Alg.itv box (buildCalls Alg.itv funs) dag = some iv) :
    rv.size = iv.size ∧ ∀ (i : Nat) v, rv[i]? = some v → ∃ z, iv[i]? = some z ∧ MatMem v z :=
  run_rel Alg.real_itv hp (buildCalls_rel Alg.real_itv funs) hr hi

/-- the value of the expression at every point of the box belongs to the interval the model computes -/
theorem root_encl {funs : List Dag} {dag : Dag} {p : List ℝ} {box : List Itv} {v : Mat ℝ} {z : Mat Itv}
    (hp : EnvMem p box) (hr : root Alg.real p (buildCalls Alg.real funs) dag = some v)
    (hi : root Alg.itv box (buildCalls Alg.itv funs) dag = some z) : MatMem v z :=
  root_rel Alg.real_itv hp (buildCalls_rel Alg.real_itv funs) hr hi

/-! ### the certificate -/

/-- **Soundness of the node certificate** (with applied functions; `funs = []` is the special case
    without).  `hyp`: the unchecked nodes are enclosed. -/
theorem cert_sound {funs : List Dag} {dag : Dag} {box : List Itv} {doms : Array (Mat Itv)}
    {p : List ℝ} {rvals : Array (Mat ℝ)}
    (h : certOk funs dag box doms = true) (hp : EnvMem p box)
    (hrun : run Alg.real p (buildCalls Alg.real funs) dag = some rvals)
    (hyp : ∀ (i : Nat) n, dag[i]? = some n → Unchecked Alg.itv (buildCalls Alg.itv funs) doms n →
      ∀ v z, rvals[i]? = some v → doms[i]? = some z → MatMem v z) :
    ∀ (i : Nat) v z, rvals[i]? = some v → doms[i]? = some z → MatMem v z :=
  cert_sound_gen Alg.real_itv (buildCalls_rel Alg.real_itv funs) h hp hrun
    (fun i n _ x hn hu _ _ hv z hz => hyp i n hn hu x z hv hz)

/-- the same with the coarser hypothesis "every node on which the model's interval operator is
    undefined is enclosed" (`Unchecked` nodes are such nodes: `Unchecked.nodeVal_none`) -/
theorem cert_sound' {funs : List Dag} {dag : Dag} {box : List Itv} {doms : Array (Mat Itv)}
    {p : List ℝ} {rvals : Array (Mat ℝ)}
    (h : certOk funs dag box doms = true) (hp : EnvMem p box)
    (hrun : run Alg.real p (buildCalls Alg.real funs) dag = some rvals)
    (hyp : ∀ (i : Nat) n, dag[i]? = some n →
      nodeVal Alg.itv box (buildCalls Alg.itv funs) doms n = none →
      ∀ v z, rvals[i]? = some v → doms[i]? = some z → MatMem v z) :
    ∀ (i : Nat) v z, rvals[i]? = some v → doms[i]? = some z → MatMem v z :=
  cert_sound h hp hrun (fun i n hn hu => hyp i n hn hu.nodeVal_none)

/-- the same with an *operator-level* hypothesis, independent of the point `p`: for each unchecked
    node, whatever real arguments are taken in the implementation's argument domains, the real
    operator maps them into the implementation's domain of the node (this is the property that the
    MPFR-oracle harness validates for the elementary functions). -/
theorem cert_sound_local {funs : List Dag} {dag : Dag} {box : List Itv} {doms : Array (Mat Itv)}
    {p : List ℝ} {rvals : Array (Mat ℝ)}
    (h : certOk funs dag box doms = true) (hp : EnvMem p box)
    (hrun : run Alg.real p (buildCalls Alg.real funs) dag = some rvals)
    (hyp : ∀ (i : Nat) n args x, dag[i]? = some n →
      Unchecked Alg.itv (buildCalls Alg.itv funs) doms n → ArgsRel RMem args doms →
      nodeVal Alg.real p (buildCalls Alg.real funs) args n = some x →
      ∀ z, doms[i]? = some z → MatMem x z) :
    ∀ (i : Nat) v z, rvals[i]? = some v → doms[i]? = some z → MatMem v z :=
  cert_sound_gen Alg.real_itv (buildCalls_rel Alg.real_itv funs) h hp hrun
    (fun i n v1 x hn hu hv1 hx _ z hz => hyp i n v1 x hn hu hv1 hx z hz)

/-- thick interval constants: the theorem holds for every selection `ch` of a member of each
    interval constant (`Alg.realWith ch`: the constant `I` denotes the real `ch I ∈ I`) -/
theorem cert_sound_thick {ch : Itv → Option ℝ} (hch : ∀ I x, ch I = some x → x ∈ I)
    {funs : List Dag} {dag : Dag} {box : List Itv} {doms : Array (Mat Itv)}
    {p : List ℝ} {rvals : Array (Mat ℝ)}
    (h : certOk funs dag box doms = true) (hp : EnvMem p box)
    (hrun : run (Alg.realWith ch) p (buildCalls (Alg.realWith ch) funs) dag = some rvals)
    (hyp : ∀ (i : Nat) n, dag[i]? = some n → Unchecked Alg.itv (buildCalls Alg.itv funs) doms n →
      ∀ v z, rvals[i]? = some v → doms[i]? = some z → MatMem v z) :
    ∀ (i : Nat) v z, rvals[i]? = some v → doms[i]? = some z → MatMem v z :=
  cert_sound_gen (Alg.realWith_itv hch) (buildCalls_rel (Alg.realWith_itv hch) funs) h hp hrun
    (fun i n _ x hn hu _ _ hv z hz => hyp i n hn hu x z hv hz)

/-- a DAG all of whose unary operators are interval operators of the model (or the transposition) -/
def DagSupported (d : Dag) : Prop :=
  ∀ n ∈ d.toList, ∀ op a, n.k = .un op a → op = "trans" ∨ op ∈ itvUnary

theorem DagSupported.supp {d : Dag} (hd : DagSupported d) : ∀ n ∈ d.toList, Supp Alg.real Alg.itv n := by
  intro n hn op a hk hop hB
  rcases hd n hn op a hk with e | e
  · exact absurd e hop
  · exact absurd e ((itv_un_none_iff op).1 hB)

/-- the same check on one node, as a program -/
def nodeSupported (n : Node) : Bool :=
  match n.k with
  | .un op _ => op == "trans" || itvUnary.contains op
  | _ => true

theorem dagSupported_iff (d : Dag) : DagSupported d ↔ d.toList.all nodeSupported = true := by
  simp only [DagSupported, List.all_eq_true]
  refine forall₂_congr fun n _ => ?_
  obtain ⟨k, r, c⟩ := n
  cases k <;> simp [nodeSupported]

instance (d : Dag) : Decidable (DagSupported d) := decidable_of_iff _ (dagSupported_iff d).symm

/-- **When the bodies of the applied functions only use interval operators of the model, the only
    assumption concerns the unary nodes of the main DAG with another operator name.** -/
theorem cert_sound_un {funs : List Dag} {dag : Dag} {box : List Itv} {doms : Array (Mat Itv)}
    {p : List ℝ} {rvals : Array (Mat ℝ)}
    (h : certOk funs dag box doms = true) (hp : EnvMem p box)
    (hrun : run Alg.real p (buildCalls Alg.real funs) dag = some rvals)
    (hfuns : ∀ d ∈ funs, DagSupported d)
    (hyp : ∀ (i : Nat) op a r c, dag[i]? = some ⟨.un op a, r, c⟩ → op ≠ "trans" → op ∉ itvUnary →
      ∀ v z, rvals[i]? = some v → doms[i]? = some z → MatMem v z) :
    ∀ (i : Nat) v z, rvals[i]? = some v → doms[i]? = some z → MatMem v z := by
  refine cert_sound_gen Alg.real_itv (buildCalls_rel Alg.real_itv funs) h hp hrun ?_
  rintro i ⟨k, r, c⟩ v1 x hn hu hv1 hx hv z hz
  rcases hu with ⟨op, a, hk, hop, hB⟩ | ⟨f, as, bs, hk, hbs, hcn⟩
  · simp only at hk
    subst hk
    exact hyp i op a r c hn hop ((itv_un_none_iff op).1 hB) x z hv hz
  · -- the real call is defined, hence so is the model's interval evaluation of the function
    exfalso
    simp only at hk
    subst hk
    have hu : Unchecked Alg.itv (buildCalls Alg.itv funs) doms ⟨.apply f as, r, c⟩ :=
      .inr ⟨f, as, bs, rfl, hbs, hcn⟩
    obtain ⟨y, hy, _⟩ := nodeVal_rel_total Alg.real_itv hp
      (buildCalls_rel_total Alg.real_itv funs (fun d hd => (hfuns d hd).supp)) hv1
      ⟨.apply f as, r, c⟩ (fun op a hk => by simp at hk) hx
    rw [hu.nodeVal_none (e2 := box)] at hy
    exact absurd hy (by simp)

theorem cert_sound_nofun {dag : Dag} {box : List Itv} {doms : Array (Mat Itv)}
    {p : List ℝ} {rvals : Array (Mat ℝ)}
    (h : certOk [] dag box doms = true) (hp : EnvMem p box)
    (hrun : run Alg.real p (fun _ _ => none) dag = some rvals)
    (hyp : ∀ (i : Nat) op a r c, dag[i]? = some ⟨.un op a, r, c⟩ → op ≠ "trans" → op ∉ itvUnary →
      ∀ v z, rvals[i]? = some v → doms[i]? = some z → MatMem v z) :
    ∀ (i : Nat) v z, rvals[i]? = some v → doms[i]? = some z → MatMem v z :=
  cert_sound_un (funs := []) h hp hrun (fun d hd => absurd hd (by simp)) hyp

/-- **No assumption at all** when the main DAG and the function bodies only use unary operators that
    are interval operators of the model (or the transposition). -/
theorem cert_sound_supported {funs : List Dag} {dag : Dag} {box : List Itv} {doms : Array (Mat Itv)}
    {p : List ℝ} {rvals : Array (Mat ℝ)}
    (h : certOk funs dag box doms = true) (hp : EnvMem p box)
    (hrun : run Alg.real p (buildCalls Alg.real funs) dag = some rvals)
    (hdag : DagSupported dag) (hfuns : ∀ d ∈ funs, DagSupported d) :
    ∀ (i : Nat) v z, rvals[i]? = some v → doms[i]? = some z → MatMem v z :=
  cert_sound_un h hp hrun hfuns (fun i op a r c hn hop hni => by
    have hmem : (⟨.un op a, r, c⟩ : Node) ∈ dag.toList := by
      rw [List.mem_iff_getElem?]
      exact ⟨i, by rw [Array.getElem?_toList]; exact hn⟩
    rcases hdag _ hmem op a rfl with e | e
    · exact absurd e hop
    · exact absurd e hni)

/-- from all the nodes to the root: the value of the expression is the last node value -/
theorem root_of_nodes {AR : Alg ℝ} {rcall : Nat → List (Mat ℝ) → Option (Mat ℝ)} {funs : List Dag}
    {dag : Dag} {box : List Itv} {doms : Array (Mat Itv)} {p : List ℝ} {rvals : Array (Mat ℝ)}
    {v : Mat ℝ} {z : Mat Itv} (h : certOk funs dag box doms = true)
    (hrun : run AR p rcall dag = some rvals)
    (hall : ∀ (i : Nat) v z, rvals[i]? = some v → doms[i]? = some z → MatMem v z)
    (hv : root AR p rcall dag = some v) (hz : doms.back? = some z) : MatMem v z := by
  unfold root at hv
  rw [hrun] at hv
  simp only [Option.bind_some, Array.back?_eq_getElem?] at hv hz
  have hs : rvals.size = doms.size := by
    rw [run_eq] at hrun
    have := (fold_prefix _ hrun).1
    simp only [List.size_toArray, List.length_nil, Nat.zero_add, Array.length_toList] at this
    rw [this, certOk_size h]
  rw [hs] at hv
  exact hall _ v z hv hz

/-- **The value of the expression belongs to the implementation's domain of the root.** -/
theorem cert_sound_root {funs : List Dag} {dag : Dag} {box : List Itv} {doms : Array (Mat Itv)}
    {p : List ℝ} {rvals : Array (Mat ℝ)} {v : Mat ℝ} {z : Mat Itv}
    (h : certOk funs dag box doms = true) (hp : EnvMem p box)
    (hrun : run Alg.real p (buildCalls Alg.real funs) dag = some rvals)
    (hyp : ∀ (i : Nat) n, dag[i]? = some n → Unchecked Alg.itv (buildCalls Alg.itv funs) doms n →
      ∀ v z, rvals[i]? = some v → doms[i]? = some z → MatMem v z)
    (hv : root Alg.real p (buildCalls Alg.real funs) dag = some v) (hz : doms.back? = some z) :
    MatMem v z :=
  root_of_nodes h hrun (cert_sound h hp hrun hyp) hv hz

/-- the root, with no assumption, for DAGs and functions using only interval operators of the model -/
theorem cert_sound_supported_root {funs : List Dag} {dag : Dag} {box : List Itv}
    {doms : Array (Mat Itv)} {p : List ℝ} {v : Mat ℝ} {z : Mat Itv}
    (h : certOk funs dag box doms = true) (hp : EnvMem p box)
    (hdag : DagSupported dag) (hfuns : ∀ d ∈ funs, DagSupported d)
    (hv : root Alg.real p (buildCalls Alg.real funs) dag = some v) (hz : doms.back? = some z) :
    MatMem v z := by
  cases hrun : run Alg.real p (buildCalls Alg.real funs) dag with
  | none => simp [root, hrun] at hv
  | some rvals => exact root_of_nodes h hrun (cert_sound_supported h hp hrun hdag hfuns) hv hz

/-! ### the rational evaluation of the driver is the real semantics -/

theorem forall₂_cast (q : List ℚ) : List.Forall₂ RCast q (q.map (Rat.cast : ℚ → ℝ)) := by
  induction q with
  | nil => exact .nil
  | cons t q ih => exact .cons rfl ih

/-- if the exact rational evaluation at the rational point `q` is defined, the real evaluation at
    (the cast of) `q` is defined and every node value is the cast of the rational one -/
theorem rat_run_real {funs : List Dag} {dag : Dag} {q : List ℚ} {qv : Array (Mat ℚ)}
    (hq : run Alg.rat q (buildCalls Alg.rat funs) dag = some qv) :
    ∃ rv, run Alg.real (q.map (Rat.cast : ℚ → ℝ)) (buildCalls Alg.real funs) dag = some rv ∧
      qv.size = rv.size ∧ ∀ (i : Nat) v, qv[i]? = some v → ∃ z, rv[i]? = some z ∧ MatRel RCast v z :=
  run_rel_total Alg.rat_real (forall₂_cast q)
    (buildCalls_rel_total Alg.rat_real funs (fun _ _ n _ => Alg.rat_real_supp n))
    (fun n _ => Alg.rat_real_supp n) hq

theorem rat_root_real {funs : List Dag} {dag : Dag} {q : List ℚ} {v : Mat ℚ}
    (hq : root Alg.rat q (buildCalls Alg.rat funs) dag = some v) :
    ∃ z, root Alg.real (q.map (Rat.cast : ℚ → ℝ)) (buildCalls Alg.real funs) dag = some z ∧
      MatRel RCast v z :=
  root_rel_total Alg.rat_real (forall₂_cast q)
    (buildCalls_rel_total Alg.rat_real funs (fun _ _ n _ => Alg.rat_real_supp n))
    (fun n _ => Alg.rat_real_supp n) hq

/-! ### non-vacuity: `x*x - 1` over `[0,2]` -/

/-- nodes: 0 = x, 1 = x*x, 2 = 1, 3 = x*x - 1 -/
def exDag : Dag :=
  #[⟨.var 0, 1, 1⟩, ⟨.bin "mul" 0 0, 1, 1⟩, ⟨.const [Itv.point 1], 1, 1⟩, ⟨.bin "sub" 1 2, 1, 1⟩]
def exBox : List Itv := [Itv.mk (.fin 0) (.fin 2)]
def sc (a b : Rat) : Mat Itv := Mat.scalar (Itv.mk (.fin a) (.fin b))

/-- correct (and not tightest) node domains are accepted -/
example : certOk [] exDag exBox #[sc 0 2, sc 0 4, sc 1 1, sc (-1) 3] = true := by decide +kernel
example : certOk [] exDag exBox #[sc 0 2, sc (-1) 5, sc 1 1, sc (-2) 4] = true := by decide +kernel
/-- a root domain that misses the value at x = 0 is rejected, and the culprit is node 3 -/
example : certOk [] exDag exBox #[sc 0 2, sc 0 4, sc 1 1, sc 0 3] = false := by decide +kernel
example : certBad [] exDag exBox #[sc 0 2, sc 0 4, sc 1 1, sc 0 3] = [3] := by decide +kernel
/-- a wrong intermediate domain is rejected even when the root domain is right -/
example : certBad [] exDag exBox #[sc 0 2, sc 1 4, sc 1 1, sc (-1) 3] = [1] := by decide +kernel
/-- a missing domain, or an ill-formed one (no entry), is rejected -/
example : certOk [] exDag exBox #[sc 0 2, sc 0 4, sc 1 1] = false := by decide +kernel
example : certOk [] exDag exBox #[sc 0 2, sc 0 4, sc 1 1, ⟨1, 1, []⟩] = false := by decide +kernel

theorem exDag_run (x : ℝ) : run Alg.real [x] (fun _ _ => none) exDag =
    some #[Mat.scalar x, Mat.scalar (x * x), Mat.scalar 1, Mat.scalar (x * x - 1)] := by
  simp only [exDag, dag_eval]

/-- … and `cert_sound_supported` applied to the accepted certificate gives the expected enclosure
    for every real `x ∈ [0,2]` (hypotheses of the theorem are satisfiable, conclusion is meaningful) -/
example (x : ℝ) (hx : x ∈ Itv.mk (.fin 0) (.fin 2)) : x * x - 1 ∈ Itv.mk (.fin (-1)) (.fin 3) := by
  have hc : certOk [] exDag exBox #[sc 0 2, sc 0 4, sc 1 1, sc (-1) 3] = true := by decide +kernel
  exact MatMem_scalar.1 (cert_sound_supported (funs := []) hc (.cons hx .nil) (exDag_run x)
    (by decide) (by decide) 3 _ _ rfl rfl)

/-! ### non-vacuity: an applied function, `f(y) = y²`, `f(x)` over `[-1,2]` -/

def sqrFun : Dag := #[⟨.var 0, 1, 1⟩, ⟨.un "sqr" 0, 1, 1⟩]
def appDag : Dag := #[⟨.var 0, 1, 1⟩, ⟨.apply 0 [0], 1, 1⟩]
def appBox : List Itv := [Itv.mk (.fin (-1)) (.fin 2)]

example : certOk [sqrFun] appDag appBox #[sc (-1) 2, sc 0 4] = true := by decide +kernel
example : certBad [sqrFun] appDag appBox #[sc (-1) 2, sc 1 4] = [1] := by decide +kernel

theorem appDag_run (x : ℝ) : run Alg.real [x] (buildCalls Alg.real [sqrFun]) appDag =
    some #[Mat.scalar x, Mat.scalar (x * x)] := by
  simp +decide only [appDag, sqrFun, dag_eval]

example (x : ℝ) (hx : x ∈ Itv.mk (.fin (-1)) (.fin 2)) : x * x ∈ Itv.mk (.fin 0) (.fin 4) := by
  have hc : certOk [sqrFun] appDag appBox #[sc (-1) 2, sc 0 4] = true := by decide +kernel
  exact MatMem_scalar.1 (cert_sound_supported hc (.cons hx .nil) (appDag_run x)
    (by decide) (by decide) 1 _ _ rfl rfl)

/-! ### non-vacuity: an operator the certificate cannot check, `exp(x) + 1` over `[0,2]` -/

def expDag : Dag :=
  #[⟨.var 0, 1, 1⟩, ⟨.un "exp" 0, 1, 1⟩, ⟨.const [Itv.point 1], 1, 1⟩, ⟨.bin "add" 1 2, 1, 1⟩]

example : certOk [] expDag exBox #[sc 0 2, sc 1 8, sc 1 1, sc 2 9] = true := by decide +kernel
/-- node 1 (`exp`) is NOT checked by the certificate: any domain is accepted for it; this is the
    assumption `hyp` of `cert_sound` (the harness validates these nodes against MPFR) … -/
example : certOk [] expDag exBox #[sc 0 2, sc 5 6, sc 1 1, sc 6 7] = true := by decide +kernel
/-- … but the nodes that depend on it are checked relative to its domain -/
example : certBad [] expDag exBox #[sc 0 2, sc 1 8, sc 1 1, sc 3 9] = [3] := by decide +kernel

theorem expDag_run (x : ℝ) : run Alg.real [x] (fun _ _ => none) expDag =
    some #[Mat.scalar x, Mat.scalar (Real.exp x), Mat.scalar 1, Mat.scalar (Real.exp x + 1)] := by
  simp +decide only [expDag, dag_eval]

/-- from the accepted certificate and the assumption on the `exp` node, the enclosure of the root -/
example (x : ℝ) (hx : x ∈ Itv.mk (.fin 0) (.fin 2))
    (hexp : Real.exp x ∈ Itv.mk (.fin 1) (.fin 8)) : Real.exp x + 1 ∈ Itv.mk (.fin 2) (.fin 9) := by
  have hc : certOk [] expDag exBox #[sc 0 2, sc 1 8, sc 1 1, sc 2 9] = true := by decide +kernel
  refine MatMem_scalar.1 (cert_sound_nofun hc (.cons hx .nil) (expDag_run x) ?_ 3 _ _ rfl rfl)
  intro i op a r c hi _ _ v z hv hz
  -- only node 1 is a unary node
  rcases i with _ | _ | _ | _ | i <;> simp [expDag] at hi
  simp at hv hz
  subst hv; subst hz
  exact MatMem_scalar.2 hexp

/-! ### expressions with elementary functions (workloads `c02t`, `c08t`, `c12t`, `c04t`)

The harness computes a rigorous enclosure `o` of the real value (of the derivative) at a point of the box with MPFR
interval arithmetic; the driver reports a violation exactly when `o` and the result `z` of the library are disjoint.
What this refutes, for the TRUE value `v` (known only through `v ∈ o`): -/

/-- a value enclosed by the oracle cannot belong to a result that is disjoint from the oracle's enclosure -/
theorem oracle_refutes {o z : Itv} (h : (Itv.inter o z).isEmpty = true) {v : ℝ} (hv : v ∈ o) : ¬ v ∈ z := by
  intro hz
  have hm : v ∈ Itv.inter o z := Itv.mem_inter.2 ⟨hv, hz⟩
  cases hi : Itv.inter o z with
  | empty => rw [hi] at hm; exact Itv.not_mem_empty v hm
  | mk a b => rw [hi] at h; simp [Itv.isEmpty] at h

/-- and an enclosure of the oracle inside the result proves membership -/
theorem oracle_confirms {o z : Itv} (h : Itv.subset o z = true) {v : ℝ} (hv : v ∈ o) : v ∈ z :=
  Itv.mem_of_subset h hv

example : (Itv.inter (.mk (.fin 1) (.fin 2)) (.mk (.fin 3) (.fin 4))).isEmpty = true := by decide

end Ibex.C02
