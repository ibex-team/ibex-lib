/-
  C09 (existence) — soundness of the existence certificates `Newton.existCertVars`,
  `Newton.existCertVarsG r` (Krawczyk operator, Banach fixed point) of IbexModel/Newton.lean, for every
  sound rounding pair `r`, and what follows from it.  The two certificates differ by the procedures that
  compute the interval Jacobian and the interval value of a function: the theorems are proved for
  `Newton.existCertOf r jac ev` with any `jac`, `ev` that compute enclosures (`JacSound`, `EvSound`).

  * `exists_zero_of_cert_sel` : if the certificate holds for `progs h vars` then for EVERY value `π` of the
    parameters (coordinates outside `vars`) in their ranges in `h`, the system has a zero in `h` with
    these parameters — for every selection `ch` of the thick interval constants (`Sel ch`): whatever
    members of the thick constants are chosen, the resulting real system has a zero.
    This is exactly the hypothesis `hE` of `replace_sound(_sel)` (Props/C09.lean).
  * `exists_zero_of_certOf`, `exists_zero_square` : the same over the point semantics `Alg.real`
    (`Zero`), for systems WITHOUT thick constant (`pointConsts progs = true`, a decidable check; with
    a thick constant `Alg.real` is undefined and only the `_sel` statements make sense);
    `exists_zero_of_cert` is the binary64 instance.
  * `replace_sound_sel'`, `replace_sound'` : `replace_sound` with `hE` replaced by the existence certificate
    (no assumption left; no restriction on the constants); `replaceCert_sound'` is the binary64 instance.
  * `exists_unique_zero_sel`, `exists_unique_zero_of_certOf` : existence certificate on `e`, uniqueness certificate
    on `u ⊇ e` ⇒ for every parameter value in `e`, exactly one zero in `e`, and no other zero in `u`;
    `exists_unique_zero` is the binary64 instance.

  Proof (Banach): fix `π`; on the complete set `X = Π_c h_{vars c} ⊆ Fin m → ℝ` (sup metric) let
  `g(y) = y − C f(y,π)`.  The interval Jacobian over the whole box encloses the gradients on every slice
  (`JacSound`), so by the row-wise mean value theorem (`slope_row`) the slopes of `y ↦ f(y,π)` are in
  `[J]` (`withVars`: the point with variables `y` and parameters `π`; `slope_vars`): `krawczyk_zero`
  (NewtonExist.lean) applies.
-/
import IbexProofs.Props.C09
import IbexProofs.NewtonExist

namespace Ibex.C09
open Ibex List Filter Topology
open Ibex.C06 (ParamsIn SameParams)

variable {r : Rnd} {jac : List (List Dag × Dag) → Box → Option (List (List Itv))}
  {ev : List Dag × Dag → Box → Option Itv}

/-! ### lists: `mapM` and `foldlM` of functions that agree on the members -/

theorem mapM_congr_mem {α β : Type} {f g : α → Option β} :
    ∀ (l : List α), (∀ a ∈ l, f a = g a) → l.mapM f = l.mapM g := by
  intro l
  induction l with
  | nil => intro _; rfl
  | cons a l ih =>
    intro h
    rw [List.mapM_cons, List.mapM_cons, h a (by simp), ih fun b hb => h b (by simp [hb])]

theorem foldlM_congr_mem {α β : Type} {f g : β → α → Option β} :
    ∀ (l : List α) (b : β), (∀ a ∈ l, ∀ b, f b a = g b a) → l.foldlM f b = l.foldlM g b := by
  intro l
  induction l with
  | nil => intro _ _; rfl
  | cons a l ih =>
    intro b h
    rw [List.foldlM_cons, List.foldlM_cons, h a (by simp)]
    congr 1
    funext b'
    exact ih b' fun x hx => h x (by simp [hx])

/-! ### interval evaluation of one function -/

/-- a selection that never gives a value outside the constant -/
def Strict (ch : Itv → Option ℝ) : Prop := ∀ I x, ch I = some x → x ∈ I

/-- `ev` computes an interval that contains the value of the function on the box -/
def EvSound (ev : List Dag × Dag → Box → Option Itv) : Prop :=
  ∀ {ch : Itv → Option ℝ}, Strict ch → ∀ {q : List Dag × Dag} {b : Box} {F : Itv} {x : List ℝ} {m : Mat ℝ},
    ev q b = some F → Box.Mem x b → rootW ch q x = some m → Forall₂ RMem m.d [F]

theorem evSound_of_alg {B : Alg Itv}
    (hB : ∀ {ch : Itv → Option ℝ}, Strict ch → AlgRel RMem (Alg.realWith ch) B) :
    EvSound fun q b => match Eval.root B b (Eval.buildCalls B q.1) q.2 with
      | some v => (match v.d with | [d] => some d | _ => none)
      | none => none := by
  intro ch hs q b F x m hev hx hm
  simp only at hev
  split at hev
  · rename_i v hroot
    split at hev
    · rename_i d hvd
      simp only [Option.some.injEq] at hev
      have := (Eval.root_rel (hB hs) hx (Eval.buildCalls_rel (hB hs) _) hm hroot).2.2
      rwa [hvd, hev] at this
    · exact absurd hev (by simp)
  · exact absurd hev (by simp)

theorem evalItv1_sound : EvSound Newton.evalItv1 := evSound_of_alg Alg.realWith_itv

theorem evalItv1G_sound (hr : r.Sound) : EvSound (Newton.evalItv1G r) := evSound_of_alg (Alg.realWith_itvG hr)

/-! ### the variables of a box with parameters -/

/-- the point whose coordinates `vars` are those of `y` and whose other coordinates (the parameters) are
    those of `π` -/
def withVars {n : ℕ} (vars : List ℕ) (π : Fin n → ℝ) (y : Fin vars.length → ℝ) (i : Fin n) : ℝ :=
  if hc : vars.idxOf (i : ℕ) < vars.length then y ⟨vars.idxOf (i : ℕ), hc⟩ else π i

theorem withVars_var {n : ℕ} {vars : List ℕ} (hnd : vars.Nodup) (π : Fin n → ℝ) (y : Fin vars.length → ℝ)
    (c : Fin vars.length) {i : Fin n} (hi : (i : ℕ) = vars[(c : ℕ)]) : withVars vars π y i = y c := by
  have hidx : vars.idxOf (i : ℕ) = c := by rw [hi]; exact List.Nodup.idxOf_getElem hnd c c.2
  have hlt : vars.idxOf (i : ℕ) < vars.length := by rw [hidx]; exact c.2
  rw [withVars, dif_pos hlt]
  exact congrArg y (Fin.ext hidx)

theorem withVars_param {n : ℕ} {vars : List ℕ} (π : Fin n → ℝ) (y : Fin vars.length → ℝ) {k : Fin n}
    (hk : (k : ℕ) ∉ vars) : withVars vars π y k = π k :=
  dif_neg fun hlt => hk (List.idxOf_lt_length_iff.1 hlt)

theorem withVars_mem {h : Box} {vars : List ℕ} {π : Fin h.length → ℝ}
    (hπ : ∀ k : Fin h.length, (k : ℕ) ∉ vars → π k ∈ h.getD k .empty) {y : Fin vars.length → ℝ}
    (hy : ∀ c : Fin vars.length, y c ∈ h.getD vars[(c : ℕ)] .empty) :
    Box.Mem (List.ofFn (withVars vars π y)) h := by
  rw [box_mem_ofFn rfl]
  intro k
  by_cases hk : vars.idxOf (k : ℕ) < vars.length
  · have := hy ⟨_, hk⟩
    rw [withVars, dif_pos hk]
    simpa only [List.getElem_idxOf hk] using this
  · rw [withVars, dif_neg hk]
    exact hπ k fun hmem => hk (List.idxOf_lt_length_iff.2 hmem)

theorem withVars_mem_midBox {h : Box} {vars : List ℕ} {π : Fin h.length → ℝ}
    (hπ : ∀ k : Fin h.length, (k : ℕ) ∉ vars → π k ∈ h.getD k .empty) (xm : List ℚ) :
    Box.Mem (List.ofFn (withVars vars π fun c => ((xm.getD c 0 : ℚ) : ℝ))) (Newton.midBox h vars xm) := by
  rw [box_mem_ofFn (midBox_length h vars xm)]
  intro k
  rw [midBox_getD k.2]
  by_cases hk : vars.idxOf (k : ℕ) < vars.length
  · rw [if_pos hk, withVars, dif_pos hk]
    exact mem_point_cast _
  · rw [if_neg hk, withVars, dif_neg hk]
    exact hπ k fun hmem => hk (List.idxOf_lt_length_iff.2 hmem)

/-- slopes with respect to the variables, the parameters being fixed: the row-wise mean value theorem
    (`slope_row`), where the parameters contribute nothing -/
theorem slope_vars {ch : Itv → Option ℝ} {h : Box} {vars : List ℕ} (hvars : ∀ v ∈ vars, v < h.length)
    (hnd : vars.Nodup) {q : List Dag × Dag} {row : List Itv} (hq : RowEncl ch h q row)
    (π : Fin h.length → ℝ) {y y' : Fin vars.length → ℝ}
    (hy : Box.Mem (List.ofFn (withVars vars π y)) h) (hy' : Box.Mem (List.ofFn (withVars vars π y')) h) :
    ∃ a : Fin vars.length → ℝ, (∀ c : Fin vars.length, a c ∈ row.getD vars[(c : ℕ)] .empty) ∧
      valW ch q (withVars vars π y) - valW ch q (withVars vars π y') = ∑ c, a c * (y c - y' c) := by
  obtain ⟨s, hs, hsum⟩ := slope_row (f := valW ch q) (row := row) (fun p hp => (hq.2 p hp).2) hy hy'
  let e : Fin vars.length → Fin h.length := fun c => ⟨vars[(c : ℕ)], hvars _ (List.getElem_mem c.2)⟩
  have hinj : Function.Injective e := fun c1 c2 h12 =>
    Fin.ext ((List.Nodup.getElem_inj_iff hnd).1 (congrArg Fin.val h12))
  refine ⟨fun c => s (e c), fun c => hs (e c), ?_⟩
  rw [hsum, ← sum_comp_inj e hinj (fun j => s j * (withVars vars π y j - withVars vars π y' j))
    fun j hj => by
      have hjv : (j : ℕ) ∉ vars := fun hmem => by
        obtain ⟨c, hc, hcj⟩ := List.getElem_of_mem hmem
        exact hj ⟨c, hc⟩ (Fin.ext hcj)
      rw [withVars_param π y hjv, withVars_param π y' hjv, sub_self, mul_zero]]
  refine Finset.sum_congr rfl fun c _ => ?_
  rw [withVars_var hnd π y c (i := e c) rfl, withVars_var hnd π y' c (i := e c) rfl]

/-! ### soundness for a strict selection -/

/-- **Soundness of the existence certificate** for a strict selection `ch` of the thick constants. -/
theorem exists_zero_strict (hr : r.Sound) (hjac : JacSound jac) (he : EvSound ev) {ch : Itv → Option ℝ}
    (hch : Sel ch) (hstrict : Strict ch) {progs : List (List Dag × Dag)} {h : Box} {vars : List ℕ}
    (hcert : Newton.existCertOf r jac ev progs h vars = true) (π : List ℝ) (hπ : ParamsIn vars π h) :
    ∃ z, Box.Mem z h ∧ SameParams vars z π ∧ ZeroW ch progs z := by
  obtain ⟨hlen, hvars, hnd, jfull, mid, cm, bnds, fm, xm, j, hxm, hj, hJ, hc, hL, hb, hfm, hrow, hK⟩ :=
    exist_unpack hcert
  have hencl := hjac hch hJ
  have hJl : jfull.length = progs.length := hencl.length_eq.symm
  have hfmF := mapM_eq_some_iff.1 hfm
  have hkp : ∀ k : Fin vars.length, (k : ℕ) < progs.length := fun k => by rw [hlen]; exact k.2
  have hcm : cm.length = vars.length := by rw [hc, hJl, hlen]
  have hjl : j.length = vars.length := by rw [← hj, List.length_map, hJl, hlen]
  have hfml : fm.length = vars.length := by rw [← hfmF.length_eq, hlen]
  have hxml : xm.length = vars.length := by
    rw [← hxm, List.length_map, (mapM_eq_some_iff.1 hb).length_eq]
  obtain ⟨lo, hi, hmemI, hxrI⟩ := exists_bounds hb
  rw [hxm] at hxrI
  obtain ⟨π', hπ'⟩ : ∃ π' : Fin h.length → ℝ, ∀ i : Fin h.length, π[(i : ℕ)]? = some (π' i) :=
    ⟨fun i => π[(i : ℕ)]'(by rw [hπ.1]; exact i.2), fun i => List.getElem?_eq_getElem _⟩
  have hπm : ∀ k : Fin h.length, (k : ℕ) ∉ vars → π' k ∈ h.getD k .empty := fun k hk => by
    rw [List.getD_eq_getElem _ _ k.2]
    exact hπ.2 k _ _ hk (hπ' k) (List.getElem?_eq_getElem k.2)
  have hP3 : ∀ y ∈ Set.Icc lo hi, Box.Mem (List.ofFn (withVars vars π' y)) h := fun y hy =>
    withVars_mem hπm fun c => (hmemI c (y c)).2 ⟨hy.1 c, hy.2 c⟩
  -- the slopes of the system as a function of the variables are in the columns `vars` of the Jacobian
  have hslope : ∀ y ∈ Set.Icc lo hi, ∀ y' ∈ Set.Icc lo hi, ∀ k : Fin vars.length,
      ∃ a : Fin vars.length → ℝ, (∀ c : Fin vars.length, a c ∈ (j.getD k []).getD c .empty) ∧
        valW ch (progs[(k : ℕ)]'(hkp k)) (withVars vars π' y) -
          valW ch (progs[(k : ℕ)]'(hkp k)) (withVars vars π' y') = ∑ c, a c * (y c - y' c) := by
    intro y hy y' hy' k
    obtain ⟨hk', hq⟩ := forall₂_getElem hencl (hkp k)
    obtain ⟨a, ha, hsum⟩ := slope_vars hvars hnd hq π' (hP3 y hy) (hP3 y' hy')
    refine ⟨a, fun c => ?_, hsum⟩
    have := ha c
    rw [← hj]
    simp only [List.getD_eq_getElem?_getD, List.getElem?_map, List.getElem?_eq_getElem hk',
      List.getElem?_eq_getElem c.2, Option.map_some, Option.getD_some] at this ⊢
    exact this
  -- enclosure of the system at the midpoint
  have hfmk : ∀ k : Fin vars.length,
      valW ch (progs[(k : ℕ)]'(hkp k)) (withVars vars π' fun c => ((xm.getD c 0 : ℚ) : ℝ)) ∈
        fm.getD k .empty := by
    intro k
    obtain ⟨hk', hrowl, hq⟩ := forall₂_getElem hencl (hkp k)
    obtain ⟨hk2, hev⟩ := forall₂_getElem hfmF (hkp k)
    obtain ⟨mat, hmat, hmd⟩ := (hq _ (hP3 _ hxrI)).1
    rw [List.getD_eq_getElem _ _ hk2]
    have := he hstrict hev (withVars_mem_midBox hπm xm) hmat
    rw [hmd] at this
    exact (List.forall₂_cons.1 this).1
  have hrad : ∀ y ∈ Set.Icc lo hi, ∀ c : Fin vars.length, y c - ((xm.getD c 0 : ℚ) : ℝ) ∈
      (List.zipWith (fun v x => Itv.subG r (h.getD v .empty) (Itv.point x)) vars xm).getD c .empty := by
    intro y hy c
    have hc1 : (c : ℕ) < xm.length := by rw [hxml]; exact c.2
    simp only [List.getD_eq_getElem?_getD, List.getElem?_zipWith, List.getElem?_eq_getElem c.2,
      List.getElem?_eq_getElem hc1, Option.getD_some]
    exact Itv.subG_encl hr ((hmemI c (y c)).2 ⟨hy.1 c, hy.2 c⟩) (mem_point_cast _)
  obtain ⟨z, hzI, hfz⟩ := krawczyk_zero hr lo hi
    (fun k y => valW ch (progs[(k : ℕ)]'(hkp k)) (withVars vars π' y)) hcm hjl hfml (by simp [hxml]) hxrI hrad
    hslope hfmk hL hrow fun i t ht => by
      have := hK i i.2
      rw [List.getD_eq_getElem _ (0 : ℕ) i.2] at this
      exact (hmemI i t).1 (Itv.mem_of_subset this ht)
  refine ⟨List.ofFn (withVars vars π' z), hP3 z hzI, fun i hi => ?_, fun p hp => ?_⟩
  · by_cases hih : i < h.length
    · rw [List.getElem?_eq_getElem (by simpa using hih), hπ' ⟨i, hih⟩, List.getElem_ofFn,
        withVars_param π' z (k := ⟨i, hih⟩) hi]
    · rw [List.getElem?_eq_none (by simpa using hih), List.getElem?_eq_none (by rw [hπ.1]; omega)]
  · obtain ⟨k, hk, rfl⟩ := List.getElem_of_mem hp
    obtain ⟨hk', hrowl, hq⟩ := forall₂_getElem hencl hk
    obtain ⟨mat, hmat, hmd⟩ := (hq _ (hP3 z hzI)).1
    refine ⟨mat, hmat, ?_⟩
    rw [hmd, ← hfz ⟨k, by rw [← hlen]; exact hk⟩]

/-! ### arbitrary selections

  `exists_zero_strict` evaluates the system at the midpoint with `Alg.itvG r`, which encloses the selected
  value of a constant only if the selection is strict.  A selection `ch` with `Sel ch` may give a junk value
  on a constant that has no member; `restrictSel ch` gives none there, is strict, and wherever the system
  has a value under `restrictSel ch` it has the same value under `ch` (`rootW_mono`). -/

open Classical in
noncomputable def restrictSel (ch : Itv → Option ℝ) : Itv → Option ℝ :=
  fun I => if ∃ x : ℝ, x ∈ I then ch I else none

theorem restrictSel_sel {ch : Itv → Option ℝ} (hch : Sel ch) : Sel (restrictSel ch) := by
  intro I hI
  obtain ⟨x, hx, hxI⟩ := hch I hI
  exact ⟨x, by simp only [restrictSel, if_pos hI, hx], hxI⟩

theorem restrictSel_strict {ch : Itv → Option ℝ} (hch : Sel ch) : Strict (restrictSel ch) := by
  intro I x hx
  unfold restrictSel at hx
  split at hx
  · rename_i hI
    obtain ⟨x', hx', hxI⟩ := hch I hI
    rw [hx'] at hx
    simp only [Option.some.injEq] at hx
    exact hx ▸ hxI
  · exact absurd hx (by simp)

theorem rootW_of_restrict {ch : Itv → Option ℝ} {q : List Dag × Dag} {x : List ℝ} {m : Mat ℝ}
    (h : rootW (restrictSel ch) q x = some m) : rootW ch q x = some m :=
  rootW_mono (fun I a hI => by
    unfold restrictSel at hI
    split at hI
    · exact hI
    · cases hI) h

/-- **Soundness of the existence certificate** (thick constants selected by `ch`), for every sound
    rounding pair `r` and all procedures `jac`, `ev` that compute enclosures.
    If `existCertOf r jac ev progs h vars = true` then for every value `π` of the parameters (the coordinates
    outside `vars`) in their ranges in `h`, the system `progs` (thick constants replaced by the members
    selected by `ch`) has a zero `z` in the box `h` whose parameters are `π`. -/
theorem exists_zero_of_cert_sel (hr : r.Sound) (hj : JacSound jac) (he : EvSound ev) {ch : Itv → Option ℝ}
    (hch : Sel ch) {progs : List (List Dag × Dag)} {h : Box} {vars : List ℕ}
    (hcert : Newton.existCertOf r jac ev progs h vars = true) (π : List ℝ) (hπ : ParamsIn vars π h) :
    ∃ z, Box.Mem z h ∧ SameParams vars z π ∧ ZeroW ch progs z := by
  obtain ⟨z, h1, h2, h3⟩ :=
    exists_zero_strict hr hj he (restrictSel_sel hch) (restrictSel_strict hch) hcert π hπ
  refine ⟨z, h1, h2, fun q hq => ?_⟩
  obtain ⟨m, hm, hd⟩ := h3 q hq
  exact ⟨m, rootW_of_restrict hm, hd⟩

/-! ### the point semantics `Alg.real` when no constant is thick -/

def isPoint : Itv → Bool
  | .mk (.fin a) (.fin b) => a == b
  | _ => false

def pointConstsDag (d : Dag) : Bool :=
  d.toList.all fun n => match n.k with | .const vs => vs.all isPoint | _ => true

/-- every interval constant of the system is a point (no thick constant) -/
def pointConsts (progs : List (List Dag × Dag)) : Bool :=
  progs.all fun p => p.1.all pointConstsDag && pointConstsDag p.2

theorem chReal_of_isPoint {I : Itv} (h : isPoint I = true) : chReal I = realOfItv I := by
  unfold isPoint at h
  split at h
  · rename_i a b
    have hab : a = b := by simpa using h
    subst hab
    simp [chReal, realOfItv]
  · exact absurd h (by simp)

theorem nodeVal_realWith {ch : Itv → Option ℝ} (env : List ℝ) (call : Nat → List (Mat ℝ) → Option (Mat ℝ))
    (vals : Array (Mat ℝ)) (n : Node) (hn : ∀ vs, n.k = .const vs → ∀ I ∈ vs, ch I = realOfItv I) :
    Eval.nodeVal (Alg.realWith ch) env call vals n = Eval.nodeVal Alg.real env call vals n := by
  obtain ⟨k, r, c⟩ := n
  cases k with
  | const vs =>
    have : vs.mapM (Alg.realWith ch).ofItv = vs.mapM Alg.real.ofItv :=
      mapM_congr_mem vs fun I hI => hn vs rfl I hI
    simp only [Eval.nodeVal, this]
  | _ => rfl

theorem root_realWith {ch : Itv → Option ℝ} (env : List ℝ) (call : Nat → List (Mat ℝ) → Option (Mat ℝ))
    (d : Dag) (hd : ∀ n ∈ d.toList, ∀ vs, n.k = .const vs → ∀ I ∈ vs, ch I = realOfItv I) :
    Eval.root (Alg.realWith ch) env call d = Eval.root Alg.real env call d := by
  unfold Eval.root
  rw [Eval.run_eq, Eval.run_eq]
  congr 1
  refine foldlM_congr_mem _ _ fun n hn vals => ?_
  unfold Eval.step
  rw [nodeVal_realWith env call vals n (hd n hn)]

theorem buildCalls_realWith {ch : Itv → Option ℝ} (funs : List Dag)
    (hf : ∀ d ∈ funs, ∀ n ∈ d.toList, ∀ vs, n.k = .const vs → ∀ I ∈ vs, ch I = realOfItv I) :
    Eval.buildCalls (Alg.realWith ch) funs = Eval.buildCalls Alg.real funs :=
  Eval.buildCalls_induction (P := fun t1 t2 => t1 = t2) funs rfl fun d hd k t1 t2 ht => by
    subst ht
    funext i args
    rw [root_realWith _ _ _ (hf d hd)]

theorem pointConstsDag_spec {d : Dag} (h : pointConstsDag d = true) :
    ∀ n ∈ d.toList, ∀ vs, n.k = .const vs → ∀ I ∈ vs, chReal I = realOfItv I := by
  intro n hn vs hk I hI
  unfold pointConstsDag at h
  rw [List.all_eq_true] at h
  have := h n hn
  rw [hk] at this
  simp only [List.all_eq_true] at this
  exact chReal_of_isPoint (this I hI)

/-- without thick constants, the selection semantics `chReal` IS the point semantics -/
theorem rootW_eq_rootR {progs : List (List Dag × Dag)} (hpc : pointConsts progs = true)
    {q : List Dag × Dag} (hq : q ∈ progs) (x : List ℝ) : rootW chReal q x = rootR q x := by
  unfold pointConsts at hpc
  rw [List.all_eq_true] at hpc
  have := hpc q hq
  simp only [Bool.and_eq_true, List.all_eq_true] at this
  unfold rootW rootR
  rw [buildCalls_realWith q.1 fun d hd => pointConstsDag_spec (this.1 d hd),
    root_realWith _ _ _ (pointConstsDag_spec this.2)]

theorem ZeroW.toZero {progs : List (List Dag × Dag)} (hpc : pointConsts progs = true) {z : List ℝ}
    (h : ZeroW chReal progs z) : Zero progs z := fun q hq => by
  obtain ⟨m, hm, hd⟩ := h q hq
  exact ⟨m, by rw [← rootW_eq_rootR hpc hq]; exact hm, hd⟩

/-- **Soundness of the existence certificate, real semantics** (systems without thick constants), for every
    sound rounding pair and all procedures that compute enclosures. -/
theorem exists_zero_of_certOf (hr : r.Sound) (hj : JacSound jac) (he : EvSound ev)
    {progs : List (List Dag × Dag)} {h : Box} {vars : List ℕ} (hpc : pointConsts progs = true)
    (hcert : Newton.existCertOf r jac ev progs h vars = true) (π : List ℝ) (hπ : ParamsIn vars π h) :
    ∃ z, Box.Mem z h ∧ SameParams vars z π ∧ Zero progs z := by
  obtain ⟨z, h1, h2, h3⟩ := exists_zero_of_cert_sel hr hj he chReal_sel hcert π hπ
  exact ⟨z, h1, h2, h3.toZero hpc⟩

/-- **Soundness of the existence certificate, real semantics** (systems without thick constants).
    If `existCertVars progs h vars = true` and every interval constant of `progs` is a point, then for
    every value `π` of the parameters in their ranges in `h` the system has a zero (point semantics
    `Alg.real`) in `h` with these parameters. -/
theorem exists_zero_of_cert {progs : List (List Dag × Dag)} {h : Box} {vars : List ℕ}
    (hpc : pointConsts progs = true)
    (hcert : Newton.existCertVars progs h vars = true) (π : List ℝ) (hπl : π.length = h.length)
    (hπ : ∀ i t I, i ∉ vars → π[i]? = some t → h[i]? = some I → t ∈ I) :
    ∃ z, Box.Mem z h ∧ (∀ i, i ∉ vars → z[i]? = π[i]?) ∧ Zero progs z := by
  exact exists_zero_of_certOf Rnd.dbl_sound jacobian_sound evalItv1_sound hpc hcert π ⟨hπl, hπ⟩

theorem exists_zero_square_sel (hr : r.Sound) (hj : JacSound jac) (he : EvSound ev) {ch : Itv → Option ℝ}
    (hch : Sel ch) {progs : List (List Dag × Dag)} {h : Box}
    (hcert : Newton.existCertOf r jac ev progs h (List.range h.length) = true) :
    ∃ z, Box.Mem z h ∧ ZeroW ch progs z := by
  obtain ⟨z, h1, _, h3⟩ := exists_zero_of_cert_sel hr hj he hch hcert (List.replicate h.length 0)
    ⟨by simp, fun i t I hi ht _ => by
      have hi' : ¬ i < h.length := by simpa using hi
      rw [List.getElem?_eq_none (by simpa using hi')] at ht
      cases ht⟩
  exact ⟨z, h1, h3⟩

/-- square case (no parameter, no thick constant): the box contains a zero -/
theorem exists_zero_square (hr : r.Sound) (hj : JacSound jac) (he : EvSound ev)
    {progs : List (List Dag × Dag)} {h : Box} (hpc : pointConsts progs = true)
    (hcert : Newton.existCertOf r jac ev progs h (List.range h.length) = true) :
    ∃ z, Box.Mem z h ∧ Zero progs z := by
  obtain ⟨z, h1, h3⟩ := exists_zero_square_sel hr hj he chReal_sel hcert
  exact ⟨z, h1, h3.toZero hpc⟩

/-! ### replacement of a cell by a CERTIFIED existence box -/

/-- `replace_sound_sel` where the existence hypothesis is discharged by the existence certificate -/
theorem replace_sound_sel' (hr : r.Sound) (hj : JacSound jac) (he : EvSound ev) {ch : Itv → Option ℝ}
    (hch : Sel ch) {progs : List (List Dag × Dag)} {c e : Box} {vars : List ℕ}
    (hcert : Newton.replaceCertOf r jac progs c e vars = true)
    (hE : Newton.existCertOf r jac ev progs e vars = true)
    {p : List ℝ} (hp : Box.Mem p c) (hz : ZeroW ch progs p) : Box.Mem p e :=
  replace_sound_sel hr hj hch hcert (fun π hπ => exists_zero_of_cert_sel hr hj he hch hE π hπ) hp hz

/-- **Soundness of the replacement certificate, real semantics, no assumption left**, for every sound rounding
    pair and all procedures that compute enclosures. -/
theorem replace_sound' (hr : r.Sound) (hj : JacSound jac) (he : EvSound ev) {progs : List (List Dag × Dag)}
    {c e : Box} {vars : List ℕ} (hcert : Newton.replaceCertOf r jac progs c e vars = true)
    (hE : Newton.existCertOf r jac ev progs e vars = true)
    {p : List ℝ} (hp : Box.Mem p c) (hz : Zero progs p) : Box.Mem p e :=
  replace_sound_sel' hr hj he chReal_sel hcert hE hp hz.toW

/-- **Soundness of the replacement certificate, real semantics, no assumption left.**  If
    `replaceCert progs c e vars = true` and `existCertVars progs e vars = true` then every zero (point
    semantics) of the system in the cell `c` belongs to `e`. -/
theorem replaceCert_sound' {progs : List (List Dag × Dag)} {c e : Box} {vars : List ℕ}
    (hcert : Newton.replaceCert progs c e vars = true) (hE : Newton.existCertVars progs e vars = true)
    {p : List ℝ} (hp : Box.Mem p c) (hz : Zero progs p) : Box.Mem p e :=
  replace_sound' Rnd.dbl_sound jacobian_sound evalItv1_sound hcert hE hp hz

/-! ### existence and uniqueness -/

/-- **Exactly one zero** (thick constants selected by `ch`): if the existence certificate holds on `e`,
    the uniqueness certificate on `u` and `e ⊆ u`, then for every value `π` of the parameters
    in their ranges in `e`, the system has a zero `z` in `e` with these parameters, and every zero in
    the (larger) box `u` with these parameters is `z`. -/
theorem exists_unique_zero_sel (hr : r.Sound) (hj : JacSound jac) (he : EvSound ev) {ch : Itv → Option ℝ}
    (hch : Sel ch) {progs : List (List Dag × Dag)} {e u : Box} {vars : List ℕ}
    (hE : Newton.existCertOf r jac ev progs e vars = true)
    (hU : Newton.uniqueCertOf r jac progs u vars = true) (hsub : Box.subset e u = true)
    (π : List ℝ) (hπ : ParamsIn vars π e) :
    ∃ z, (Box.Mem z e ∧ SameParams vars z π ∧ ZeroW ch progs z) ∧
      ∀ z', Box.Mem z' u → SameParams vars z' π → ZeroW ch progs z' → z' = z := by
  obtain ⟨z, h1, h2, h3⟩ := exists_zero_of_cert_sel hr hj he hch hE π hπ
  refine ⟨z, ⟨h1, h2, h3⟩, fun z' hz' hpar hzero => ?_⟩
  exact unique_of_cert_sel hr hj hch hU hz' (Box.subset_sound hsub h1)
    (fun k hk => (hpar k hk).trans (h2 k hk).symm) (hzero.same_values h3)

/-- **Exactly one zero, real semantics** (systems without thick constants). -/
theorem exists_unique_zero_of_certOf (hr : r.Sound) (hj : JacSound jac) (he : EvSound ev)
    {progs : List (List Dag × Dag)} {e u : Box} {vars : List ℕ} (hpc : pointConsts progs = true)
    (hE : Newton.existCertOf r jac ev progs e vars = true)
    (hU : Newton.uniqueCertOf r jac progs u vars = true) (hsub : Box.subset e u = true)
    (π : List ℝ) (hπ : ParamsIn vars π e) :
    ∃ z, (Box.Mem z e ∧ SameParams vars z π ∧ Zero progs z) ∧
      ∀ z', Box.Mem z' u → SameParams vars z' π → Zero progs z' → z' = z := by
  obtain ⟨z, ⟨h1, h2, h3⟩, h4⟩ := exists_unique_zero_sel hr hj he chReal_sel hE hU hsub π hπ
  exact ⟨z, ⟨h1, h2, h3.toZero hpc⟩, fun z' a b c => h4 z' a b c.toW⟩

/-- **Exactly one zero, real semantics** (systems without thick constants). -/
theorem exists_unique_zero {progs : List (List Dag × Dag)} {e u : Box} {vars : List ℕ}
    (hpc : pointConsts progs = true) (hcert : Newton.existUniqueCertVars progs e u vars = true)
    (π : List ℝ) (hπl : π.length = e.length)
    (hπ : ∀ i t I, i ∉ vars → π[i]? = some t → e[i]? = some I → t ∈ I) :
    ∃ z, (Box.Mem z e ∧ (∀ i, i ∉ vars → z[i]? = π[i]?) ∧ Zero progs z) ∧
      ∀ z', Box.Mem z' u → (∀ i, i ∉ vars → z'[i]? = π[i]?) → Zero progs z' → z' = z := by
  simp only [Newton.existUniqueCertVars, Bool.and_eq_true] at hcert
  exact exists_unique_zero_of_certOf Rnd.dbl_sound jacobian_sound evalItv1_sound hpc hcert.1.1 hcert.1.2 hcert.2
    π ⟨hπl, hπ⟩

/-! ### non-vacuity -/

/-- `x² − 2`: accepted on `[1.4,1.45]` and on `[1,2]` (both contain `√2`, the Krawczyk operator
    contracts), rejected on `[1.42,1.45]` (no zero) and on `[−2,2]` (singular Jacobian) -/
example : Newton.existCert [([], sqDag)] [I (14/10) (145/100)] = true := by decide +kernel
example : Newton.existCert [([], sqDag)] [I 1 2] = true := by decide +kernel
example : Newton.existCert [([], sqDag)] [I (142/100) (145/100)] = false := by decide +kernel
example : Newton.existCert [([], sqDag)] [I (-2) 2] = false := by decide +kernel
/-- unbounded or ill-formed boxes are rejected -/
example : Newton.existCert [([], sqDag)] [Itv.mk (.fin 1) .pinf] = false := by decide +kernel
example : Newton.existCert [([], sqDag)] [I 2 1] = false := by decide +kernel

/-- `x² + 1` has no zero: rejected on every box tried -/
def sqP1 : Dag :=
  #[⟨.var 0, 1, 1⟩, ⟨.un "sqr" 0, 1, 1⟩, ⟨.const [Itv.point 1], 1, 1⟩, ⟨.bin "add" 1 2, 1, 1⟩]
example : Newton.existCert [([], sqP1)] [I (-1) 1] = false := by decide +kernel
example : Newton.existCert [([], sqP1)] [I 1 2] = false := by decide +kernel
example : Newton.existCert [([], sqP1)] [I (1/10) 100] = false := by decide +kernel

/-- 2×2: circle and diagonal, accepted around `(√½,√½)`, rejected on `[−1,1]²` and away from the zero -/
example : Newton.existCert [([], circ), ([], diag)] [I (7/10) (72/100), I (7/10) (72/100)] = true := by
  decide +kernel
example : Newton.existCert [([], circ), ([], diag)] [I (1/2) 1, I (1/2) 1] = true := by decide +kernel
example : Newton.existCert [([], circ), ([], diag)] [I (-1) 1, I (-1) 1] = false := by decide +kernel
example : Newton.existCert [([], circ), ([], diag)] [I (8/10) 1, I (8/10) 1] = false := by decide +kernel

/-- one equation `x² + y² = 1`, variable `x`, parameter `y ∈ [0.5,0.6]`: for EVERY such `y` there is a zero
    `x ∈ [0.78,0.88]`; the same with the roles exchanged; a repeated variable is rejected; too small a
    range for `x` (the zero leaves it when `y` moves) is rejected -/
example : Newton.existCertVars [([], circ)] [I (78/100) (88/100), I (1/2) (6/10)] [0] = true := by
  decide +kernel
example : Newton.existCertVars [([], circ)] [I (1/2) (6/10), I (78/100) (88/100)] [1] = true := by
  decide +kernel
example : Newton.existCertVars [([], circ)] [I (78/100) (88/100), I (1/2) (6/10)] [0, 0] = false := by
  decide +kernel
example : Newton.existCertVars [([], circ)] [I (84/100) (88/100), I (1/2) (6/10)] [0] = false := by
  decide +kernel
/-- existence in `[1.4,1.45]`, uniqueness in `[1,2]` -/
example : Newton.existUniqueCertVars [([], sqDag)] [I (14/10) (145/100)] [I 1 2] [0] = true := by
  decide +kernel
example : pointConsts [([], sqDag)] = true := by decide +kernel
/-- a thick constant: `x² − [2,3]`, accepted (existence for every selection of the constant) -/
def sqThick : Dag :=
  #[⟨.var 0, 1, 1⟩, ⟨.un "sqr" 0, 1, 1⟩, ⟨.const [I 2 3], 1, 1⟩, ⟨.bin "sub" 1 2, 1, 1⟩]
example : Newton.existCert [([], sqThick)] [I 1 2] = true := by decide +kernel
example : pointConsts [([], sqThick)] = false := by decide +kernel

/-- end to end: the certificate PROVES that `x² − 2` has a zero in `[1.4,1.45]` -/
theorem sqrt_two_exists : ∃ a : ℝ, (1.4 ≤ a ∧ a ≤ 1.45) ∧ a * a - 2 = 0 := by
  obtain ⟨a, ha, h0⟩ := sq_zero_of_exists (exists_zero_square Rnd.dbl_sound jacobian_sound evalItv1_sound
    (progs := [([], sqDag)]) (h := [I (14/10) (145/100)]) (by decide +kernel) (by decide +kernel))
  norm_num at ha ⊢
  exact ⟨a, ha, h0⟩

/-- … and exactly one in `[1,2]` -/
theorem sqrt_two_exists_unique : ∃! a : ℝ, (1 ≤ a ∧ a ≤ 2) ∧ a * a - 2 = 0 := by
  obtain ⟨a, ha, h0⟩ := sqrt_two_exists
  have ha' : (1 : ℝ) ≤ a ∧ a ≤ 2 := ⟨by linarith [ha.1], by linarith [ha.2]⟩
  refine ⟨a, ⟨ha', h0⟩, fun b hb => ?_⟩
  have := unique_zero_square Rnd.dbl_sound jacobian_sound (progs := [([], sqDag)]) (h := [I 1 2])
    (by decide +kernel) (mem_box_one.2 (by simpa using hb.1)) (mem_box_one.2 (by simpa using ha'))
    (zero_sqDag.2 hb.2) (zero_sqDag.2 h0)
  simpa using this

theorem circ_root (x y : ℝ) : rootR ([], circ) [x, y] = some (Mat.scalar (x * x + y * y - 1)) := by
  simp +decide only [rootR, circ, dag_eval]

theorem circ_zero_of_exists {a b c d : ℚ} {y : ℝ} (hy : (c : ℝ) ≤ y ∧ y ≤ (d : ℝ))
    (hex : ∀ π, ParamsIn [0] π [I a b, I c d] →
      ∃ z, Box.Mem z [I a b, I c d] ∧ SameParams [0] z π ∧ Zero [([], circ)] z) :
    ∃ x : ℝ, ((a : ℝ) ≤ x ∧ x ≤ (b : ℝ)) ∧ x * x + y * y - 1 = 0 := by
  obtain ⟨z, hz, hpar, hzero⟩ := hex [0, y] ⟨rfl, by
    intro i t J hi ht hJ
    match i, hi, ht, hJ with
    | 1, _, ht, hJ =>
      simp only [List.getElem?_cons_succ, List.getElem?_cons_zero, Option.some.injEq] at ht hJ
      subst ht; subst hJ
      exact mem_fin_iff.2 hy
    | 0, hi, _, _ => exact absurd (by simp) hi
    | (i + 2), _, ht, _ => simp at ht⟩
  obtain ⟨x, y', rfl⟩ : ∃ x y', z = [x, y'] := by
    have := hz.length_eq
    match z, this with
    | [a, b], _ => exact ⟨a, b, rfl⟩
  have hy' : y' = y := by
    have := hpar 1 (by simp)
    simpa using this
  subst hy'
  refine ⟨x, mem_fin_iff.1 (List.forall₂_cons.1 hz).1, ?_⟩
  obtain ⟨m, hm, hd⟩ := hzero _ (List.mem_singleton.2 rfl)
  rw [circ_root x y'] at hm
  cases hm
  simpa [Mat.scalar] using hd

/-- end to end with a parameter: for EVERY `y ∈ [0.5,0.6]` the circle has a point `(x,y)` with
    `x ∈ [0.78,0.88]` -/
theorem circle_param (y : ℝ) (hy : 0.5 ≤ y ∧ y ≤ 0.6) : ∃ x : ℝ, (0.78 ≤ x ∧ x ≤ 0.88) ∧ x * x + y * y - 1 = 0 := by
  obtain ⟨x, hx, h0⟩ := circ_zero_of_exists (a := 78/100) (b := 88/100) (c := 1/2) (d := 6/10) (y := y)
    (by norm_num at hy ⊢; exact hy)
    fun π hπ => exists_zero_of_cert (progs := [([], circ)]) (h := [I (78/100) (88/100), I (1/2) (6/10)])
      (vars := [0]) (by decide +kernel) (by decide +kernel) π hπ.1 hπ.2
  norm_num at hx ⊢
  exact ⟨x, hx, h0⟩

end Ibex.C09
