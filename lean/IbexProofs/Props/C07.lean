/-
  C07 — the optimizer's bounds [uplo, loup] enclose the global minimum; the loup point is feasible; SUCCESS means the
  requested precision; INFEASIBLE means no feasible point.

  What runs at run time: a REAL `Optimizer` (assembled by hand from the real contractors, bisectors, loup finders and
  cell buffers: this configuration has no LP library) is run on generated problems; the driver decides the verdict
  `Optim.resultOk` on its output with exact rational arithmetic (`IbexModel/Optim.lean`).  The theorems below say what
  an accepted output means over the REALS (real semantics `Alg.real` of the dumped expression DAGs, C02):

    * `bounds_ordered`               uplo ≤ loup ≤ initial loup
    * `lower_bound_on_checked_points` uplo ≤ f(p) at every planted / sampled point that is exactly feasible
    * `lower_bound_universal`        with an accepted certificate `f ≡ c + Σ w q² + Σ λ s` (w, λ ≥ 0, s slacks of the box and of
                                     the constraints; identity checked by the verified normal form of C11) and `uplo ≤ c`:
                                     `uplo ≤ f(x)` for EVERY feasible real point x of the box — the universal claim of the
                                     property, derived, not sampled; `certified_minimum`: when moreover f(p*) = c at the planted
                                     feasible point, c IS the global minimum
    * `cover_lower_bound`            history-independent: the real search is logged through wrappers around its buffer, bisector and
                                     contractor; if the verified replay `OptCover.checkOk` accepts the log for the threshold U = uplo
                                     (every cell split into covering halves; goal domains only cut above U; every dropped box empty or
                                     with goal lower bound ≥ U; same for the cells left in the buffer) and the logged contractions are
                                     sound (C04), then `uplo ≤ f(x)` for EVERY feasible real x — for ANY problem, no known minimum needed
    * `minimizer_lower_bound`        the same conclusion from the hypothesis "p* is a global minimiser" (families without
                                     certificate); `sepquad_ge`, `sepquad_box_ge`: that hypothesis proved for the convex
                                     separable family Σ wᵢ (xᵢ-aᵢ)² + c (minimiser = projection of a on the box)
    * `witness_exact` / `witness_interval` / `witness_rigor`   the loup point is feasible for the eps_h-relaxed problem, lies
                                     in the initial box, and f ≤ loup (rigor mode: every point of the thin box lies in the
                                     initial box and has f ≤ loup; that the box contains an exactly feasible point is the
                                     existence claim of C09)
    * `witness_refuted_box` / `witness_refuted_point`   what a REFUTED loup point means (`witBoxRefuted_sound`,
                                     `witRefuted_sound`, `infeasQ_sound`): the point is NOT a feasible real point with f ≤ loup;
                                     the thin box is empty, leaves the initial box, violates a constraint at every real point
                                     where it is defined, or has an objective enclosure above loup
    * `success_precision`            SUCCESS ⇒ the documented precision test holds on the exact values, and a witness is given
    * `infeasible_sound`             INFEASIBLE ⇒ none of the checked points is feasible (below the initial loup)
    * `resumed_sound` (C18, optimizer half)  an accepted interrupted-saved-reloaded-resumed run satisfies all of the above,
                                     its loup is not above the loup saved at any interruption, and an inherited loup that
                                     was not improved keeps its loup point unchanged

  Level: the universal quantification over problems/configurations/histories is on the CHECKER side (any accepted output of
  any run has the stated meaning); that the C++ always produces accepted outputs is sampled (known-minimum oracle).
-/
import IbexProofs.Optim
import IbexProofs.OptCover
import Mathlib.Algebra.BigOperators.Group.Finset.Basic
import Mathlib.Algebra.Order.BigOperators.Group.Finset

namespace Ibex.C07
open Ibex Ibex.Optim Ibex.Eval

structure Accepted (P : Problem) (R : Run) (res : Result) (pts : List (List ℚ)) : Prop where
  bounds : boundsOk R res = true
  status : statusOk R res = true
  lower : lowerOk P res.uplo pts = true
  infeas : infeasOk P R res pts = true
  wit : (match witness (witProblem P R) R res with | .refuted => false | .undecided => false | _ => true) = true

theorem accepted {P : Problem} {R : Run} {res : Result} {pts : List (List ℚ)}
    (h : resultOk P R res pts = true) : Accepted P R res pts := by
  simp only [resultOk, Bool.and_eq_true] at h
  exact ⟨h.1.1.1.1, h.1.1.1.2, h.1.1.2, h.1.2, h.2⟩

/-! ## bounds -/

theorem bounds_ordered {P : Problem} {R : Run} {res : Result} {pts : List (List ℚ)}
    (h : resultOk P R res pts = true) : res.uplo.toE ≤ res.loup.toE ∧ res.loup.toE ≤ R.initLoup.toE := by
  have hb := (accepted h).bounds
  simp only [boundsOk, Bool.and_eq_true] at hb
  exact ⟨(Ext.le_iff _ _).1 hb.1, (Ext.le_iff _ _).1 hb.2⟩

/-- every checked point that is feasible (decided exactly; it is then a feasible REAL point, `feasQ_sound`)
    has an objective value (the real value of the objective, `evalQ_real`) not below `uplo` -/
theorem lower_bound_on_checked_points {P : Problem} {R : Run} {res : Result} {pts : List (List ℚ)}
    (h : resultOk P R res pts = true) {p : List ℚ} (hp : p ∈ pts) (hf : feasQ P p = true) {v : ℚ}
    (hv : evalQ P.obj p = some v) :
    Feasible P (castPt p) ∧ RealVal P.obj (castPt p) (v : ℝ) ∧ res.uplo.toE ≤ (((v : ℚ) : ℝ) : EReal) := by
  exact ⟨feasQ_sound hf, evalQ_real hv, lowerOk_sound (accepted h).lower hp hf hv⟩

/-- **the universal lower bound**: with an accepted certificate and `uplo ≤ c`, NO feasible real point of the box has
    an objective value below `uplo` -/
theorem lower_bound_universal {P : Problem} {C : Cert} {uplo : Ext} (h : certLowerOk P C uplo = true)
    {ρ : List ℝ} (hf : Feasible P ρ) {v : ℝ} (hv : RealVal P.obj ρ v) : uplo.toE ≤ ((v : ℝ) : EReal) := by
  simp only [certLowerOk, Bool.and_eq_true] at h
  have h1 : uplo.toE ≤ (((C.c : ℚ) : ℝ) : EReal) := by simpa using (Ext.le_iff _ _).1 h.2
  exact le_trans h1 (EReal.coe_le_coe_iff.2 (Cert.okB_sound h.1 hf hv))

/-- the certified value is THE global minimum when it is attained at the planted feasible point -/
theorem certified_minimum {P : Problem} {C : Cert} (h : C.ok P = true) {p : List ℚ} (hp : feasQ P p = true)
    (hv : evalQ P.obj p = some C.c) :
    IsLeast {v : ℝ | ∃ ρ, Feasible P ρ ∧ RealVal P.obj ρ v} (C.c : ℝ) :=
  ⟨⟨castPt p, feasQ_sound hp, evalQ_real hv⟩, fun _ ⟨_, hf, hv'⟩ => Cert.okB_sound h hf hv'⟩

/-- families without certificate: from "p* is a global minimiser" (hypothesis supplied by the construction of the
    family) and `uplo ≤ f(p*)` (checked), the universal claim -/
theorem minimizer_lower_bound {P : Problem} {uplo : Ext} {fstar : ℝ}
    (hmin : ∀ ρ v, Feasible P ρ → RealVal P.obj ρ v → fstar ≤ v) (hu : uplo.toE ≤ ((fstar : ℝ) : EReal))
    {ρ : List ℝ} (hf : Feasible P ρ) {v : ℝ} (hv : RealVal P.obj ρ v) : uplo.toE ≤ ((v : ℝ) : EReal) :=
  le_trans hu (EReal.coe_le_coe_iff.2 (hmin ρ v hf hv))

/-- the convex separable family: `c` is a lower bound of `Σ wᵢ (xᵢ-aᵢ)² + c`, attained at `a` -/
theorem sepquad_ge {n : ℕ} (w a x : Fin n → ℝ) (hw : ∀ i, 0 ≤ w i) (c : ℝ) :
    c ≤ (∑ i, w i * (x i - a i) ^ 2) + c ∧ (∑ i, w i * (a i - a i) ^ 2) + c = c := by
  refine ⟨le_add_of_nonneg_left (Finset.sum_nonneg fun i _ => mul_nonneg (hw i) (sq_nonneg _)), ?_⟩
  simp

/-- … over a box: the minimiser is the projection `p` of `a` on the box (component-wise clamp) -/
theorem sepquad_box_ge {n : ℕ} (w a l u x : Fin n → ℝ) (hw : ∀ i, 0 ≤ w i) (c : ℝ)
    (hx : ∀ i, l i ≤ x i ∧ x i ≤ u i) (hlu : ∀ i, l i ≤ u i) :
    (∑ i, w i * (max (l i) (min (a i) (u i)) - a i) ^ 2) + c ≤ (∑ i, w i * (x i - a i) ^ 2) + c := by
  refine add_le_add_left (Finset.sum_le_sum fun i _ => mul_le_mul_of_nonneg_left ?_ (hw i)) c
  obtain ⟨h1, h2⟩ := hx i
  have h3 := hlu i
  rcases le_total (a i) (u i) with h | h
  · rw [min_eq_left h]
    rcases le_total (l i) (a i) with h' | h'
    · rw [max_eq_right h', sub_self, zero_pow two_ne_zero]; exact sq_nonneg _
    · rw [max_eq_left h']
      exact pow_le_pow_left₀ (sub_nonneg.2 h') (sub_le_sub_right h1 _) 2
  · rw [min_eq_right h, max_eq_right h3, sub_sq_comm (u i), sub_sq_comm (x i)]
    exact pow_le_pow_left₀ (sub_nonneg.2 h) (sub_le_sub_left h2 _) 2

/-! ## the loup point -/

/-- a point witness decided exactly: feasible for the eps_h-relaxed problem (in the initial box, every constraint
    defined and satisfied, equalities within eps_h), objective defined and `≤ loup` -/
theorem witness_exact {P : Problem} {R : Run} {res : Result} (h : witness P R res = .exact) :
    ∃ p, pointOf res.lp = some p ∧ Feasible P (castPt p) ∧
      ∃ v, RealVal P.obj (castPt p) v ∧ ((v : ℝ) : EReal) ≤ res.loup.toE := by
  obtain ⟨-, p, hp, h1⟩ := witness_spec h
  exact ⟨p, hp, witExact_sound h1⟩

/-- a point witness decided by interval evaluation (exact evaluation undefined, e.g. an irrational square root) -/
theorem witness_interval {P : Problem} {R : Run} {res : Result} (h : witness P R res = .interval) :
    ∃ p, pointOf res.lp = some p ∧ WitOn P res.loup (castPt p) := by
  obtain ⟨-, p, hp, h1⟩ := witness_spec h
  exact ⟨p, hp, witItv_sound h1 (pointOf_mem hp)⟩

/-- rigor mode: every real point of the thin loup box lies in the initial box and has `f ≤ loup` -/
theorem witness_rigor {P : Problem} {R : Run} {res : Result} (h : witness P R res = .rigorBox) :
    R.rigor = true ∧ ∀ ρ, Box.Mem ρ res.lp →
      Box.Mem ρ P.box ∧ ∀ v, RealVal P.obj ρ v → ((v : ℝ) : EReal) ≤ res.loup.toE := by
  obtain ⟨-, -, hr, h1⟩ := witness_spec h
  exact ⟨hr, fun ρ hρ => witRigor_sound h1 hρ⟩

/-- rigor mode, a REFUTED thin box (`pointOf res.lp = none`): a witness was due (`loup` below the initial loup) and the
    box is empty, or leaves the initial box, or some constraint is violated at EVERY real point of the box at which it is
    defined (equalities judged exactly: `epsH = 0`), or the model's enclosure of the objective on the box exceeds `loup`
    (`witBoxRefuted_sound` with `rigor := true`) -/
theorem witness_refuted_box {P : Problem} {R : Run} {res : Result} (hp : pointOf res.lp = none)
    (hr : R.rigor = true) (h : witness P R res = .refuted) :
    res.loup.toE < R.initLoup.toE ∧
    (Box.isEmpty res.lp = true ∨ Box.subset res.lp P.box = false ∨
      (∃ c ∈ P.ctrs, ∀ ρ, Box.Mem ρ res.lp → ∀ v, RealVal c.1 ρ v → ¬ SpecHolds (0 : ℝ) c.2 v) ∨
      (∃ lo hi, itvVal P.obj res.lp = some (.mk lo hi) ∧ Ext.le hi res.loup = false)) := by
  obtain ⟨hlt, h1⟩ := witness_spec h
  rw [hp, hr] at h1
  exact ⟨(Ext.lt_iff _ _).1 hlt, by simpa only [↓reduceIte] using witBoxRefuted_sound (h1.resolve_left Bool.true_eq_false.mp)⟩

/-- a REFUTED point witness: a witness was due, and either the exact checker refutes the point — then it is NOT a
    feasible real point with `f ≤ loup` (`witRefuted_sound`) — or the point lies outside the definition domain of the
    objective or of a constraint (`witUndefined`, a diagnosis of the interval model) -/
theorem witness_refuted_point {P : Problem} {R : Run} {res : Result} {p : List ℚ} (hp : pointOf res.lp = some p)
    (h : witness P R res = .refuted) :
    res.loup.toE < R.initLoup.toE ∧
    ((witRefuted P res.loup p = true ∧
        ¬ (Feasible P (castPt p) ∧ ∃ v, RealVal P.obj (castPt p) v ∧ ((v : ℝ) : EReal) ≤ res.loup.toE)) ∨
      witUndefined P res.lp = true) := by
  obtain ⟨hlt, h1⟩ := witness_spec h
  rw [hp] at h1
  exact ⟨(Ext.lt_iff _ _).1 hlt, h1.imp_left fun h2 => ⟨h2, witRefuted_sound h2⟩⟩

/-- rigor mode: the witness is judged against the ORIGINAL problem (`witProblem`): a point returned in rigor mode satisfies
    every equality EXACTLY (`epsH = 0`), not within the relaxation `eps_h` -/
theorem witness_exact_rigor {P : Problem} {R : Run} {res : Result} (hr : R.rigor = true)
    (h : witness (witProblem P R) R res = .exact) :
    ∃ p, pointOf res.lp = some p ∧ Feasible { P with epsH := 0 } (castPt p) ∧
      ∃ v, RealVal P.obj (castPt p) v ∧ ((v : ℝ) : EReal) ≤ res.loup.toE := by
  have hP : witProblem P R = { P with epsH := 0 } := by simp [witProblem, hr]
  rw [hP] at h
  exact witness_exact h

/-- an accepted result has a verified witness as soon as `loup` is below the initial loup -/
theorem witness_due {P : Problem} {R : Run} {res : Result} {pts : List (List ℚ)}
    (h : resultOk P R res pts = true) (hl : res.loup.toE < R.initLoup.toE) :
    witness (witProblem P R) R res = .exact ∨ witness (witProblem P R) R res = .interval ∨ witness (witProblem P R) R res = .rigorBox := by
  have hw := (accepted h).wit
  have hlt : Ext.lt res.loup R.initLoup = true := (Ext.lt_iff _ _).2 hl
  cases hwit : witness (witProblem P R) R res with
  | exact => exact Or.inl rfl
  | interval => exact Or.inr (Or.inl rfl)
  | rigorBox => exact Or.inr (Or.inr rfl)
  | undecided => rw [hwit] at hw; cases hw
  | refuted => rw [hwit] at hw; cases hw
  | none => exact absurd (hlt.symm.trans (witness_spec hwit)) Bool.true_eq_false.mp

/-! ## status -/

/-- SUCCESS ⇒ the precision test of the optimizer holds for the exact values of `uplo`, `loup`, and a
    verified witness is given -/
theorem success_precision {P : Problem} {R : Run} {res : Result} {pts : List (List ℚ)}
    (h : resultOk P R res pts = true) (hs : res.status = "SUCCESS") :
    Precision (R.relEps : ℝ) (R.absEps : ℝ) res.uplo res.loup ∧
      (witness (witProblem P R) R res = .exact ∨ witness (witProblem P R) R res = .interval ∨ witness (witProblem P R) R res = .rigorBox) := by
  obtain ⟨hp, hl⟩ := statusOk_success (accepted h).status hs
  exact ⟨hp, witness_due h hl⟩

/-- INFEASIBLE ⇒ no checked point is feasible with a defined objective value below the initial loup
    (`+∞` when none was given: `infeasible_no_point`); contrapositive: a planted feasible point makes the checker reject
    the verdict INFEASIBLE -/
theorem infeasible_sound {P : Problem} {R : Run} {res : Result} {pts : List (List ℚ)}
    (h : resultOk P R res pts = true) (hs : res.status = "INFEASIBLE") {p : List ℚ} (hp : p ∈ pts)
    (hf : feasQ P p = true) {v : ℚ} (hv : evalQ P.obj p = some v) :
    R.initLoup.toE ≤ (((v : ℚ) : ℝ) : EReal) := by
  exact infeasOk_sound (accepted h).infeas hs hp hf hv

/-- without initial loup: an accepted verdict INFEASIBLE means that none of the checked points is feasible with a
    defined objective -/
theorem infeasible_no_point {P : Problem} {R : Run} {res : Result} {pts : List (List ℚ)}
    (h : resultOk P R res pts = true) (hs : res.status = "INFEASIBLE") (h0 : R.initLoup = .pinf) {p : List ℚ}
    (hp : p ∈ pts) (hf : feasQ P p = true) : evalQ P.obj p = none := by
  cases hv : evalQ P.obj p with
  | none => rfl
  | some v =>
    have := infeasible_sound h hs hp hf hv
    rw [h0] at this
    simp at this

/-- INFEASIBLE / NO_FEASIBLE_FOUND are only accepted when no loup below the initial bound is reported -/
theorem nofeasible_no_loup {P : Problem} {R : Run} {res : Result} {pts : List (List ℚ)}
    (h : resultOk P R res pts = true) (hs : res.status = "INFEASIBLE" ∨ res.status = "NO_FEASIBLE_FOUND") :
    res.loup = R.initLoup := by
  exact statusOk_nofeasible (accepted h).status hs

theorem status_exhaustive {P : Problem} {R : Run} {res : Result} {pts : List (List ℚ)}
    (h : resultOk P R res pts = true) :
    res.status = "SUCCESS" ∨ res.status = "INFEASIBLE" ∨ res.status = "NO_FEASIBLE_FOUND" ∨
      res.status = "UNBOUNDED_OBJ" ∨ res.status = "TIME_OUT" ∨ res.status = "UNREACHED_PREC" := by
  exact statusOk_cases (accepted h).status

/-! ## the cover certificate: a lower bound that needs no known minimum -/

theorem mem_extPoint {ρ : List ℝ} {b : Box} (h : Box.Mem ρ b) (v : ℝ) : Box.Mem (ρ ++ [v]) (OptCover.extRoot b) := by
  unfold OptCover.extRoot Box.Mem
  refine List.rel_append h (List.Forall₂.cons ?_ List.Forall₂.nil)
  rw [Itv.mem_mk]
  simp

/-- the goal coordinate of an extended point is its last one -/
theorem goal_extPoint {ρ : List ℝ} {b : Box} (h : Box.Mem ρ b) (v : ℝ) : (ρ ++ [v])[b.length]? = some v := by
  rw [← h.length_eq]
  simp

/-- **Lower bound from the log of the search.**  The real optimizer is run with logging wrappers around its buffer,
    bisector and contractor; if `OptCover.checkOk` accepts the log for the threshold `U` (the final `uplo`; the initial
    loup for the verdict INFEASIBLE) and every logged contraction keeps the extended points `(x, f(x))` of the feasible
    `x` (soundness of the contractor on the extended system: property C04), then EVERY feasible real point of the box
    has `U ≤ f(x)` — for any problem, without knowing its minimum. -/
theorem cover_lower_bound {P : Problem} {U : Ext} {log : List OptCover.Ev}
    (hacc : OptCover.checkOk P.box.length U (OptCover.extRoot P.box) log = true)
    (hleaf : ∀ i o, OptCover.Ev.ctc i o ∈ log → ∀ ρ v, Feasible P ρ → RealVal P.obj ρ v →
      Box.Mem (ρ ++ [v]) i → Box.Mem (ρ ++ [v]) o)
    {ρ : List ℝ} (hf : Feasible P ρ) {v : ℝ} (hv : RealVal P.obj ρ v) : U.toE ≤ ((v : ℝ) : EReal) := by
  by_contra hlt
  rw [not_le] at hlt
  let Sol : Set (List ℝ) := {p | ∃ ρ v, Feasible P ρ ∧ RealVal P.obj ρ v ∧ ((v : ℝ) : EReal) < U.toE ∧ p = ρ ++ [v]}
  have hSol : ∀ p ∈ Sol, OptCover.Below P.box.length U p := by
    rintro p ⟨ρ', v', hf', -, hlt', rfl⟩
    exact ⟨v', goal_extPoint hf'.1 v', hlt'⟩
  have hleaf' : ∀ i o, OptCover.Ev.ctc i o ∈ log → ∀ p ∈ Sol, Box.Mem p i → Box.Mem p o := by
    rintro i o hio p ⟨ρ', v', hf', hv', -, rfl⟩ hm
    exact hleaf i o hio ρ' v' hf' hv' hm
  exact OptCover.check_sound hSol hacc hleaf' (ρ ++ [v]) ⟨ρ, v, hf, hv, hlt, rfl⟩ (mem_extPoint hf.1 v)

/-! ## interrupted / saved / reloaded / resumed searches (optimizer half of C18) -/

theorem resumed_sound {P : Problem} {R : Run} {saved : List Saved} {res : Result} {pts : List (List ℚ)}
    (h : resumeOk P R saved res pts = true) :
    resultOk P R res pts = true ∧ (∀ s ∈ saved, res.loup.toE ≤ s.loup.toE) ∧
      ∀ s, saved.getLast? = some s → res.loup = s.loup → res.lp = s.lp := by
  simp only [resumeOk, Bool.and_eq_true] at h
  exact ⟨h.1, carriedOk_all h.2, fun s hs => (carriedOk_last h.2 s hs).2⟩

/-! ## non-vacuity -/

section Examples

def k (q : Rat) : Node := ⟨.const [Itv.point q], 1, 1⟩
def x0 : Node := ⟨.var 0, 1, 1⟩

/-- objective `(x-1)² + 2` : nodes 0 = x, 1 = 1, 2 = x-1, 3 = sqr, 4 = 2, 5 = sum -/
def objDag : Dag := #[x0, k 1, ⟨.bin "sub" 0 1, 1, 1⟩, ⟨.un "sqr" 2, 1, 1⟩, k 2, ⟨.bin "add" 3 4, 1, 1⟩]
/-- constraint `x - 2 ≤ 0` -/
def ctrDag : Dag := #[x0, k 2, ⟨.bin "sub" 0 1, 1, 1⟩]
/-- `q = x - 1` -/
def qDag : Dag := #[x0, k 1, ⟨.bin "sub" 0 1, 1, 1⟩]

def exP : Problem := ⟨([], objDag), [(([], ctrDag), "leq")], [.mk (.fin 0) (.fin 3)], 0⟩
def exR : Run := ⟨0, 1 / 1000, .pinf, false⟩
def pt (q : Rat) : Box := [.mk (.fin q) (.fin q)]
def exPts : List (List Rat) := [[1], [0], [3], [3 / 2]]

/-- a correct result is accepted: uplo = 1.9995, loup = f(65/64) rounded up, loup point 65/64 -/
def exRes : Result := ⟨"SUCCESS", .fin (3999 / 2000), .fin (8193 / 4096), pt (65 / 64)⟩
example : resultOk exP exR exRes exPts = true := by decide +kernel
example : witness exP exR exRes = .exact := by decide +kernel

/-- `uplo` above the minimum is rejected (the planted minimiser 1 refutes it) -/
example : resultOk exP exR { exRes with uplo := .fin (2001 / 1000), loup := .fin (8193 / 4096) } exPts = false := by
  decide +kernel
/-- SUCCESS without the precision is rejected -/
example : resultOk exP exR { exRes with uplo := .fin 1 } exPts = false := by decide +kernel
/-- a loup point outside the box, violating the constraint, or with `f > loup` is rejected -/
example : witness exP exR { exRes with lp := pt (-1 / 64) } = .refuted := by decide +kernel
example : witness exP exR { exRes with lp := pt (5 / 2), loup := .fin 5 } = .refuted := by decide +kernel
example : witness exP exR { exRes with loup := .fin 2 } = .refuted := by decide +kernel
/-- the refuting checkers are not vacuous: an enclosure `[1,2]` refutes `= 0` (rigor) and `≤ 0`, `[1/2,2]` does not refute
    `|·| ≤ 1`; in rigor mode a thin box on which `x - 2 ≤ 0` fails everywhere is refuted, one inside the feasible set with
    `f ≤ loup` is kept -/
example : specRefuted 0 true "eq" (.mk (.fin 1) (.fin 2)) = true := by decide +kernel
example : specRefuted 1 false "leq" (.mk (.fin 1) (.fin 2)) = true := by decide +kernel
example : specRefuted 1 false "eq" (.mk (.fin (1 / 2)) (.fin 2)) = false := by decide +kernel
example : witness exP { exR with rigor := true } { exRes with lp := [.mk (.fin (5 / 2)) (.fin (11 / 4))], loup := .fin 10 }
    = .refuted := by decide +kernel
example : witBoxRefuted exP true (.fin 10) [.mk (.fin (5 / 2)) (.fin (11 / 4))] = true := by decide +kernel
example : witness exP { exR with rigor := true } { exRes with lp := [.mk (.fin 1) (.fin (65 / 64))] } = .rigorBox := by
  decide +kernel
/-- INFEASIBLE on this feasible problem is rejected; NO_FEASIBLE_FOUND with a loup is rejected -/
example : resultOk exP exR ⟨"INFEASIBLE", .ninf, .pinf, [.mk (.fin 0) (.fin 3)]⟩ exPts = false := by decide +kernel
example : resultOk exP exR { exRes with status := "NO_FEASIBLE_FOUND" } exPts = false := by decide +kernel
/-- … and accepted on an infeasible one (`x - 2 ≤ 0` replaced by `x - 2 ≥ 0` on `[0,1]`) -/
example : resultOk ⟨([], objDag), [(([], ctrDag), "geq")], [.mk (.fin 0) (.fin 1)], 0⟩ exR
    ⟨"INFEASIBLE", .ninf, .pinf, [.mk (.fin 0) (.fin 1)]⟩ [[1], [0], [1 / 2]] = true := by decide +kernel

/-- the certificate `f ≡ 2 + 1·(x-1)²` is accepted, a wrong one (`c = 5/2`) is rejected -/
def exCert : Cert := ⟨2, [(1, ([], qDag))], []⟩
example : exCert.ok exP = true := by decide +kernel
example : ({ exCert with c := 5 / 2 } : Cert).ok exP = false := by decide +kernel
example : certLowerOk exP exCert exRes.uplo = true := by decide +kernel

/-- a certificate using the slack of a bound: on `[2,3]` the objective is `3 + (x-2)² + 2·(x-2)` -/
def exP2 : Problem := ⟨([], objDag), [], [.mk (.fin 2) (.fin 3)], 0⟩
def q2Dag : Dag := #[x0, k 2, ⟨.bin "sub" 0 1, 1, 1⟩]
example : (⟨3, [(1, ([], q2Dag))], [(2, .lo 0)]⟩ : Cert).ok exP2 = true := by decide +kernel
/-- … and the slack of the constraint: with `x - 2 ≤ 0`, `-x ≡ -2 + 1·(2 - x)` -/
def negDag : Dag := #[x0, ⟨.un "minus" 0, 1, 1⟩]
example : (⟨-2, [], [(1, .ctr 0)]⟩ : Cert).ok ⟨([], negDag), [(([], ctrDag), "leq")], [.mk (.fin 0) (.fin 3)], 0⟩ = true := by
  decide +kernel

theorem objDag_root (t : ℝ) : root Alg.real [t] (buildCalls Alg.real []) objDag =
    some (Mat.scalar ((t - 1) * (t - 1) + 2)) := by
  simp +decide only [objDag, x0, k, dag_eval]

theorem ctrDag_root (t : ℝ) : root Alg.real [t] (buildCalls Alg.real []) ctrDag = some (Mat.scalar (t - 2)) := by
  simp +decide only [ctrDag, x0, k, dag_eval]

/-- the universal theorem applies to every real `t ∈ [0,2]` and yields the expected inequality:
    its hypotheses are satisfiable and its conclusion is not vacuous -/
example (t : ℝ) (h0 : 0 ≤ t) (h2 : t ≤ 2) : (3999 / 2000 : ℝ) ≤ (t - 1) * (t - 1) + 2 := by
  have hf : Feasible exP [t] := by
    refine ⟨Box.mem_cons.2 ⟨?_, Box.mem_nil⟩, ?_⟩
    · rw [Itv.mem_mk]
      simp only [Ext.toE_fin, EReal.coe_le_coe_iff]
      constructor <;> push_cast <;> linarith
    · intro c hc
      simp only [exP, List.mem_singleton] at hc
      subst hc
      exact ⟨t - 2, ⟨_, ctrDag_root t, rfl⟩, Or.inl ⟨rfl, by linarith⟩⟩
  have := lower_bound_universal (P := exP) (C := exCert) (uplo := exRes.uplo) (by decide +kernel) hf
    (v := (t - 1) * (t - 1) + 2) ⟨_, objDag_root t, rfl⟩
  simp only [exRes, Ext.toE_fin, EReal.coe_le_coe_iff] at this
  push_cast at this
  linarith

/-- a cover log on extended boxes (x, y): root `[0,4] × ℝ` contracted to `[0,4] × [1,9]`, pushed, taken, bisected along x;
    the left half is contracted to `y ∈ [1,3]` and pushed back, the right half to `y ∈ [5,9]` and dropped (5 ≥ U = 1);
    at the end the remaining cell is dumped: accepted for `U = 1`, rejected for `U = 2` (the cell left has y ≥ 1 only) -/
def iv (a b : Int) : Itv := .mk (.fin a) (.fin b)
def R0 : Box := [iv 0 4, .mk .ninf .pinf]
def coverLog : List OptCover.Ev :=
  [.ctc R0 [iv 0 4, iv 1 9], .push [iv 0 4, iv 1 9], .top [iv 0 4, iv 1 9],
   .bis [iv 0 2, iv 1 9] [iv 2 4, iv 1 9], .pop [iv 0 4, iv 1 9],
   .ctc [iv 0 2, iv 1 9] [iv 0 2, iv 1 3], .push [iv 0 2, iv 1 3],
   .ctc [iv 2 4, iv 1 9] [iv 2 4, iv 5 9],
   .top [iv 0 2, iv 1 3], .pop [iv 0 2, iv 1 3]]
example : OptCover.checkOk 1 (.fin 1) R0 coverLog = true := by decide +kernel
example : OptCover.checkOk 1 (.fin 2) R0 coverLog = false := by decide +kernel
/-- a half that disappears without contraction is rejected; a push that cuts the goal domain below `U` is rejected -/
example : OptCover.checkOk 1 (.fin 1) R0
    [.ctc R0 [iv 0 4, iv 0 9], .push [iv 0 4, iv 0 9], .top [iv 0 4, iv 0 9],
     .bis [iv 0 2, iv 0 9] [iv 2 4, iv 0 9], .pop [iv 0 4, iv 0 9],
     .ctc [iv 0 2, iv 0 9] [iv 0 2, iv 1 3], .push [iv 0 2, iv 1 3],
     .top [iv 0 2, iv 1 3], .pop [iv 0 2, iv 1 3]] = false := by decide +kernel
example : OptCover.checkOk 1 (.fin 5) R0
    [.ctc R0 [iv 0 4, iv 1 9], .push [iv 0 4, iv 1 3]] = false := by decide +kernel
/-- a handled box cut to the goal domain `[1,3]` and then dropped: rejected for the threshold 3, accepted for 1 -/
example : OptCover.checkOk 1 (.fin 3) R0
    [.ctc R0 [iv 0 4, iv 1 9], .push [iv 0 4, iv 1 3], .top [iv 0 4, iv 1 3], .pop [iv 0 4, iv 1 3]] = false := by
  decide +kernel
example : OptCover.checkOk 1 (.fin 1) R0
    [.ctc R0 [iv 0 4, iv 1 9], .push [iv 0 4, iv 1 3], .top [iv 0 4, iv 1 3], .pop [iv 0 4, iv 1 3]] = true := by
  decide +kernel

/-- resumed runs: a carried-over loup point is accepted, a changed point with the same loup is rejected,
    a loup above the saved one is rejected -/
example : resumeOk exP exR [⟨.fin 1, .fin (8193 / 4096), pt (65 / 64)⟩] exRes exPts = true := by decide +kernel
example : resumeOk exP exR [⟨.fin 1, .fin (8193 / 4096), pt (63 / 64)⟩] exRes exPts = false := by decide +kernel
example : resumeOk exP exR [⟨.fin 1, .fin 2, pt 1⟩] exRes exPts = false := by decide +kernel

end Examples

end Ibex.C07
