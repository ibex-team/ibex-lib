/-
  C18 — Pavings survive save/load; an interrupted search can be resumed without loss.

  This file: the COV file format (the resumed search is `Props/C18resume.lean`).  Model: `IbexModel/Cov.lean` (`encode`, `decode k`, `WF k`),
  lemmas: `IbexProofs/Cov.lean`.  `decode k` is the reader of class `k` (`CovXxx(const char* filename)`),
  `encode f` the bytes of the header chain and of the layers of `f`, `WF k f` the decidable well-formedness
  of the content of an object of class `k` (canonical chain, exactly the layers of `k`, dimensions and counts
  consistent, index lists strictly increasing / in range / designating boxes of the required parent status,
  varsets duplicate-free and in range, names without NUL, integers on 32 bits).
  Doubles are raw 64-bit patterns (`UInt64`): NaN payloads and signed zeros round-trip bit for bit.
  No theorem has a bound on dimensions, counts or sizes.

  The run-time correspondence (`covsave` / `covload` ops of the driver) checks on generated objects that the
  bytes written by `save()` decode (with the model) to the content of the object, that this content is `WF`,
  that the real reader loads it back identically, and on corrupted files that the real reader and `decode`
  reject the same files and otherwise load the same content.

-/
import IbexProofs.Cov

namespace Ibex.C18
open Ibex.Cov

/-- **save then load is the identity**: the file written for a well-formed content of class `k` is accepted
    by the reader of class `k`, which returns exactly this content and consumes the whole file. -/
theorem decode_encode (k : Kind) (f : CovFile) (h : WF k f = true) :
    decode k (encode f) = .ok (f, []) := by
  have := decode_complete k f [] h
  simpa using this

/-- the same with arbitrary bytes after the file (the readers never look beyond the last layer) -/
theorem decode_encode_trailing (k : Kind) (f : CovFile) (rest : Bytes) (h : WF k f = true) :
    decode k (encode f ++ rest) = .ok (f, rest) :=
  decode_complete k f rest h

/-- **an accepted file IS the canonical encoding of what it loads as** (plus the bytes the reader did not
    look at): for every byte string, every class of reader. Hence a corrupted file is either rejected, or
    it is byte for byte the well-formed encoding of the (other) content it is loaded as. -/
theorem encode_decode (k : Kind) {bs rest : Bytes} {f : CovFile} (h : decode k bs = .ok (f, rest)) :
    encode f ++ rest = bs :=
  (decode_sound k h).symm

/-- two different files never load as the same content with the same unread rest -/
theorem load_injective (k : Kind) {bs₁ bs₂ rest : Bytes} {f : CovFile}
    (h₁ : decode k bs₁ = .ok (f, rest)) (h₂ : decode k bs₂ = .ok (f, rest)) : bs₁ = bs₂ := by
  rw [← encode_decode k h₁, ← encode_decode k h₂]

/-- **a corrupted file is never loaded as the original content**: if `bs` has the length of the file saved
    for `f` but differs from it (any number of flipped / replaced bytes), then the reader either rejects
    `bs` or returns a content different from `f`. -/
theorem corrupted_not_loaded_as_original (k : Kind) (f : CovFile) (bs : Bytes)
    (hlen : bs.length = (encode f).length) (hne : bs ≠ encode f) :
    ∀ f' rest, decode k bs = .ok (f', rest) → f' ≠ f := by
  intro f' rest h heq
  subst heq
  have e := encode_decode k h
  have : rest = [] := by
    have hl := congrArg List.length e
    simp only [List.length_append] at hl
    exact List.eq_nil_of_length_eq_zero (by omega)
  subst this
  exact hne (by simpa using e.symm)

/-- **every truncation of a saved file is rejected** by the reader of the class that saved it. -/
theorem truncation_rejected (k : Kind) (f : CovFile) (h : WF k f = true) (pre ext : Bytes)
    (hcut : pre ++ ext = encode f) (hne : ext ≠ []) : ∃ e, decode k pre = .error e := by
  cases hd : decode k pre with
  | error e => exact ⟨e, rfl⟩
  | ok x =>
    obtain ⟨f', r'⟩ := x
    have h1 := stable_decode k pre f' r' ext hd
    rw [hcut, decode_encode k f h] at h1
    simp only [Except.ok.injEq, Prod.mk.injEq] at h1
    have : ext = [] := (List.append_eq_nil_iff.mp h1.2.symm).2
    exact absurd this hne

/-- what a reader returns does not depend on the bytes that follow the part it consumed -/
theorem load_ignores_trailing (k : Kind) {bs rest : Bytes} {f : CovFile} (ext : Bytes)
    (h : decode k bs = .ok (f, rest)) : decode k (bs ++ ext) = .ok (f, rest ++ ext) :=
  stable_decode k bs f rest ext h

/-! ### the hypotheses are satisfiable, the error paths are reachable -/

/-- solver data: n = 2, m = 1, three boxes: a solution (with varset {1} and unicity box), a boundary box
    (varset {0}), a pending box; NaN payload, -0 and infinities in the bounds -/
def exSol : CovFile :=
  { ids := [0, 0, 0, 0, 0, 0], vers := [1, 1, 1, 1, 1, 2]
    cov := some ⟨2⟩
    list := some ⟨[[(0x3ff0000000000000, 0x4000000000000000), (0x8000000000000000, 0x0000000000000000)],
                   [(0xfff0000000000000, 0x7ff0000000000000), (0x7ff8000000000123, 0x7ff8000000000123)],
                   [(0x0000000000000001, 0x7fefffffffffffff), (0x4008000000000000, 0x4008000000000000)]]⟩
    iu := some ⟨[]⟩
    ibu := some ⟨1, [0]⟩
    man := some ⟨1, 0, 0, [⟨0, [1], [(0x3fe0000000000000, 0x4004000000000000), (0xbff0000000000000, 0x3ff0000000000000)]⟩],
                 [⟨1, [0]⟩]⟩
    sol := some ⟨[[120], [121, 91, 49, 93]], 3, 0x3ff8000000000000, 17, [2]⟩ }

example : WF .sol exSol = true := by decide +kernel
example : (encode exSol).length = 291 := by decide +kernel
example : decode .sol (encode exSol) = .ok (exSol, []) := decode_encode _ _ (by decide +kernel)

/-- optimizer data in the extended space: n = 3, one box (the loup point), loup found -/
def exOpt : CovFile :=
  { ids := [0, 0, 1], vers := [1, 1, 1]
    cov := some ⟨3⟩
    list := some ⟨[[(0x3ff0000000000000, 0x3ff0000000000000), (0, 0), (0xc000000000000000, 0x4000000000000000)]]⟩
    opt := some ⟨[[], [], []], 4, 1, 0xc000000000000000, 0x7ff0000000000000, 0x4000000000000000, 1, 0xbff0000000000000, 4294967295⟩ }

example : WF .opt exOpt = true := by decide +kernel

/-- an inner/unknown list without any box (counts zero) -/
def exIU0 : CovFile := { ids := [0, 0, 0], vers := [1, 1, 1], cov := some ⟨4⟩, list := some ⟨[]⟩, iu := some ⟨[]⟩ }
example : WF .iu exIU0 = true := by decide +kernel

/-- the file of `exSol` with the pending index replaced by 0 (a solution box) is rejected: bad index -/
example : (match decode .sol ((encode exSol).take 287 ++ [0, 0, 0, 0]) with
           | .error .badIndex => true | _ => false) = true := by decide +kernel
/-- ... cut after 100 bytes: unexpected end of file -/
example : (match decode .sol ((encode exSol).take 100) with | .error .eof => true | _ => false) = true := by
  decide +kernel
/-- ... with the version of the last level 2 -> 3: the solver layer is skipped (by design of the readers: "common
    prefix" reading), the content loaded is another one and the solver bytes are left unread -/
example : (match decode .sol ((encode exSol).take 68 ++ [3, 0, 0, 0] ++ (encode exSol).drop 72) with
           | .ok (f, rest) => f.sol.isNone && f.man.isSome && rest.length == 31 | _ => false) = true := by
  decide +kernel

end Ibex.C18
