/-
  C07 — the branch-and-bound loop of the optimizer itself (`IbexModel/OptLoop.lean`), not only the replay of its logs.

  `OptLoop.run P g fuel (St.init root loup₀)` is the loop of `Optimizer::optimize()` on extended boxes `(x, y)`:
  take a cell, bisect it, contract-and-bound each half with the current loup, run the loup finder (the loup
  only decreases), drop epsilon-boxes (recording their goal lower bound in `uplo_of_epsboxes`) or push the
  half back, prune the buffer with the loup; stop after `fuel` iterations (time-out / cell budget).
  The reported lower bound is `uplo = min (goal lower bounds of the buffer) uplo_of_epsboxes loup`.

  * `loop_lower_bound`: for EVERY policy whose contractor keeps the extended points `(x, f(x))` of feasible `x`
    with `f(x) < loup` (C04 on the extended system) and whose bisector covers the cell (C16), for every number of
    iterations, every root and every initial loup: `uplo ≤ f(x)` for every feasible `x` of the root.
  * `loop_lower_bound_problem`: the same in the vocabulary of `Props/C07.lean` (`Problem`, `Feasible`, `RealVal`).
  * `loop_bounds_ordered`: `uplo ≤ loup ≤ initial loup` in every reachable state.
  The tie to the code is the log replay `OptCover.check` + the result checker of `Props/C07.lean`; this file
  states what the loop guarantees at EVERY interruption point (the optimizer half of C18 resumes from such states).
-/
import IbexProofs.OptLoop
import IbexProofs.Props.C07

namespace Ibex.C07loop
open Ibex Ibex.OptLoop Ibex.Optim

/-- **`uplo` is a lower bound of the objective on the feasible set, at every interruption of the loop.** -/
theorem loop_lower_bound (Sol : Set (List ℝ)) (P : Policy) (g : Nat) (root : Box) (loup0 : Ext) (fuel : Nat)
    (hctc : CtcSound P g Sol)
    (hbis : ∀ c, Cover.split2Ok c (P.bisect c).1 (P.bisect c).2 = true)
    {p : List ℝ} {t : ℝ} (hp : p ∈ Sol) (ht : p[g]? = some t) (hr : Box.Mem p root) :
    (uplo g (run P g fuel (St.init root loup0))).toE ≤ ((t : ℝ) : EReal) :=
  uplo_le_of_acc ht (run_acc hctc hbis hp ht fuel _ (Or.inr (Or.inr ⟨root, by simp [St.init], hr⟩)))

/-- in the vocabulary of `Props/C07.lean`: the goal coordinate is the last one of the extended box -/
theorem loop_lower_bound_problem (Pb : Problem) (P : Policy) (loup0 : Ext) (fuel : Nat)
    (hctc : ∀ (L : Ext) (h : Box) (ρ : List ℝ) (v : ℝ), Feasible Pb ρ → RealVal Pb.obj ρ v →
      Box.Mem (ρ ++ [v]) h → ((v : ℝ) : EReal) < L.toE → Box.Mem (ρ ++ [v]) (P.ctc L h))
    (hbis : ∀ c, Cover.split2Ok c (P.bisect c).1 (P.bisect c).2 = true)
    {ρ : List ℝ} (hf : Feasible Pb ρ) {v : ℝ} (hv : RealVal Pb.obj ρ v) :
    (uplo Pb.box.length (run P Pb.box.length fuel (St.init (OptCover.extRoot Pb.box) loup0))).toE
      ≤ ((v : ℝ) : EReal) := by
  let Sol : Set (List ℝ) := {p | ∃ ρ v, Feasible Pb ρ ∧ RealVal Pb.obj ρ v ∧ p = ρ ++ [v]}
  have hgoal : ∀ ρ' v', Feasible Pb ρ' → (ρ' ++ [v'])[Pb.box.length]? = some v' :=
    fun ρ' v' hf' => C07.goal_extPoint hf'.1 v'
  have hS : CtcSound P Pb.box.length Sol := by
    rintro L h p t ⟨ρ', v', hf', hv', rfl⟩ ht hm hlt
    have : t = v' := by
      have := hgoal ρ' v' hf'
      rw [this] at ht
      exact (Option.some.inj ht).symm
    subst this
    exact hctc L h ρ' t hf' hv' hm hlt
  exact loop_lower_bound Sol P _ _ loup0 fuel hS hbis ⟨ρ, v, hf, hv, rfl⟩ (hgoal ρ v hf) (C07.mem_extPoint hf.1 v)

theorem loop_bounds_ordered (P : Policy) (g : Nat) (root : Box) (loup0 : Ext) (fuel : Nat) :
    (uplo g (run P g fuel (St.init root loup0))).toE ≤ (run P g fuel (St.init root loup0)).loup.toE ∧
    (run P g fuel (St.init root loup0)).loup.toE ≤ loup0.toE :=
  ⟨uplo_le_loup _, run_loup fuel _⟩

/-! ### a concrete run evaluated by the kernel: minimise `y = x` on `x ∈ [0,8]` (extended boxes `[x, y]`) -/

def iv (a b : Int) : Itv := .mk (.fin a) (.fin b)

/-- bisect `x` at an integer point; the "contractor" sets `y := y ∩ x ∩ (-oo, loup]`; the loup finder evaluates the
    objective at the left end point of `x`; boxes of width ≤ 1 are epsilon-boxes -/
def toy : Policy where
  pick := fun _ => 0
  bisect := fun c => match c with
    | [.mk (.fin l) (.fin h), y] => ([.mk (.fin l) (.fin ((l + h) / 2)), y], [.mk (.fin ((l + h) / 2)) (.fin h), y])
    | _ => (c, c)
  ctc := fun L c => match c with
    | [x, y] => [x, Itv.inter (Itv.inter y x) (.mk .ninf L)]
    | _ => c
  finder := fun _ c => match c with
    | [.mk lo _, _] => lo
    | _ => .pinf
  small := fun c => match c with
    | [.mk (.fin l) (.fin h), _] => h - l ≤ 1
    | _ => true

example : uplo 1 (run toy 1 50 (St.init [iv 0 8, .mk .ninf .pinf] .pinf)) = .fin 0 ∧
    (run toy 1 50 (St.init [iv 0 8, .mk .ninf .pinf] .pinf)).loup = .fin 0 ∧
    (run toy 1 50 (St.init [iv 0 8, .mk .ninf .pinf] .pinf)).buffer = [] := by decide +kernel
/-- after ONE iteration on `[2,8]`: the left half gives the loup 2, the right half is emptied by the bound `y ≤ 2`, and the
    left half itself is pruned (its goal lower bound is not below the loup): the bounds meet -/
example : uplo 1 (run toy 1 1 (St.init [iv 2 8, .mk .ninf .pinf] .pinf)) = .fin 2 ∧
    (run toy 1 1 (St.init [iv 2 8, .mk .ninf .pinf] .pinf)).loup = .fin 2 ∧
    (run toy 1 1 (St.init [iv 2 8, .mk .ninf .pinf] .pinf)).buffer = [] := by decide +kernel
/-- a loup finder that never finds anything: after two iterations three cells are pending and `uplo` is their least goal
    lower bound -/
example : uplo 1 (run { toy with finder := fun _ _ => .pinf } 1 2 (St.init [iv 2 10, .mk .ninf .pinf] .pinf)) = .fin 2 ∧
    (run { toy with finder := fun _ _ => .pinf } 1 2 (St.init [iv 2 10, .mk .ninf .pinf] .pinf)).buffer.length = 3 := by
  decide +kernel

/-- the hypothesis on the contractor matters: a contractor that empties every box whose `x` starts at 2 loses the minimiser
    `x = 2` of `[2,8]`, and the loop then reports `uplo = 5 > 2 = f(2)` -/
def toyBad : Policy := { toy with ctc := fun L c => match c with
    | [.mk (.fin l) _, _] => if l == 2 then [.empty, .empty] else toy.ctc L c
    | _ => toy.ctc L c }

example : uplo 1 (run toyBad 1 50 (St.init [iv 2 8, .mk .ninf .pinf] .pinf)) = .fin 5 := by decide +kernel

end Ibex.C07loop
