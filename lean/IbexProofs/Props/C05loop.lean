/-
  C05 — the search loop itself (`IbexModel/SearchLoop.lean`), not only the replay of its logs.

  `SearchLoop.run P fuel (St.init root)` is the loop of `Solver::next()`: pick the cell on top of the buffer,
  contract, remove it; delete it when the box is empty, otherwise store the box or bisect it and push the
  children; stop after `fuel` iterations (cell / time limit), the cells left in the buffer becoming pending
  boxes.  Contractor, decision and buffer order are parameters (`Policy`).

  * `loop_covers`: for EVERY policy whose contractor keeps the solutions (C04) and whose decisions cover the
    contracted box (C16 for the bisection), every fuel and every root, each solution inside the root is in a
    box of the returned paving — proved directly by an invariant, by induction over the iterations.
  * `loop_log_accepted`: the log emitted by every such run is accepted by `Cover.checkOk`, the certificate
    that judges the logs of the REAL solver at run time: the certificate never raises an alarm on the
    modelled algorithm, whatever the contractor, the bisector and the buffer order are.
  * `loop_covers_via_certificate`: the same conclusion as `loop_covers`, obtained through the certificate
    (`loop_log_accepted` + `C05.checkOk_sound`): the two layers agree.
  * `loop_success`: when the loop stops because the buffer is empty, the paving consists of stored boxes only.
  * `chain_covers`: any chain of interrupted / resumed runs, each stage with its own (fresh) policy and limit, loses no
    solution (the model-level counterpart of `C18.chain_sound`).
-/
import IbexProofs.SearchLoop
import IbexProofs.Props.C05

namespace Ibex.C05loop
open Ibex Ibex.SearchLoop

/-- **No solution is lost by the search loop**, whatever the policy, for any number of iterations. -/
theorem loop_covers (Sol : Set (List ℝ)) (P : Policy) (root : Box) (fuel : Nat)
    (hctc : ∀ x p, Box.Mem p x → p ∈ Sol → Box.Mem p (P.ctc x))
    (hact : ∀ o, Box.isEmpty o = false → actOk o (P.act o) = true) :
    ∀ p ∈ Sol, Box.Mem p root → ∃ b ∈ (run P fuel (St.init root)).paving.boxes, Box.Mem p b :=
  run_inv hctc hact fuel _ (init_covers root)

/-- **The certificate accepts every run of the modelled loop.** -/
theorem loop_log_accepted (cert : Box → Box × Box × List Nat → Bool) (P : Policy) (root : Box) (fuel : Nat)
    (hroot : Box.isEmpty root = false)
    (hsub : ∀ x, Box.subset (P.ctc x) x = true)
    (hact : ∀ o, Box.isEmpty o = false → actOk o (P.act o) = true) :
    Cover.checkOk cert (run P fuel (St.init root)).paving root (run P fuel (St.init root)).log = true := by
  obtain ⟨k, hk⟩ := run_check (cert := cert) root hroot hsub hact fuel
  obtain ⟨evs, hl, -⟩ := run_log_no_leading_push (P := P) fuel (St.init root)
  change _ = Cover.Ev.push root :: evs at hl
  unfold Cover.checkOk
  rw [hl] at hk ⊢
  simp [hk]

theorem loop_covers_via_certificate (Sol : Set (List ℝ)) (P : Policy) (root : Box) (fuel : Nat)
    (hroot : Box.isEmpty root = false)
    (hsub : ∀ x, Box.subset (P.ctc x) x = true)
    (hctc : ∀ x p, Box.Mem p x → p ∈ Sol → Box.Mem p (P.ctc x))
    (hact : ∀ o, Box.isEmpty o = false → actOk o (P.act o) = true) :
    ∀ p ∈ Sol, Box.Mem p root → ∃ b ∈ (run P fuel (St.init root)).paving.boxes, Box.Mem p b := by
  have hacc := loop_log_accepted (fun _ _ => false) P root fuel hroot hsub hact
  refine C05.checkOk_sound Sol (fun _ _ => false) _ root _ hacc ?_ (by simp) (by simp [St.paving]) (by simp [St.paving])
  -- every contraction logged by the model is a call of the policy's contractor
  intro i o hmem p hp hpi
  have ho := run_ctc_events fuel (St.init root) (by intro i o h; simp [St.init] at h) i o hmem
  subst ho
  exact hctc i p hpi hp

/-- when the loop stops with an empty buffer (status SUCCESS / NOT_ALL_VALIDATED), the paving is made of
    stored boxes only: nothing is pending -/
theorem loop_success (P : Policy) (s : St) (h : step P s = none) : s.paving.boxes = s.stored := by
  simp [St.paving, step_none h]

/-- every log of the model is loop-shaped: the tag `loop-shaped` that the driver attaches to the accepted REAL logs
    (`SearchLoop.loopShaped`: pushes of the roots, then iterations `top, ctc*, pop, (push, push)?`) is the shape of the model's
    own logs -/
theorem loop_log_shaped (P : Policy) (root : Box) (fuel : Nat) :
    loopShaped (run P fuel (St.init root)).log = true := run_loopShaped root fuel

/-! ### interrupted and resumed searches (C18): any chain of runs with fresh components -/

/-- a search interrupted any number of times: each stage continues from the buffer (pending boxes) and the stored boxes
    left by the previous one, with its OWN policy (fresh contractor, bisector, buffer) and its own limit -/
def chain (root : Box) (stages : List (Policy × Nat)) : St :=
  stages.foldl (fun s pf => run pf.1 pf.2 s) (St.init root)

/-- **No solution is lost across interruptions**: after any chain of interrupted / resumed runs, whatever the policies of
    the stages are (each sound in the sense of `loop_covers`), every solution of the root is in the final paving. -/
theorem chain_covers (Sol : Set (List ℝ)) (root : Box) (stages : List (Policy × Nat))
    (hctc : ∀ pf ∈ stages, ∀ x p, Box.Mem p x → p ∈ Sol → Box.Mem p (pf.1.ctc x))
    (hact : ∀ pf ∈ stages, ∀ o, Box.isEmpty o = false → actOk o (pf.1.act o) = true) :
    ∀ p ∈ Sol, Box.Mem p root → ∃ b ∈ (chain root stages).paving.boxes, Box.Mem p b := by
  have key : ∀ (stages : List (Policy × Nat)) (s : St),
      (∀ pf ∈ stages, ∀ x p, Box.Mem p x → p ∈ Sol → Box.Mem p (pf.1.ctc x)) →
      (∀ pf ∈ stages, ∀ o, Box.isEmpty o = false → actOk o (pf.1.act o) = true) →
      Covers Sol root s → Covers Sol root (stages.foldl (fun s pf => run pf.1 pf.2 s) s) := by
    intro stages
    induction stages with
    | nil => intro s _ _ h; exact h
    | cons pf rest ih =>
      intro s h1 h2 h
      simp only [List.foldl_cons]
      exact ih _ (fun q hq => h1 q (List.mem_cons_of_mem _ hq)) (fun q hq => h2 q (List.mem_cons_of_mem _ hq))
        (run_inv (h1 pf List.mem_cons_self) (h2 pf List.mem_cons_self) pf.2 s h)
  exact key stages _ hctc hact (init_covers root)

/-! ### the hypotheses are satisfiable: a concrete run, evaluated by the kernel -/

def iv (a b : Int) : Itv := .mk (.fin a) (.fin b)

/-- 1-D toy policy on integer boxes: the contractor cuts everything above 3 (as `x ≤ 3` would), a box of
    width ≤ 1 is stored, a wider one is bisected at an integer point; cells are taken from the END of the
    buffer (depth first) -/
def toy : Policy where
  ctc := fun b => match b with
    | [.mk lo (.fin h)] => if h > 3 then (if Ext.le lo (.fin 3) then [.mk lo (.fin 3)] else [.empty]) else b
    | _ => b
  act := fun b => match b with
    | [.mk (.fin l) (.fin h)] => if h - l ≤ 1 then .store b else
        let m : Rat := ((l + h) / 2 : Rat).floor
        .split [.mk (.fin l) (.fin m)] [.mk (.fin m) (.fin h)]
    | _ => .store b
  pick := fun l => l.length - 1

example : (run toy 100 (St.init [iv 0 8])).stored.length = 3 ∧ (run toy 100 (St.init [iv 0 8])).buffer = [] := by
  decide +kernel
example : Cover.checkOk (fun _ _ => false) (run toy 100 (St.init [iv 0 8])).paving [iv 0 8]
    (run toy 100 (St.init [iv 0 8])).log = true := by decide +kernel
/-- interrupted after two iterations: the cells left in the buffer are pending boxes and the log is accepted -/
example : (run toy 2 (St.init [iv 0 8])).buffer.length = 3 ∧
    Cover.checkOk (fun _ _ => false) (run toy 2 (St.init [iv 0 8])).paving [iv 0 8]
      (run toy 2 (St.init [iv 0 8])).log = true := by decide +kernel
/-- a policy that drops a child is rejected by the certificate (the hypothesis `actOk` matters) -/
example : Cover.checkOk (fun _ _ => false) ⟨[[iv 0 1]], []⟩ [iv 0 2]
    [.push [iv 0 2], .top [iv 0 2], .ctc [iv 0 2] [iv 0 2], .pop [iv 0 2], .push [iv 0 1], .push [iv 0 1],
     .top [iv 0 1], .ctc [iv 0 1] [iv 0 1], .pop [iv 0 1], .top [iv 0 1], .ctc [iv 0 1] [iv 0 1], .pop [iv 0 1]]
    = false := by decide +kernel

end Ibex.C05loop
