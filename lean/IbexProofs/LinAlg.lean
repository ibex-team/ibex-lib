/-
  C15 — interval linear algebra: soundness of the models and checkers of `IbexModel/LinAlg.lean`
  over the real numbers.

  Real vectors are lists `List ℝ`, real matrices lists of rows (a missing entry reads as 0); every
  statement is about every real instance `(a, b)` of the interval system `([A], [b])`.
-/
import IbexModel
import IbexProofs.Basic
import IbexProofs.Arith
import IbexProofs.Arith2
import IbexProofs.ArithG
import IbexProofs.Bwd
import Mathlib.Data.List.Forall2
import Mathlib.Data.List.GetD

namespace Ibex.LinAlg
open Ibex

abbrev RVec := List ℝ
abbrev RMat := List (List ℝ)

def VMem (x : RVec) (X : IVec) : Prop := List.Forall₂ (fun (v : ℝ) (I : Itv) => v ∈ I) x X
def MMem (a : RMat) (A : IMat) : Prop := List.Forall₂ VMem a A

def dotR : List ℝ → List ℝ → ℝ
  | a :: as, x :: xs => a * x + dotR as xs
  | _, _ => 0

def Solves (a : RMat) (b x : RVec) : Prop := List.Forall₂ (fun row br => dotR row x = br) a b

def castV (c : List Rat) : List ℝ := List.map (fun (q : Rat) => (q : ℝ)) c

def castM (V : QMat) : RMat := V.map castV

def colR (a : RMat) (j : Nat) : RVec := a.map (·.getD j 0)

/-! ### lists -/

theorem forall₂_getD {α β : Type} {R : α → β → Prop} {x : List α} {y : List β} (h : List.Forall₂ R x y)
    (i : Nat) {dx : α} {dy : β} (hd : R dx dy) : R (x.getD i dx) (y.getD i dy) := by
  induction h generalizing i with
  | nil => exact hd
  | cons h1 _ ih =>
    cases i with
    | zero => exact h1
    | succ i => exact ih i

theorem forall₂_map_map {α β γ : Type} {R : β → γ → Prop} {f : α → β} {g : α → γ} {l : List α}
    (h : ∀ a ∈ l, R (f a) (g a)) : List.Forall₂ R (l.map f) (l.map g) := by
  rw [List.forall₂_map_left_iff, List.forall₂_map_right_iff, List.forall₂_same]
  exact h

theorem map_getD_range (r : List ℝ) : (List.range r.length).map (fun j => r.getD j 0) = r := by
  apply List.ext_getElem
  · simp
  · intro i h1 h2
    simp only [List.length_map, List.length_range] at h1
    simp [List.getD_eq_getElem?_getD, h1]

/-! ### the dot product; rational data read as real data -/

@[simp] theorem dotR_nil_left (x : List ℝ) : dotR [] x = 0 := by simp [dotR]
@[simp] theorem dotR_nil_right (a : List ℝ) : dotR a [] = 0 := by cases a <;> simp [dotR]
@[simp] theorem dotR_cons (a x : ℝ) (as xs : List ℝ) : dotR (a :: as) (x :: xs) = a * x + dotR as xs := by
  simp [dotR]

theorem dotR_map_mul_add (c : ℝ) (u v : Nat → ℝ) : ∀ (l : List Nat) (x : List ℝ),
    dotR (l.map fun j => c * u j + v j) x = c * dotR (l.map u) x + dotR (l.map v) x
  | [], x => by simp
  | _ :: _, [] => by simp
  | j :: l, x0 :: xs => by simp only [List.map_cons, dotR_cons, dotR_map_mul_add c u v l xs]; ring

@[simp] theorem dotR_replicate_zero : ∀ (n : Nat) (x : List ℝ), dotR (List.replicate n (0 : ℝ)) x = 0
  | 0, x => by simp
  | _ + 1, [] => by simp
  | n + 1, _ :: xs => by simp [List.replicate_succ, dotR_replicate_zero n xs]

theorem dotQ_cast : ∀ (u v : List Rat), ((dotQ u v : Rat) : ℝ) = dotR (castV u) (castV v)
  | [], _ => by simp [dotQ, castV]
  | _ :: _, [] => by simp [dotQ, castV]
  | u0 :: us, v0 :: vs => by rw [dotQ, Rat.cast_add, Rat.cast_mul, dotQ_cast us vs]; rfl

theorem castV_getD (c : List ℚ) (k : Nat) : (castV c).getD k 0 = ((c.getD k 0 : ℚ) : ℝ) := by
  rw [← Rat.cast_zero, castV]; exact List.getD_map c 0 _

theorem castM_getD (V : QMat) (i : Nat) : (castM V).getD i [] = castV (V.getD i []) :=
  List.getD_map V [] castV

theorem colR_getD (a : RMat) (j k : Nat) : (colR a j).getD k 0 = (a.getD k []).getD j 0 :=
  List.getD_map a [] (·.getD j 0)

theorem colQ_getD (B : QMat) (j k : Nat) : (colQ B j).getD k 0 = (B.getD k []).getD j 0 :=
  List.getD_map B [] (·.getD j 0)

theorem solves_mulVecQ (A : QMat) (x : QVec) : Solves (castM A) (castV (mulVecQ A x)) (castV x) := by
  unfold Solves castM mulVecQ
  induction A with
  | nil => simp [castV]
  | cons r rs ih =>
    simp only [List.map_cons, castV, List.forall₂_cons]
    refine ⟨?_, ?_⟩
    · have := dotQ_cast r x
      simp only [castV] at this
      exact this.symm
    · simpa [castV] using ih

/-! ### membership in interval vectors -/

theorem VMem.length_eq {x : RVec} {X : IVec} (h : VMem x X) : x.length = X.length := List.Forall₂.length_eq h

theorem VMem.getD {x : RVec} {X : IVec} (h : VMem x X) {i : Nat} (hi : i < X.length) :
    x.getD i 0 ∈ X.getD i .empty := by
  induction h generalizing i with
  | nil => simp at hi
  | cons h1 _ ih =>
    cases i with
    | zero => simpa using h1
    | succ i => simpa using ih (by simpa using hi)

/-- beyond the end of the row the default is `point 0`: a missing coefficient is 0 -/
theorem VMem.getD_point {a : RVec} {A : IVec} (h : VMem a A) (i : Nat) :
    a.getD i 0 ∈ A.getD i (Itv.point 0) :=
  forall₂_getD h i (Itv.mem_point_zero.2 rfl)

theorem VMem.set {x : RVec} {X : IVec} (h : VMem x X) {i : Nat} {I : Itv}
    (hI : i < X.length → x.getD i 0 ∈ I) : VMem x (X.set i I) := by
  by_cases hi : i < X.length
  · have hx : i < x.length := h.length_eq ▸ hi
    exact Box.mem_set h (List.getElem?_eq_getElem hx) (List.getD_eq_getElem x 0 hx ▸ hI hi)
  · rwa [List.set_eq_of_length_le (not_lt.1 hi)]

theorem VMem.of_all2_subset {x : RVec} {X Y : IVec} (h : VMem x X) (hs : Box.all2 Itv.subset X Y = true) :
    VMem x Y :=
  Box.mem_of_all2 (fun _ _ _ hXY ht => Itv.mem_of_subset hXY ht) hs h

theorem VMem.of_subset {x : RVec} {X Y : IVec} (h : VMem x X) (hs : Box.subset X Y = true) : VMem x Y :=
  Box.subset_sound hs h

/-! ### Gauss–Seidel: one row -/

/-- real counterpart of `restSub` -/
def restR (i : Nat) : Nat → List ℝ → List ℝ → ℝ → ℝ
  | k, a :: as, x :: xs, acc => restR i (k + 1) as xs (if k = i then acc else acc - a * x)
  | _, _, _, acc => acc

theorem restSub_encl (i : Nat) {a : RVec} {A : IVec} (ha : VMem a A) :
    ∀ {x : RVec} {X : IVec}, VMem x X → ∀ (k : Nat) {acc : ℝ} {Acc : Itv}, acc ∈ Acc →
      restR i k a x acc ∈ restSub i k A X Acc := by
  induction ha with
  | nil => intro x X _ k acc Acc h; simpa [restR, restSub] using h
  | cons h1 _ ih =>
    intro x X hx k acc Acc h
    cases hx with
    | nil => simpa [restR, restSub] using h
    | cons hx1 hx2 =>
      simp only [restR, restSub]
      apply ih hx2
      split
      · exact h
      · exact Itv.sub_encl h (Itv.mul_encl h1 hx1)

theorem restR_of_lt {i : Nat} : ∀ (a x : List ℝ) (k : Nat) (acc : ℝ), i < k → restR i k a x acc = acc - dotR a x
  | [], _, _, _, _ => by simp [restR]
  | _ :: _, [], _, _, _ => by simp [restR]
  | a :: as, x :: xs, k, acc, h => by
    rw [restR, if_neg (Nat.ne_of_gt h), restR_of_lt as xs (k + 1) _ (Nat.lt_succ_of_lt h), dotR_cons, sub_sub]

theorem restR_add : ∀ (i : Nat) (a x : List ℝ) (k : Nat) (acc : ℝ),
    restR (k + i) k a x acc = acc - dotR a x + a.getD i 0 * x.getD i 0
  | _, [], _, _, _ => by simp [restR]
  | _, _ :: _, [], _, _ => by simp [restR]
  | 0, a :: as, x :: xs, k, acc => by
    rw [Nat.add_zero, restR, if_pos rfl, restR_of_lt as xs (k + 1) acc (Nat.lt_succ_self k), dotR_cons]
    simp only [List.getD_cons_zero]; ring
  | i + 1, a :: as, x :: xs, k, acc => by
    rw [restR, if_neg (by omega), show k + (i + 1) = k + 1 + i by omega, restR_add i as xs, dotR_cons]
    simp only [List.getD_cons_succ]; ring

theorem restSub_solve {row : IVec} {br : Itv} {X : IVec} {a : RVec} {b : ℝ} {x : RVec} (i : Nat)
    (ha : VMem a row) (hb : b ∈ br) (hx : VMem x X) (heq : dotR a x = b) :
    a.getD i 0 * x.getD i 0 ∈ restSub i 0 row X br := by
  have h := restSub_encl i ha hx 0 hb
  have e := restR_add i a x 0 b
  rw [Nat.zero_add] at e
  rwa [e, heq, sub_self, zero_add] at h

/-- **one Gauss–Seidel row projection keeps every solution**: if `a ∈ row`, `b ∈ br`, `x ∈ X` and
    `a·x = b`, then `x_i` stays in `x_i ∩ (br − Σ_{j≠i} row_j·X_j) ⊘ row_i`. -/
theorem rowProj_sound {row : IVec} {br : Itv} {X : IVec} {a : RVec} {b : ℝ} {x : RVec} {i : Nat}
    (ha : VMem a row) (hb : b ∈ br) (hx : VMem x X) (hi : i < X.length) (heq : dotR a x = b) :
    x.getD i 0 ∈ rowProj row br X i := by
  have h : x.getD i 0 * a.getD i 0 ∈ restSub i 0 row X br := mul_comm (a.getD i 0) _ ▸ restSub_solve i ha hb hx heq
  exact Bwd.mem_projMul1 (hx.getD hi) (ha.getD_point i) h

theorem rowStep_sound {row : IVec} {br : Itv} {X : IVec} {a : RVec} {b : ℝ} {x : RVec} (i : Nat)
    (ha : VMem a row) (hb : b ∈ br) (hx : VMem x X) (heq : dotR a x = b) :
    VMem x (rowStep row br X i) :=
  hx.set fun hi => rowProj_sound ha hb hx hi heq

/-! ### Gauss–Seidel: sweeps -/

theorem sweepRows_sound (n : Nat) {a : RMat} {A : IMat} (ha : MMem a A) :
    ∀ {bv : RVec} {B : IVec} {x : RVec} {X : IVec} (r : Nat), VMem bv B → VMem x X → Solves a bv x →
      VMem x (sweepRows n r A B X) := by
  induction ha with
  | nil => intro bv B x X r _ hx _; simpa [sweepRows] using hx
  | cons h1 _ ih =>
    intro bv B x X r hb hx hs
    cases hs with
    | cons hs1 hs2 =>
      cases hb with
      | cons hb1 hb2 =>
        simp only [sweepRows]
        exact ih (r + 1) hb2 (rowStep_sound (r % n) h1 hb1 hx hs1) hs2

theorem gsSweep_sound {a : RMat} {A : IMat} {bv : RVec} {B : IVec} {x : RVec} {X : IVec}
    (ha : MMem a A) (hb : VMem bv B) (hx : VMem x X) (hs : Solves a bv x) : VMem x (gsSweep A B X) :=
  sweepRows_sound _ ha 0 hb hx hs

theorem gsIter_sound {a : RMat} {A : IMat} {bv : RVec} {B : IVec} {x : RVec}
    (ha : MMem a A) (hb : VMem bv B) (hs : Solves a bv x) :
    ∀ (fuel : Nat) {X : IVec}, VMem x X → VMem x (gsIter fuel A B X).1 := by
  intro fuel
  induction fuel with
  | zero => intro X hx; simpa [gsIter] using hx
  | succ f ih =>
    intro X hx
    simp only [gsIter]
    split
    · exact hx
    · split
      · exact hx
      · exact ih (gsSweep_sound ha hb hx hs)

/-! ### inflating Gauss–Seidel -/

theorem inflRowStep_sound {row : IVec} {br : Itv} {X : IVec} {a : RVec} {b : ℝ} {x : RVec} (i : Nat)
    (ha : VMem a row) (hb : b ∈ br) (hx : VMem x X) (heq : dotR a x = b) :
    VMem x (inflRowStep row br X i) := by
  unfold inflRowStep
  apply hx.set
  intro _
  have h := restSub_solve i ha hb hx heq
  have hai := ha.getD_point i
  split
  · exact Itv.mem_all _
  · rename_i h0
    have hne : a.getD i 0 ≠ 0 := by
      intro hz
      apply h0
      have : (0 : ℝ) ∈ row.getD i (Itv.point 0) := hz ▸ hai
      exact Bwd.containsExt_z.2 this
    have := Itv.div_encl h hai hne
    rwa [mul_div_cancel_left₀ _ hne] at this

theorem inflSweepRows_sound {a : RMat} {A : IMat} (ha : MMem a A) :
    ∀ {bv : RVec} {B : IVec} {x : RVec} {X : IVec} (r : Nat), VMem bv B → VMem x X → Solves a bv x →
      VMem x (inflSweepRows r A B X) := by
  induction ha with
  | nil => intro bv B x X r _ hx _; simpa [inflSweepRows] using hx
  | cons h1 _ ih =>
    intro bv B x X r hb hx hs
    cases hs with
    | cons hs1 hs2 =>
      cases hb with
      | cons hb1 hb2 =>
        simp only [inflSweepRows]
        exact ih (r + 1) hb2 (inflRowStep_sound r h1 hb1 hx hs1) hs2

theorem inflIter_sound {a : RMat} {A : IMat} {bv : RVec} {B : IVec} {x : RVec}
    (ha : MMem a A) (hb : VMem bv B) (hs : Solves a bv x) :
    ∀ (k : Nat) {X : IVec}, VMem x X → VMem x (inflIter k A B X) := by
  intro k
  induction k with
  | zero => intro X hx; simpa [inflIter] using hx
  | succ k ih => intro X hx; exact ih (inflSweepRows_sound ha 0 hb hx hs)


/-- acceptance for the inflating variant: the implementation's box contains SOME model iterate -/
theorem inflOk_sound {a : RMat} {A : IMat} {bv : RVec} {B : IVec} {x : RVec} {impl : IVec}
    (ha : MMem a A) (hb : VMem bv B) (hs : Solves a bv x) :
    ∀ (fuel : Nat) {X : IVec}, VMem x X → inflOk fuel A B X impl = true → VMem x impl := by
  intro fuel
  induction fuel with
  | zero => intro X hx h; exact hx.of_subset (by simpa [inflOk] using h)
  | succ f ih =>
    intro X hx h
    simp only [inflOk, Bool.or_eq_true] at h
    rcases h with h | h
    · exact hx.of_subset h
    · exact ih (inflSweepRows_sound ha 0 hb hx hs) h

/-! ### transfer along the structural inclusion checks -/

theorem vecSubset_eq_all2 : ∀ (X Y : IVec), vecSubset X Y = Box.all2 Itv.subset X Y
  | [], [] => rfl
  | _ :: xs, _ :: ys => by rw [vecSubset, Box.all2, vecSubset_eq_all2 xs ys]
  | [], _ :: _ => rfl
  | _ :: _, [] => rfl

theorem VMem.of_vecSubset {x : RVec} {X Y : IVec} (h : VMem x X) (hs : vecSubset X Y = true) : VMem x Y :=
  h.of_all2_subset (vecSubset_eq_all2 X Y ▸ hs)

theorem MMem.of_matSubset {a : RMat} {A B : IMat} (h : MMem a A) (hs : matSubset A B = true) : MMem a B := by
  induction h generalizing B with
  | nil =>
    cases B with
    | nil => exact List.Forall₂.nil
    | cons _ _ => simp [matSubset] at hs
  | cons h1 _ ih =>
    cases B with
    | nil => simp [matSubset] at hs
    | cons J Js =>
      simp only [matSubset, Bool.and_eq_true] at hs
      exact List.Forall₂.cons (VMem.of_vecSubset h1 hs.1) (ih hs.2)

/-! ### preconditioning: `C·a·x = C·b` and the interval products enclose `C·a`, `C·b` -/

/-- `C · a` for `a` with `n` columns -/
def mulRR (n : Nat) (C : List (List ℝ)) (a : RMat) : RMat :=
  C.map fun c => (List.range n).map fun j => dotR c (colR a j)

def mulRV (C : List (List ℝ)) (b : RVec) : RVec := C.map fun c => dotR c b

theorem dotCI_encl : ∀ (c : List Rat) {a : RVec} {X : IVec}, VMem a X → ∀ {acc : ℝ} {Acc : Itv}, acc ∈ Acc →
    acc + dotR (castV c) a ∈ dotCI c X Acc := by
  intro c
  induction c with
  | nil => intro a X _ acc Acc h; simpa [dotCI, castV] using h
  | cons c0 cs ih =>
    intro a X ha acc Acc h
    cases ha with
    | nil => simpa [dotCI, castV] using h
    | cons h1 h2 =>
      simp only [dotCI]
      have := ih h2 (Itv.add_encl h (Itv.mul_encl ((Itv.mem_point (q := c0)).2 rfl) h1))
      simpa [castV, add_assoc] using this

theorem colR_mem {a : RMat} {A : IMat} (h : MMem a A) (j : Nat) : VMem (colR a j) (colI A j) := by
  induction h with
  | nil => exact List.Forall₂.nil
  | cons h1 _ ih => exact List.Forall₂.cons (h1.getD_point j) ih

theorem mulCI_encl (n : Nat) (C : QMat) {a : RMat} {A : IMat} (h : MMem a A) :
    MMem (mulRR n (castM C) a) (mulCI n C A) := by
  rw [mulRR, castM, List.map_map]
  refine forall₂_map_map fun c _ => forall₂_map_map fun j _ => ?_
  have := dotCI_encl c (colR_mem h j) (Itv.mem_point_zero.2 rfl)
  rwa [zero_add] at this

theorem mulCV_encl (C : QMat) {b : RVec} {B : IVec} (h : VMem b B) :
    VMem (mulRV (castM C) b) (mulCV C B) := by
  rw [mulRV, castM, List.map_map]
  refine forall₂_map_map fun c _ => ?_
  have := dotCI_encl c h (Itv.mem_point_zero.2 rfl)
  rwa [zero_add] at this

/-- `(cᵀ a)·x = cᵀ (a·x)` for a matrix whose rows all have length `n` -/
theorem dotR_mulRow (n : Nat) (x : RVec) : ∀ (c : List ℝ) (a : RMat), (∀ r ∈ a, r.length = n) →
    dotR ((List.range n).map fun j => dotR c (colR a j)) x = dotR c (a.map fun r => dotR r x) := by
  intro c
  induction c with
  | nil => intro a _; simp
  | cons c0 cs ih =>
    intro a ha
    cases a with
    | nil => simp [colR]
    | cons r0 rs =>
      have h0 : r0.length = n := ha r0 (by simp)
      have hrs : ∀ r ∈ rs, r.length = n := fun r hr => ha r (by simp [hr])
      have : (fun j => dotR (c0 :: cs) (colR (r0 :: rs) j)) =
          fun j => c0 * r0.getD j 0 + dotR cs (colR rs j) := by
        funext j; simp [colR]
      rw [this, dotR_map_mul_add, ih rs hrs]
      subst h0
      rw [map_getD_range]
      simp

theorem Solves.eq_map {a : RMat} {b x : RVec} (h : Solves a b x) : b = a.map fun r => dotR r x := by
  induction h with
  | nil => rfl
  | cons h1 _ ih => simp [← h1, ← ih]

/-- **preconditioning keeps every solution**: for ANY real matrix `C`, `a·x = b` implies `(C·a)·x = C·b` -/
theorem precond_real (n : Nat) (C : List (List ℝ)) {a : RMat} {b x : RVec} (hn : ∀ r ∈ a, r.length = n)
    (h : Solves a b x) : Solves (mulRR n C a) (mulRV C b) x := by
  refine forall₂_map_map fun c _ => ?_
  rw [dotR_mulRow n x c a hn, h.eq_map]

theorem MMem.row_length {a : RMat} {A : IMat} (h : MMem a A) {n : Nat} (hn : ∀ R ∈ A, R.length = n) :
    ∀ r ∈ a, r.length = n := by
  induction h with
  | nil => intro r hr; simp at hr
  | @cons r R _ _ h1 _ ih =>
    intro r' hr'
    rcases List.mem_cons.1 hr' with rfl | h'
    · rw [VMem.length_eq h1]; exact hn R (by simp)
    · exact ih (fun R' hR' => hn R' (by simp [hR'])) r' h'

/-- **acceptance of a preconditioned system**: if `(A', b')` encloses the model products `C·[A]`, `C·[b]`
    for some rational matrix `C`, every solution `x` of an instance `(a, b)` of `([A],[b])` solves an
    instance `(a', b')` of `([A'],[b'])`. -/
theorem precondOk_sound {n : Nat} {C : QMat} {A A' : IMat} {B B' : IVec} (hn : ∀ R ∈ A, R.length = n)
    (hok : precondOk n C A B A' B' = true) {a : RMat} {b x : RVec}
    (ha : MMem a A) (hb : VMem b B) (hs : Solves a b x) :
    ∃ a' b', MMem a' A' ∧ VMem b' B' ∧ Solves a' b' x := by
  simp only [precondOk, Bool.and_eq_true] at hok
  exact ⟨mulRR n (castM C) a, mulRV (castM C) b,
    (mulCI_encl n C ha).of_matSubset hok.1, (mulCV_encl C hb).of_vecSubset hok.2,
    precond_real n _ (ha.row_length hn) hs⟩

/-! ### exact membership in the united solution set -/

theorem rowRange_encl : ∀ {a : RVec} {row : IVec}, VMem a row → ∀ (x : List Rat) {acc : ℝ} {Acc : Itv}, acc ∈ Acc →
    acc + dotR a (castV x) ∈ rowRange row x Acc := by
  intro a row ha
  induction ha with
  | nil => intro x acc Acc h; simpa [rowRange] using h
  | cons h1 _ ih =>
    intro x acc Acc h
    cases x with
    | nil => simpa [rowRange, castV] using h
    | cons x0 xs =>
      simp only [rowRange]
      have := ih xs (Itv.addG_encl Rnd.exact_sound h (Itv.mulG_encl Rnd.exact_sound h1 ((Itv.mem_point (q := x0)).2 rfl)))
      simpa [castV, add_assoc] using this

/-- a rational point that solves some instance of `([A],[b])` passes the Oettli–Prager test: a point
    REJECTED by `sigmaMem` is a solution of no instance. -/
theorem sigmaMem_of_solution {A : IMat} {B : IVec} {x : List Rat} {a : RMat} {b : RVec}
    (ha : MMem a A) (hb : VMem b B) (hs : Solves a b (castV x)) : sigmaMem A B x = true := by
  induction ha generalizing b B with
  | nil =>
    cases hs with
    | nil => cases hb with | nil => rfl
  | cons h1 _ ih =>
    cases hs with
    | cons hs1 hs2 =>
      cases hb with
      | cons hb1 hb2 =>
        simp only [sigmaMem, Bool.and_eq_true]
        refine ⟨?_, ih hb2 hs2⟩
        have := rowRange_encl h1 x (acc := 0) (Acc := Itv.point 0) (Itv.mem_point.2 (by simp))
        rw [zero_add, hs1] at this
        exact Itv.intersects_of_mem this hb1


/-! ### strict diagonal dominance -/

/-- `Σ_{j ≠ i} |a_j|` (columns counted from `k`) -/
def offAbsR (i : Nat) : Nat → List ℝ → ℝ
  | k, a :: as => (if k = i then 0 else |a|) + offAbsR i (k + 1) as
  | _, [] => 0

/-- every row `i, i+1, …` is strictly dominated by its diagonal entry -/
def SDDRows : Nat → RMat → Prop
  | i, row :: rows => offAbsR i 0 row < |row.getD i 0| ∧ SDDRows (i + 1) rows
  | _, [] => True

theorem abs_le_magE {v : ℝ} {I : Itv} (h : v ∈ I) : ((|v| : ℝ) : EReal) ≤ (magE I).toE := by
  cases I with
  | empty => exact absurd h (Itv.not_mem_empty v)
  | mk a b =>
    obtain ⟨h1, h2⟩ := h
    simp only [magE, Ext.toE_max, Ext.toE_neg]
    rcases abs_cases v with ⟨hv, _⟩ | ⟨hv, _⟩
    · rw [hv]; exact le_max_of_le_right h2
    · rw [hv]
      refine le_max_of_le_left ?_
      rw [EReal.coe_neg]
      exact EReal.neg_le_neg_iff.2 h1

theorem migE_le_abs {v : ℝ} {I : Itv} (h : v ∈ I) : (migE I).toE ≤ ((|v| : ℝ) : EReal) := by
  cases I with
  | empty => exact absurd h (Itv.not_mem_empty v)
  | mk a b =>
    obtain ⟨h1, h2⟩ := h
    simp only [migE]
    split
    · exact le_trans h1 (EReal.coe_le_coe_iff.2 (le_abs_self v))
    · split
      · rw [Ext.toE_neg]
        have : -b.toE ≤ ((-v : ℝ) : EReal) := by
          rw [EReal.coe_neg]; exact EReal.neg_le_neg_iff.2 h2
        exact le_trans this (EReal.coe_le_coe_iff.2 (neg_le_abs v))
      · simp only [Ext.toE_fin, Rat.cast_zero, EReal.coe_le_coe_iff]
        exact abs_nonneg v

theorem addE_toE (a b : Ext) : (addE a b).toE = a.toE + b.toE := by
  cases a <;> cases b <;> simp [addE, EReal.coe_add]

theorem offAbs_le (i : Nat) {a : RVec} {A : IVec} (h : VMem a A) :
    ∀ k, ((offAbsR i k a : ℝ) : EReal) ≤ (offMag i k A).toE := by
  induction h with
  | nil => intro k; simp [offAbsR, offMag]
  | cons h1 _ ih =>
    intro k
    simp only [offAbsR, offMag]
    split
    · simpa using ih (k + 1)
    · rw [addE_toE, EReal.coe_add]
      exact add_le_add (abs_le_magE h1) (ih (k + 1))

/-- **diagonal-dominance certificate**: if the exact test `Σ_{j≠i} mag([A]_ij) < mig([A]_ii)` holds for
    every row, every real matrix inside `[A]` is strictly diagonally dominant by rows. -/
theorem ddRows_sound {a : RMat} {A : IMat} (h : MMem a A) : ∀ i, ddRows i A = true → SDDRows i a := by
  induction h with
  | nil => intro i _; trivial
  | cons h1 _ ih =>
    intro i hd
    simp only [ddRows, Bool.and_eq_true] at hd
    refine ⟨?_, ih (i + 1) hd.2⟩
    have hlt := (Ext.lt_iff _ _).1 hd.1
    have h3 := lt_of_lt_of_le (lt_of_le_of_lt (offAbs_le i h1 0) hlt) (migE_le_abs (h1.getD_point i))
    exact EReal.coe_lt_coe_iff.1 h3


/-! ### the Boolean membership tests of the driver are exact -/

theorem ratIn_iff {q : Rat} {I : Itv} : ratIn q I = true ↔ (q : ℝ) ∈ I := Itv.containsExt_fin

theorem vecIn_iff : ∀ {q : QVec} {X : IVec}, vecIn q X = true ↔ VMem (castV q) X := by
  intro q
  induction q with
  | nil =>
    intro X
    cases X with
    | nil => simp [vecIn, castV, VMem]
    | cons _ _ => simp [vecIn, castV, VMem]
  | cons q0 qs ih =>
    intro X
    cases X with
    | nil => simp [vecIn, castV, VMem]
    | cons I Is =>
      simp only [vecIn, Bool.and_eq_true, ratIn_iff, ih, castV, VMem, List.map_cons, List.forall₂_cons]

theorem matIn_iff : ∀ {q : QMat} {A : IMat}, matIn q A = true ↔ MMem (castM q) A := by
  intro q
  induction q with
  | nil =>
    intro A
    cases A with
    | nil => simp [matIn, castM, MMem]
    | cons _ _ => simp [matIn, castM, MMem]
  | cons q0 qs ih =>
    intro A
    cases A with
    | nil => simp [matIn, castM, MMem]
    | cons I Is =>
      simp only [matIn, Bool.and_eq_true, vecIn_iff, ih, castM, MMem, List.map_cons, List.forall₂_cons]

/-! ### sub-matrices -/

/-- rows `rs` and columns `cs` of a real matrix (a missing entry is 0) -/
def subR (rs cs : List Nat) (a : RMat) : RMat := rs.map fun i => pickV (0 : ℝ) cs (a.getD i [])

theorem MMem.getD_nil {a : RMat} {A : IMat} (h : MMem a A) (i : Nat) : VMem (a.getD i []) (A.getD i []) :=
  forall₂_getD h i List.Forall₂.nil

theorem MMem.sub {a : RMat} {A : IMat} (h : MMem a A) (rs cs : List Nat) : MMem (subR rs cs a) (subI rs cs A) :=
  forall₂_map_map fun i _ => forall₂_map_map fun j _ => (h.getD_nil i).getD_point j

end Ibex.LinAlg
