/-
  Soundness of the optimizer's cover certificate (`IbexModel/OptCover.lean`), by induction over the event list
  (no bound on the length of the log, on the number of cells, on the dimension).
-/
import IbexModel.OptCover
import IbexProofs.Cover

namespace Ibex.OptCover
open Ibex Ibex.Cover

def Below (g : Nat) (U : Ext) (p : List ℝ) : Prop := ∃ t : ℝ, p[g]? = some t ∧ ((t : ℝ) : EReal) < U.toE

theorem keeps_sound {g : Nat} {U : Ext} {e f : Box} (h : keeps g U e f = true) {p : List ℝ}
    (hp : Box.Mem p e) (hb : Below g U p) : Box.Mem p f := by
  simp only [keeps, Bool.and_eq_true, beq_iff_eq, List.all_eq_true, List.mem_range] at h
  obtain ⟨hlen, hall⟩ := h
  obtain ⟨hpl, hpe⟩ := Box.mem_iff.1 hp
  refine Box.mem_iff.2 ⟨hpl.trans hlen, fun i t I hpi hfi => ?_⟩
  have hi : i < e.length := by
    have := (List.getElem?_eq_some_iff.1 hfi).1
    omega
  obtain ⟨ej, hei⟩ : ∃ ej, e[i]? = some ej := ⟨_, List.getElem?_eq_getElem hi⟩
  have hte : t ∈ ej := hpe i t _ hpi hei
  have := hall i hi
  rw [hei, hfi] at this
  simp only at this
  split_ifs at this with hig
  · -- the goal coordinate
    subst hig
    cases ej with
    | empty => simp at this
    | mk a b =>
      cases I with
      | empty => simp at this
      | mk c d =>
        simp only [Bool.and_eq_true, Bool.or_eq_true, Ext.le_iff] at this
        rw [Itv.mem_mk] at hte ⊢
        refine ⟨le_trans this.1 hte.1, ?_⟩
        rcases this.2 with h2 | h2
        · exact le_trans hte.2 h2
        · obtain ⟨t', ht', hlt⟩ := hb
          rw [hpi] at ht'
          cases ht'
          exact le_trans (le_of_lt hlt) h2
  · exact Itv.mem_of_subset this hte

theorem droppable_sound {g : Nat} {U : Ext} {e : Box} (h : droppable g U e = true) {p : List ℝ}
    (hp : Box.Mem p e) : ¬ Below g U p := by
  rintro ⟨t, ht, hlt⟩
  simp only [droppable, Bool.or_eq_true] at h
  rcases h with h | h
  · exact Box.not_mem_of_isEmpty h hp
  · split at h
    · rename_i a b heg
      rw [Ext.le_iff] at h
      have := (Box.mem_iff.1 hp).2 g t _ ht heg
      rw [Itv.mem_mk] at this
      exact absurd (lt_of_lt_of_le hlt (le_trans h this.1)) (lt_irrefl _)
    · cases h

theorem not_below_of_all_droppable {g : Nat} {U : Ext} {l : List Box}
    (h : ¬ (!(l.all (droppable g U))) = true) {e : Box} (he : e ∈ l) {p : List ℝ} (hm : Box.Mem p e) :
    ¬ Below g U p :=
  droppable_sound (List.all_eq_true.1 (by simpa using h) e he) hm

theorem replaceFirst_perm {pr : Box → Bool} {new : Box} : ∀ {l l' : List Box}, replaceFirst pr new l = some l' →
    ∃ e rest, pr e = true ∧ List.Perm l (e :: rest) ∧ List.Perm l' (new :: rest)
  | [], _, h => by simp [replaceFirst] at h
  | y :: ys, l', h => by
    simp only [replaceFirst] at h
    split_ifs at h with hy
    · cases h
      exact ⟨y, ys, hy, List.Perm.refl _, List.Perm.refl _⟩
    · obtain ⟨r, hr, rfl⟩ := Option.map_eq_some_iff.1 h
      obtain ⟨e, rest, he, hp, hp'⟩ := replaceFirst_perm hr
      exact ⟨e, y :: rest, he, (hp.cons y).trans (List.Perm.swap e y rest),
        (hp'.cons y).trans (List.Perm.swap new y rest)⟩

variable {Sol : Set (List ℝ)} {g : Nat} {U : Ext} {root : Box}

def Inv (Sol : Set (List ℝ)) (root : Box) (s : St) : Prop :=
  ∀ p ∈ Sol, Box.Mem p root → (∃ b ∈ s.opn, Box.Mem p b) ∨ (∃ e ∈ s.pending, Box.Mem p e)

theorem step_inv (hSol : ∀ p ∈ Sol, Below g U p) {s s' : St} {ev : Ev} (hI : Inv Sol root s)
    (hleaf : ∀ i o, ev = .ctc i o → ∀ p ∈ Sol, Box.Mem p i → Box.Mem p o)
    (h : step g U s ev = .ok s') : Inv Sol root s' := by
  cases ev with
  | top c =>
    simp only [step] at h
    split_ifs at h with hd
    split at h
    · rename_i rest hrm
      injection h with h
      subst h
      intro p hp hr
      rcases hI p hp hr with ⟨b, hb, hm⟩ | ⟨e, he, hm⟩
      · rcases mem_of_removeOne hrm b hb with rfl | hb'
        · exact Or.inr ⟨b, List.mem_singleton.2 rfl, hm⟩
        · exact Or.inl ⟨b, hb', hm⟩
      · exact absurd (hSol p hp) (not_below_of_all_droppable hd he hm)
    · cases h
  | bis l r =>
    simp only [step] at h
    split at h
    · rename_i c hpd
      split_ifs at h with hsp
      injection h with h
      subst h
      intro p hp hr
      rcases hI p hp hr with hb | ⟨e, he, hm⟩
      · exact Or.inl hb
      · rw [hpd, List.mem_singleton] at he
        subst he
        rcases split2Ok_sound hsp hm with h1 | h1
        · exact Or.inr ⟨l, List.mem_cons_self .., h1⟩
        · exact Or.inr ⟨r, List.mem_cons_of_mem _ (List.mem_cons_self ..), h1⟩
    · cases h
  | pop c =>
    simp only [step] at h
    injection h with h
    exact h ▸ hI
  | ctc i o =>
    simp only [step] at h
    split_ifs at h with hsub
    split at h
    · rename_i pd hrf
      injection h with h
      subst h
      obtain ⟨e, rest, hme, hpd, hpd'⟩ := replaceFirst_perm hrf
      intro p hp hr
      rcases hI p hp hr with hb | ⟨x, hx, hm⟩
      · exact Or.inl hb
      · rcases List.mem_cons.1 (hpd.mem_iff.1 hx) with rfl | hx'
        · simp only [pairs, Bool.and_eq_true] at hme
          have hin := keeps_sound hme.2 hm (hSol p hp)
          exact Or.inr ⟨o, hpd'.mem_iff.2 (List.mem_cons_self ..), hleaf i o rfl p hp hin⟩
        · exact Or.inr ⟨x, hpd'.mem_iff.2 (List.mem_cons_of_mem _ hx'), hm⟩
    · injection h with h
      exact h ▸ hI
  | push f =>
    simp only [step] at h
    split at h
    · rename_i pd hrf
      injection h with h
      subst h
      obtain ⟨e, hme, hpd⟩ := removeFirst_perm hrf
      intro p hp hr
      rcases hI p hp hr with ⟨b, hb, hm⟩ | ⟨x, hx, hm⟩
      · exact Or.inl ⟨b, List.mem_cons_of_mem _ hb, hm⟩
      · rcases List.mem_cons.1 (hpd.mem_iff.1 hx) with rfl | hx'
        · simp only [pairs, Bool.and_eq_true] at hme
          exact Or.inl ⟨f, List.mem_cons_self .., keeps_sound hme.2 hm (hSol p hp)⟩
        · exact Or.inr ⟨x, hx', hm⟩
    · cases h

theorem foldlM_inv (hSol : ∀ p ∈ Sol, Below g U p) (log : List Ev) {s s' : St} (hI : Inv Sol root s)
    (hleaf : ∀ i o, Ev.ctc i o ∈ log → ∀ p ∈ Sol, Box.Mem p i → Box.Mem p o)
    (h : log.foldlM (step g U) s = .ok s') : Inv Sol root s' :=
  foldlM_except_inv (Q := fun e => ∀ i o, e = Ev.ctc i o → ∀ p ∈ Sol, Box.Mem p i → Box.Mem p o)
    (fun _ _ _ hI hQ hs => step_inv hSol hI hQ hs) log hI (fun _ he i o heq => hleaf i o (heq ▸ he)) h

/-- **Soundness of the optimizer's cover certificate.**  `Sol` is any set of points whose goal coordinate is below
    `U` and that every logged contraction keeps.  If the log is accepted, no point of `Sol` lies in the root box. -/
theorem check_sound (hSol : ∀ p ∈ Sol, Below g U p) {log : List Ev}
    (hacc : checkOk g U root log = true)
    (hleaf : ∀ i o, Ev.ctc i o ∈ log → ∀ p ∈ Sol, Box.Mem p i → Box.Mem p o) :
    ∀ p ∈ Sol, ¬ Box.Mem p root := by
  intro p hp hr
  unfold checkOk at hacc
  split at hacc
  · rename_i u hchk
    simp only [check, bind, Except.bind] at hchk
    cases h1 : log.foldlM (step g U) ⟨[], [root]⟩ with
    | error m => rw [h1] at hchk; cases hchk
    | ok s1 =>
      rw [h1] at hchk
      simp only at hchk
      split_ifs at hchk with hpd hop
      have hI0 : Inv Sol root ⟨[], [root]⟩ := fun q _ hq => Or.inr ⟨root, List.mem_singleton.2 rfl, hq⟩
      have hI := foldlM_inv hSol log hI0 hleaf h1
      rcases hI p hp hr with ⟨b, hb, hm⟩ | ⟨e, he, hm⟩
      · exact not_below_of_all_droppable hop hb hm (hSol p hp)
      · exact not_below_of_all_droppable hpd he hm (hSol p hp)
  · cases hacc

end Ibex.OptCover
