/-
  The model of the search loop (`IbexModel/SearchLoop.lean`).  Every run (any policy whose contractor keeps the
  solutions and whose decisions cover the contracted box, any number of iterations) keeps every solution of the
  root box in a stored box or in a cell of the buffer; the log it emits is accepted by the certificate
  `Cover.check` that judges the logs of the real solver (a simulation between the loop state and the replay
  state), also for a search resumed from a saved paving (`Cover.stageOk`), and has the shape `loopShaped` by
  which the driver tags the real logs.
-/
import IbexProofs.Cover
import IbexModel.SearchLoop

namespace Ibex.SearchLoop
open Ibex Ibex.Cover

variable {P : Policy} {Sol : Set (List ℝ)}

theorem step_some {s s' : St} (h : step P s = some s') : ∃ b ∈ s.buffer, s' = stepOn P s b := by
  unfold step at h
  cases hb : s.buffer[P.pick s.buffer % s.buffer.length]? with
  | none => rw [hb] at h; cases h
  | some b => rw [hb] at h; cases h; exact ⟨b, List.mem_of_getElem? hb, rfl⟩

theorem step_none {s : St} (h : step P s = none) : s.buffer = [] := by
  unfold step at h
  cases hbuf : s.buffer with
  | nil => rfl
  | cons x xs =>
    exfalso
    have hlt : P.pick s.buffer % s.buffer.length < s.buffer.length :=
      Nat.mod_lt _ (by rw [hbuf]; simp)
    rw [List.getElem?_eq_getElem hlt] at h
    cases h

theorem run_invariant {I : St → Prop} (hstep : ∀ s, ∀ b ∈ s.buffer, I s → I (stepOn P s b)) :
    ∀ (fuel : Nat) (s : St), I s → I (run P fuel s)
  | 0, _, h => h
  | fuel + 1, s, h => by
    unfold run
    split
    · exact h
    · rename_i s' hs
      obtain ⟨b, hb, rfl⟩ := step_some hs
      exact run_invariant hstep fuel _ (hstep s b hb h)

/-! ### direct invariant: no solution is lost -/

def Covers (Sol : Set (List ℝ)) (root : Box) (s : St) : Prop :=
  ∀ p ∈ Sol, Box.Mem p root → ∃ b ∈ s.stored ++ s.buffer, Box.Mem p b

theorem step_covers {root : Box} {s : St} {b : Box}
    (hctc : ∀ x p, Box.Mem p x → p ∈ Sol → Box.Mem p (P.ctc x))
    (hact : ∀ o, Box.isEmpty o = false → actOk o (P.act o) = true)
    (hI : Covers Sol root s) : Covers Sol root (stepOn P s b) := by
  intro p hp hr
  obtain ⟨b', hb', hm⟩ := hI p hp hr
  by_cases hbb : b' = b
  · -- the point was in the picked cell
    subst hbb
    have hpo : Box.Mem p (P.ctc b') := hctc b' p hm hp
    have hne : Box.isEmpty (P.ctc b') = false := Box.isEmpty_eq_false_of_mem hpo
    have ha := hact _ hne
    unfold stepOn
    simp only [hne, Bool.false_eq_true, if_false]
    cases hact' : P.act (P.ctc b') with
    | store t =>
      rw [hact'] at ha
      exact ⟨t, by simp, Box.subset_sound ha hpo⟩
    | split l r =>
      rw [hact'] at ha
      simp only [actOk, Bool.and_eq_true] at ha
      rcases Cover.split2Ok_sound ha.1.1 hpo with h | h
      · exact ⟨l, by simp, h⟩
      · exact ⟨r, by simp, h⟩
  · -- the point was in another box: that box is still there
    refine ⟨b', ?_, hm⟩
    have hin : b' ∈ s.stored ∨ b' ∈ s.buffer.erase b := by
      rcases List.mem_append.1 hb' with h | h
      · exact Or.inl h
      · exact Or.inr ((List.mem_erase_of_ne hbb).2 h)
    unfold stepOn
    split
    · simpa using hin
    · split
      · rcases hin with h | h
        · simp [h]
        · simp [h]
      · rcases hin with h | h
        · simp [h]
        · simp [h]

theorem run_inv {root : Box}
    (hctc : ∀ x p, Box.Mem p x → p ∈ Sol → Box.Mem p (P.ctc x))
    (hact : ∀ o, Box.isEmpty o = false → actOk o (P.act o) = true) :
    ∀ (fuel : Nat) (s : St), Covers Sol root s → Covers Sol root (run P fuel s) :=
  run_invariant fun _ _ _ h => step_covers hctc hact h

theorem init_covers (root : Box) : Covers Sol root (St.init root) :=
  fun p _ hr => ⟨root, by simp [St.init], hr⟩

theorem run_ctc_events (fuel : Nat) : ∀ s : St, (∀ i o, Ev.ctc i o ∈ s.log → o = P.ctc i) →
    ∀ i o, Ev.ctc i o ∈ (run P fuel s).log → o = P.ctc i := by
  refine run_invariant (fun s b _ h i o hio => ?_) fuel
  have h3 : ∀ i o, Ev.ctc i o ∈ evs3 P b → o = P.ctc i := by
    intro i o hh
    simp only [evs3, List.mem_cons, List.not_mem_nil, or_false] at hh
    rcases hh with hh | hh | hh
    · cases hh
    · cases hh; rfl
    · cases hh
  unfold stepOn at hio
  split at hio
  · exact (List.mem_append.1 hio).elim (h i o) (h3 i o)
  · split at hio
    · exact (List.mem_append.1 hio).elim (h i o) (h3 i o)
    · rcases List.mem_append.1 hio with hh | hh
      · exact h i o hh
      · rcases List.mem_append.1 hh with hh | hh
        · exact h3 i o hh
        · simp only [List.mem_cons, List.not_mem_nil, or_false] at hh
          rcases hh with hh | hh <;> cases hh

/-! ### the emitted log is accepted by the certificate -/

/-- the simulation relation: once the pending obligation of the replay is discharged, its buffer is the
    buffer of the loop and nothing else is pending -/
def Rel (cert : Box → Box × Box × List Nat → Bool) (pv : Paving) (s : St) (cs : Cover.St) : Prop :=
  ∃ cs', discharge cert pv cs = .ok cs' ∧ cs'.openB = s.buffer ∧ cs'.popped = none ∧ cs'.kids = []

variable {cert : Box → Box × Box × List Nat → Bool} {pv : Paving}

theorem Rel.idle (s : St) (k : Nat) : Rel cert pv s ⟨k, s.buffer, none, none, none, []⟩ :=
  ⟨_, rfl, rfl, rfl, rfl⟩

theorem step_sim {s s' : St} {cs : Cover.St}
    (hsub : ∀ x, Box.subset (P.ctc x) x = true)
    (hact : ∀ o, Box.isEmpty o = false → actOk o (P.act o) = true)
    (hpv : ∀ t ∈ s'.stored, t ∈ pv.boxes)
    (hR : Rel cert pv s cs) (hs : step P s = some s') :
    ∃ evs cs2, s'.log = s.log ++ evs ∧ evs.foldlM (Cover.step cert pv) cs = .ok cs2 ∧ Rel cert pv s' cs2 := by
  obtain ⟨cs', hd, hopen, hpop, hkids⟩ := hR
  obtain ⟨b, hbm, rfl⟩ := step_some hs
  -- the three events common to every iteration: `b` leaves the buffer, `P.ctc b` is the popped cell
  have h3 : (evs3 P b).foldlM (Cover.step cert pv) cs
      = .ok ⟨cs'.certified, s.buffer.erase b, none, none, some (P.ctc b), []⟩ := by
    rw [← hopen, ← hkids]
    exact step_iteration hd (hopen ▸ hbm) (hsub b)
  unfold stepOn at hpv ⊢
  by_cases he : Box.isEmpty (P.ctc b) = true
  · -- the box was emptied
    simp only [he, if_true] at hpv ⊢
    exact ⟨_, _, rfl, h3, _, discharge_leaf rfl rfl (Or.inl he), rfl, rfl, rfl⟩
  · have he' : Box.isEmpty (P.ctc b) = false := by simpa using he
    have ha := hact _ he'
    simp only [he', Bool.false_eq_true, if_false] at hpv ⊢
    cases hact' : P.act (P.ctc b) with
    | store t =>
      rw [hact'] at ha hpv
      simp only at hpv ⊢
      have hst : storedOk pv (P.ctc b) = true := by
        unfold storedOk
        rw [Bool.or_eq_true, List.any_eq_true]
        exact Or.inl ⟨t, hpv t List.mem_cons_self, ha⟩
      exact ⟨_, _, rfl, h3, _, discharge_leaf rfl rfl (Or.inr hst), rfl, rfl, rfl⟩
    | split l r =>
      rw [hact'] at ha
      simp only [actOk, Bool.and_eq_true, Bool.not_eq_true'] at ha
      obtain ⟨⟨hsp, hl⟩, hr⟩ := ha
      -- the two children are pushed while the popped cell is pending: they are its `kids`
      simp only
      refine ⟨_, ⟨cs'.certified, s.buffer.erase b, none, none, some (P.ctc b), [l, r]⟩, rfl, ?_, _,
        discharge_split rfl rfl he' hsp, rfl, rfl, rfl⟩
      rw [List.foldlM_append, h3]
      simp [Cover.step, hl, hr, bind, Except.bind, pure, Except.pure]

theorem stored_mono (fuel : Nat) (s : St) (t : Box) : t ∈ s.stored → t ∈ (run P fuel s).stored :=
  run_invariant (I := fun s => t ∈ s.stored) (fun s b _ h => by
    unfold stepOn
    split
    · exact h
    · split
      · exact List.mem_cons_of_mem _ h
      · exact h) fuel s

theorem run_sim
    (hsub : ∀ x, Box.subset (P.ctc x) x = true)
    (hact : ∀ o, Box.isEmpty o = false → actOk o (P.act o) = true) :
    ∀ (fuel : Nat) (s : St) (cs : Cover.St), (∀ t ∈ (run P fuel s).stored, t ∈ pv.boxes) → Rel cert pv s cs →
      ∃ evs cs2, (run P fuel s).log = s.log ++ evs ∧ evs.foldlM (Cover.step cert pv) cs = .ok cs2 ∧
        Rel cert pv (run P fuel s) cs2
  | 0, s, cs, _, hR => ⟨[], cs, by simp [run], rfl, hR⟩
  | fuel + 1, s, cs, hpv, hR => by
    unfold run at hpv ⊢
    split
    · exact ⟨[], cs, by simp, rfl, hR⟩
    · rename_i s' hs
      simp only [hs] at hpv
      obtain ⟨e1, c1, hl1, hf1, hR1⟩ :=
        step_sim (cert := cert) (pv := pv) hsub hact (fun t ht => hpv t (stored_mono fuel s' t ht)) hR hs
      obtain ⟨e2, c2, hl2, hf2, hR2⟩ := run_sim hsub hact fuel s' c1 hpv hR1
      refine ⟨e1 ++ e2, c2, by rw [hl2, hl1, List.append_assoc], ?_, hR2⟩
      rw [List.foldlM_append, hf1]
      exact hf2

/-- **Every run of the modelled search loop is accepted by the certificate that judges the real logs.** -/
theorem run_check (root : Box) (hroot : Box.isEmpty root = false)
    (hsub : ∀ x, Box.subset (P.ctc x) x = true)
    (hact : ∀ o, Box.isEmpty o = false → actOk o (P.act o) = true) (fuel : Nat) :
    ∃ k, Cover.check cert (run P fuel (St.init root)).paving (run P fuel (St.init root)).log = .ok k := by
  obtain ⟨evs, cs2, hlog, hfold, cs3, hd, hopen, _, _⟩ :=
    run_sim (cert := cert) (pv := (run P fuel (St.init root)).paving) hsub hact fuel (St.init root) _
      (fun t ht => by simp only [St.paving]; exact List.mem_append_left _ ht) (Rel.idle (St.init root) 0)
  refine ⟨cs3.certified, check_ok_iff.2 ⟨cs2, cs3, ?_, hd, ?_, rfl⟩⟩
  · have hpush : Cover.step cert (run P fuel (St.init root)).paving Cover.St.init (.push root)
        = .ok ⟨0, [root], none, none, none, []⟩ := by
      simp [Cover.step, Cover.St.init, hroot]
    rw [hlog, show (St.init root).log = [Ev.push root] from rfl, List.singleton_append, List.foldlM_cons, hpush]
    exact hfold
  · rw [hopen, List.all_eq_true]
    exact fun b hb => storedOk_of_mem (List.mem_append_right _ hb)

/-! ### resumed searches: the stage certificate of C18 accepts every resumed run of the model -/

theorem fold_pushes : ∀ (bs : List Box) (cs : Cover.St), cs.popped = none → (∀ b ∈ bs, Box.isEmpty b = false) →
    (bs.map Ev.push).foldlM (Cover.step cert pv) cs = .ok { cs with openB := bs.reverse ++ cs.openB }
  | [], cs, _, _ => by simp [pure, Except.pure]
  | b :: bs, cs, hp, hne => by
    have hb : Box.isEmpty b = false := hne b List.mem_cons_self
    have h1 : Cover.step cert pv cs (Ev.push b) = .ok { cs with openB := b :: cs.openB } := by
      simp [Cover.step, hb, hp]
    simp only [List.map_cons, List.foldlM_cons, h1, bind, Except.bind]
    have := fold_pushes bs { cs with openB := b :: cs.openB } hp
      (fun x hx => hne x (List.mem_cons_of_mem _ hx))
    rw [this]
    simp

theorem leadingPushes_append (bs : List Box) : ∀ (rest : List Ev),
    (∀ b tl, rest ≠ Ev.push b :: tl) → Cover.leadingPushes (bs.map Ev.push ++ rest) = bs := by
  induction bs with
  | nil =>
    intro rest h
    cases rest with
    | nil => rfl
    | cons e tl =>
      cases e with
      | push b => exact absurd rfl (h b tl)
      | top _ => rfl
      | ctc _ _ => rfl
      | pop _ => rfl
      | flush => rfl
  | cons b bs ih =>
    intro rest h
    simp only [List.map_cons, List.cons_append, Cover.leadingPushes, ih rest h]

/-! ### every log of the model is loop-shaped -/

theorem shape_iter (b : Box) (st : Nat) (hst : st = 0 ∨ st = 2) :
    (evs3 P b).foldlM shapeStep st = some 2 := by
  rcases hst with h | h <;> subst h <;> rfl

/-- the events emitted after `base` drive the shape automaton from state 0 to a state between two iterations -/
theorem shape_run (base : List Ev) (fuel : Nat) (s : St)
    (h : ∃ rest st, s.log = base ++ rest ∧ rest.foldlM shapeStep 0 = some st ∧ (st = 0 ∨ st = 2)) :
    ∃ rest st, (run P fuel s).log = base ++ rest ∧ rest.foldlM shapeStep 0 = some st ∧ (st = 0 ∨ st = 2) := by
  refine run_invariant (I := fun s => ∃ rest st, s.log = base ++ rest ∧
    rest.foldlM shapeStep 0 = some st ∧ (st = 0 ∨ st = 2)) (fun s b _ hs => ?_) fuel s h
  obtain ⟨rest0, st, hl, hf, hst⟩ := hs
  -- the events of this iteration
  have : ∃ evs st2, (stepOn P s b).log = s.log ++ evs ∧ evs.foldlM shapeStep st = some st2 ∧ (st2 = 0 ∨ st2 = 2) := by
    unfold stepOn
    split
    · exact ⟨_, 2, rfl, shape_iter b st hst, Or.inr rfl⟩
    · split
      · exact ⟨_, 2, rfl, shape_iter b st hst, Or.inr rfl⟩
      · refine ⟨_, 0, rfl, ?_, Or.inl rfl⟩
        rw [List.foldlM_append, shape_iter b st hst]
        rfl
  obtain ⟨evs, st2, hl2, hf2, hst2⟩ := this
  refine ⟨rest0 ++ evs, st2, by rw [hl2, hl, List.append_assoc], ?_, hst2⟩
  rw [List.foldlM_append, hf]
  exact hf2

/-- the shape automaton rejects a push in state 0 -/
theorem run_log_no_leading_push (fuel : Nat) (s : St) :
    ∃ evs, (run P fuel s).log = s.log ++ evs ∧ ∀ b tl, evs ≠ Ev.push b :: tl := by
  obtain ⟨rest, st, hl, hf, -⟩ := shape_run (P := P) s.log fuel s ⟨[], 0, by simp, rfl, Or.inl rfl⟩
  refine ⟨rest, hl, ?_⟩
  rintro b tl rfl
  simp [List.foldlM_cons, shapeStep] at hf

/-- **every log emitted by the model is loop-shaped** (the measure used by the driver is not vacuous) -/
theorem run_loopShaped (root : Box) (fuel : Nat) : loopShaped (run P fuel (St.init root)).log = true := by
  obtain ⟨rest, st', hlog, hf, hst⟩ :=
    shape_run (P := P) [Ev.push root] fuel (St.init root) ⟨[], 0, rfl, rfl, Or.inl rfl⟩
  -- the automaton accepts no push in state 0, so `rest` is what follows the leading pushes
  have hd : ([Ev.push root] ++ rest).dropWhile isPush = rest := by
    cases rest with
    | nil => rfl
    | cons e tl =>
      cases e with
      | push b => cases hf
      | _ => rfl
  unfold loopShaped
  rw [hlog, hd, hf]
  rcases hst with h | h <;> subst h <;> rfl

/-- **The stage certificate of C18 (`Cover.stageOk`) accepts every resumed run of the model**: validated boxes carried over
    unchanged, every other box of the previous paving re-queued, log accepted. -/
theorem resume_stage (prev : List Item) (fuel : Nat)
    (hne : ∀ b ∈ requeued prev, Box.isEmpty b = false)
    (hsub : ∀ x, Box.subset (P.ctc x) x = true)
    (hact : ∀ o, Box.isEmpty o = false → actOk o (P.act o) = true) :
    Cover.stageOk cert prev (resumedItems prev (run P fuel (St.resume prev))) (run P fuel (St.resume prev)).log = true := by
  set fin := run P fuel (St.resume prev) with hfin
  -- the replay after the leading pushes
  have hpush : ((requeued prev).map Ev.push).foldlM (Cover.step cert (Cover.pavingOf (resumedItems prev fin))) Cover.St.init
      = .ok ⟨0, (requeued prev).reverse, none, none, none, []⟩ := by
    rw [fold_pushes _ _ rfl hne]
    simp [Cover.St.init]
  have hboxes : ∀ t, t ∈ fin.stored ∨ t ∈ fin.buffer → t ∈ (Cover.pavingOf (resumedItems prev fin)).boxes := by
    intro t ht
    simp only [Cover.pavingOf, resumedItems, List.map_append, List.map_map, List.mem_append, List.mem_map,
      Function.comp]
    rcases ht with h | h
    · exact Or.inl (Or.inr ⟨t, h, rfl⟩)
    · exact Or.inr ⟨t, h, rfl⟩
  obtain ⟨evs, cs2, hlog, hfold, cs3, hd, hopen, _, _⟩ :=
    run_sim (cert := cert) (pv := Cover.pavingOf (resumedItems prev fin)) hsub hact fuel (St.resume prev) _
      (fun t ht => hboxes t (Or.inl ht)) (Rel.idle (St.resume prev) 0)
  obtain ⟨evs', hlog', hshape⟩ := run_log_no_leading_push (P := P) fuel (St.resume prev)
  have hev : evs' = evs := List.append_cancel_left (hlog'.symm.trans hlog)
  subst hev
  have hl0 : (St.resume prev).log = (requeued prev).map Ev.push := rfl
  unfold Cover.stageOk
  rw [Bool.and_eq_true]
  refine ⟨?_, ?_⟩
  · -- the carry-over rule
    unfold Cover.resumeOk
    rw [List.all_eq_true]
    intro it hit
    by_cases hv : it.validated = true
    · simp only [hv, if_true, decide_eq_true_eq]
      simp only [resumedItems, List.mem_append, List.mem_filter]
      exact Or.inl (Or.inl ⟨hit, hv⟩)
    · simp only [hv, Bool.false_eq_true, if_false, Bool.or_eq_true, decide_eq_true_eq]
      left
      rw [← hfin] at hlog
      rw [hlog, hl0, leadingPushes_append _ _ hshape]
      simp only [requeued, List.mem_map, List.mem_filter]
      exact ⟨it, ⟨hit, by simpa using hv⟩, rfl⟩
  · -- the log is accepted
    have hall : cs3.openB.all (storedOk (Cover.pavingOf (resumedItems prev fin))) = true := by
      rw [hopen, List.all_eq_true]
      exact fun b hb => storedOk_of_mem (hboxes b (Or.inr hb))
    rw [← hfin] at hlog
    rw [check_ok_iff.2 ⟨cs2, cs3, by rw [hlog, hl0, List.foldlM_append, hpush]; exact hfold, hd, hall, rfl⟩]

end Ibex.SearchLoop
