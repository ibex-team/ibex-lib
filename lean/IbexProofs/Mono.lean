/-
  Lifting point checks to whole intervals for monotone elementary functions:
  if the result interval contains the images of the two endpoints, it contains
  the image of every point in between.
-/
import IbexProofs.Arith
import Mathlib.Analysis.SpecialFunctions.Exp
import Mathlib.Analysis.SpecialFunctions.Log.Basic
import Mathlib.Analysis.SpecialFunctions.Trigonometric.Arctan
import Mathlib.Analysis.SpecialFunctions.Trigonometric.Inverse
import Mathlib.Analysis.SpecialFunctions.Arsinh
import Mathlib.Analysis.SpecialFunctions.Sqrt

namespace Ibex
open Ibex

theorem mono_lift {f : ℝ → ℝ} {s : Set ℝ} (hf : MonotoneOn f s) {a b x : ℝ} {Z : Itv}
    (ha : a ∈ s) (hb : b ∈ s) (hxs : x ∈ s) (hax : a ≤ x) (hxb : x ≤ b)
    (hZa : f a ∈ Z) (hZb : f b ∈ Z) : f x ∈ Z :=
  Itv.ordConnected hZa hZb (hf ha hxs hax) (hf hxs hb hxb)

theorem anti_lift {f : ℝ → ℝ} {s : Set ℝ} (hf : AntitoneOn f s) {a b x : ℝ} {Z : Itv}
    (ha : a ∈ s) (hb : b ∈ s) (hxs : x ∈ s) (hax : a ≤ x) (hxb : x ≤ b)
    (hZa : f a ∈ Z) (hZb : f b ∈ Z) : f x ∈ Z :=
  Itv.ordConnected hZb hZa (hf hxs hb hxb) (hf ha hxs hax)

theorem exp_lift {a b x : ℝ} {Z : Itv} (hax : a ≤ x) (hxb : x ≤ b)
    (hZa : Real.exp a ∈ Z) (hZb : Real.exp b ∈ Z) : Real.exp x ∈ Z :=
  mono_lift (s := Set.univ) (Real.exp_monotone.monotoneOn _) trivial trivial trivial hax hxb hZa hZb

theorem log_lift {a b x : ℝ} {Z : Itv} (ha : 0 < a) (hax : a ≤ x) (hxb : x ≤ b)
    (hZa : Real.log a ∈ Z) (hZb : Real.log b ∈ Z) : Real.log x ∈ Z :=
  mono_lift (s := Set.Ioi 0) Real.strictMonoOn_log.monotoneOn ha (lt_of_lt_of_le ha (le_trans hax hxb))
    (lt_of_lt_of_le ha hax) hax hxb hZa hZb

theorem sqrt_lift {a b x : ℝ} {Z : Itv} (hax : a ≤ x) (hxb : x ≤ b)
    (hZa : Real.sqrt a ∈ Z) (hZb : Real.sqrt b ∈ Z) : Real.sqrt x ∈ Z :=
  mono_lift (s := Set.univ) (Monotone.monotoneOn (fun _ _ h => Real.sqrt_le_sqrt h) _)
    trivial trivial trivial hax hxb hZa hZb

theorem arctan_lift {a b x : ℝ} {Z : Itv} (hax : a ≤ x) (hxb : x ≤ b)
    (hZa : Real.arctan a ∈ Z) (hZb : Real.arctan b ∈ Z) : Real.arctan x ∈ Z :=
  mono_lift (s := Set.univ) (Real.arctan_strictMono.monotone.monotoneOn _) trivial trivial trivial hax hxb hZa hZb

theorem arcsin_lift {a b x : ℝ} {Z : Itv} (hax : a ≤ x) (hxb : x ≤ b)
    (hZa : Real.arcsin a ∈ Z) (hZb : Real.arcsin b ∈ Z) : Real.arcsin x ∈ Z :=
  mono_lift (s := Set.univ) (Real.monotone_arcsin.monotoneOn _) trivial trivial trivial hax hxb hZa hZb

theorem arccos_lift {a b x : ℝ} {Z : Itv} (hax : a ≤ x) (hxb : x ≤ b)
    (hZa : Real.arccos a ∈ Z) (hZb : Real.arccos b ∈ Z) : Real.arccos x ∈ Z :=
  anti_lift (s := Set.univ) (Real.antitone_arccos.antitoneOn _) trivial trivial trivial hax hxb hZa hZb

theorem sinh_lift {a b x : ℝ} {Z : Itv} (hax : a ≤ x) (hxb : x ≤ b)
    (hZa : Real.sinh a ∈ Z) (hZb : Real.sinh b ∈ Z) : Real.sinh x ∈ Z :=
  mono_lift (s := Set.univ) (Real.sinh_strictMono.monotone.monotoneOn _) trivial trivial trivial hax hxb hZa hZb

theorem arsinh_lift {a b x : ℝ} {Z : Itv} (hax : a ≤ x) (hxb : x ≤ b)
    (hZa : Real.arsinh a ∈ Z) (hZb : Real.arsinh b ∈ Z) : Real.arsinh x ∈ Z :=
  mono_lift (s := Set.univ) (Real.arsinh_strictMono.monotone.monotoneOn _) trivial trivial trivial hax hxb hZa hZb

theorem cosh_lift_nonneg {a b x : ℝ} {Z : Itv} (ha : 0 ≤ a) (hax : a ≤ x) (hxb : x ≤ b)
    (hZa : Real.cosh a ∈ Z) (hZb : Real.cosh b ∈ Z) : Real.cosh x ∈ Z :=
  mono_lift (s := Set.Ici 0) Real.cosh_strictMonoOn.monotoneOn ha (le_trans ha (le_trans hax hxb))
    (le_trans ha hax) hax hxb hZa hZb

theorem tan_lift {a b x : ℝ} {Z : Itv} (ha : -(Real.pi / 2) < a) (hb : b < Real.pi / 2) (hax : a ≤ x) (hxb : x ≤ b)
    (hZa : Real.tan a ∈ Z) (hZb : Real.tan b ∈ Z) : Real.tan x ∈ Z :=
  mono_lift (s := Set.Ioo (-(Real.pi / 2)) (Real.pi / 2)) Real.strictMonoOn_tan.monotoneOn
    ⟨ha, lt_of_le_of_lt (le_trans hax hxb) hb⟩ ⟨lt_of_lt_of_le ha (le_trans hax hxb), hb⟩
    ⟨lt_of_lt_of_le ha hax, lt_of_le_of_lt hxb hb⟩ hax hxb hZa hZb

end Ibex
