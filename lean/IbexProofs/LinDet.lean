/-
  C15 — the exact rational linear algebra of `IbexModel/LinAlg.lean` against Mathlib's matrices
  (`toMat`, `toVec` read lists as matrices and vectors, missing entries as 0):
  the executable Laplace expansion is `Matrix.det`; the determinant is affine in each entry, hence
  bounded on an interval matrix by its values at the vertex matrices; the certificates checked on
  rational instances (inverse, kernel vector, strong regularity, `L·D·Lᵀ`) are read in `Matrix` terms.
-/
import IbexProofs.LinAlg
import Mathlib.LinearAlgebra.Matrix.Determinant.Basic
import Mathlib.Algebra.BigOperators.Fin
import Mathlib.Data.List.GetD
import Mathlib.LinearAlgebra.Matrix.Gershgorin
import Mathlib.LinearAlgebra.Matrix.NonsingularInverse
import Mathlib.LinearAlgebra.Matrix.ToLinearEquiv

namespace Ibex.LinAlg
open Ibex Matrix

/-- the `m × n` matrix read from a list of rows (missing rows / entries are 0) -/
def toMat {K : Type} [Zero K] (m n : Nat) (A : List (List K)) : Matrix (Fin m) (Fin n) K :=
  fun i j => (A.getD i []).getD j 0

/-- the vector read from a list (missing entries are 0) -/
def toVec {K : Type} [Zero K] (n : Nat) (v : List K) : Fin n → K := fun k => v.getD k 0

/-! ### lists -/

theorem getD_eraseIdx {α : Type} (d : α) (l : List α) (j k : Nat) :
    (l.eraseIdx j).getD k d = l.getD (if k < j then k else k + 1) d := by
  simp only [List.getD_eq_getElem?_getD, List.getElem?_eraseIdx]
  split <;> rfl

theorem list_range_sum {M : Type} [AddCommMonoid M] (f : Nat → M) (n : Nat) :
    ((List.range n).map f).sum = ∑ j : Fin n, f j := by
  rw [← Finset.sum_range, Finset.sum_eq_multiset_sum]; rfl

theorem getD_map_eraseIdx {α : Type} (rest : List (List α)) (j i : Nat) :
    (rest.map (·.eraseIdx j)).getD i [] = (rest.getD i []).eraseIdx j :=
  List.getD_map rest [] (·.eraseIdx j)

theorem getD_append_cons {α : Type} (d : α) (pre post : List α) (z : α) (k : Nat) :
    (pre ++ z :: post).getD k d = if k = pre.length then z else (pre ++ d :: post).getD k d := by
  rcases Nat.lt_trichotomy k pre.length with h | rfl | h
  · rw [if_neg h.ne, List.getD_append _ _ _ _ h, List.getD_append _ _ _ _ h]
  · simp
  · rw [if_neg h.ne', List.getD_append_right _ _ _ _ h.le, List.getD_append_right _ _ _ _ h.le]
    obtain ⟨m, hm⟩ : ∃ m, k - pre.length = m + 1 := ⟨k - pre.length - 1, by omega⟩
    rw [hm, List.getD_cons_succ, List.getD_cons_succ]

theorem getD_map_range {α : Type} (f : Nat → α) (d : α) {n j : Nat} (hj : j < n) :
    ((List.range n).map f).getD j d = f j := by
  simp [List.getD_eq_getElem?_getD, hj]

/-! ### `detQ` is `Matrix.det` -/

theorem altSign_eq (j : Nat) : altSign j = (-1 : ℚ) ^ j := by
  unfold altSign
  rcases Nat.even_or_odd j with h | h
  · rw [if_pos (Nat.even_iff.1 h), h.neg_one_pow]
  · rw [if_neg (by rw [Nat.odd_iff.1 h]; decide), h.neg_one_pow]

/-- **the executable determinant is the determinant** (Laplace expansion along the first row,
    all sizes, any list of rows) -/
theorem detQ_eq_det : ∀ (n : Nat) (A : List (List ℚ)), detQ n A = (toMat n n A).det := by
  intro n
  induction n with
  | zero => intro A; simp [detQ]
  | succ n ih =>
    intro A
    cases A with
    | nil =>
      have : toMat (n + 1) (n + 1) ([] : List (List ℚ)) = 0 := by
        funext i j; simp [toMat]
      rw [this, Matrix.det_zero]; rfl
    | cons row rest =>
      rw [Matrix.det_succ_row_zero, detQ, list_range_sum]
      refine Finset.sum_congr rfl fun j _ => ?_
      have hsub : toMat n n (rest.map (·.eraseIdx j)) =
          (toMat (n + 1) (n + 1) (row :: rest)).submatrix Fin.succ j.succAbove := by
        funext i k
        simp only [toMat, Matrix.submatrix_apply, Fin.val_succ, List.getD_cons_succ,
          getD_map_eraseIdx, getD_eraseIdx]
        congr 1
        split
        · rename_i h
          rw [Fin.succAbove_of_castSucc_lt j k (Fin.lt_def.2 h)]; rfl
        · rename_i h
          rw [Fin.succAbove_of_le_castSucc j k (Fin.le_def.2 (Nat.le_of_not_lt h))]; rfl
      rw [ih, altSign_eq, hsub]
      rfl

/-! ### rational matrices read as real matrices -/

theorem toMat_castM (m n : Nat) (V : QMat) : toMat m n (castM V) = (toMat m n V).map (↑) := by
  funext i j
  rw [toMat, castM_getD, castV_getD]
  rfl

theorem detQ_cast (n : Nat) (A : List (List ℚ)) : ((detQ n A : ℚ) : ℝ) = (toMat n n (castM A)).det := by
  rw [detQ_eq_det, toMat_castM]
  exact RingHom.map_det (Rat.castHom ℝ) _

/-! ### functions affine in each entry attain their bounds at the vertices -/

def VecAffine (G : List ℝ → ℝ) : Prop :=
  ∀ (pre post : List ℝ) (p q lam : ℝ),
    G (pre ++ (lam * p + (1 - lam) * q) :: post) = lam * G (pre ++ p :: post) + (1 - lam) * G (pre ++ q :: post)

def MatAffine (G : List (List ℝ) → ℝ) : Prop :=
  ∀ (Rpre Rpost : List (List ℝ)), VecAffine fun r => G (Rpre ++ r :: Rpost)

theorem VecAffine.neg {G : List ℝ → ℝ} (h : VecAffine G) : VecAffine fun x => -G x :=
  fun pre post p q lam => by simp only [h pre post p q lam]; ring

theorem MatAffine.neg {G : List (List ℝ) → ℝ} (h : MatAffine G) : MatAffine fun a => -G a :=
  fun Rpre Rpost => (h Rpre Rpost).neg

theorem affine_end_le {H : ℝ → ℝ} (hH : ∀ p q lam, H (lam * p + (1 - lam) * q) = lam * H p + (1 - lam) * H q)
    {a b x : ℝ} (ha : a ≤ x) (hb : x ≤ b) : H a ≤ H x ∨ H b ≤ H x := by
  rcases eq_or_lt_of_le (ha.trans hb) with rfl | hab
  · exact Or.inl (le_of_eq (congrArg H (le_antisymm ha hb)))
  · have hba : 0 < b - a := sub_pos.2 hab
    obtain ⟨lam, hlam⟩ : ∃ lam, lam * (b - a) = b - x := ⟨_, div_mul_cancel₀ _ hba.ne'⟩
    have h0 : 0 ≤ lam := le_of_mul_le_mul_right (by rw [zero_mul, hlam]; exact sub_nonneg.2 hb) hba
    have h1 : 0 ≤ 1 - lam :=
      sub_nonneg.2 (le_of_mul_le_mul_right (by rw [one_mul, hlam]; exact sub_le_sub_left ha b) hba)
    obtain rfl : x = lam * a + (1 - lam) * b :=
      (by rw [hlam]; ring : x = b - lam * (b - a)).trans (by ring)
    rw [hH]
    rcases le_total (H a) (H b) with h | h
    · exact Or.inl ((by ring : H a = lam * H a + (1 - lam) * H a).trans_le
        (add_le_add_right (mul_le_mul_of_nonneg_left h h1) _))
    · exact Or.inr ((by ring : H b = lam * H b + (1 - lam) * H b).trans_le
        (add_le_add_left (mul_le_mul_of_nonneg_left h h0) _))

theorem corners_mem {I : Itv} {cs : List Rat} (h : corners I = some cs) {x : ℝ} (hx : x ∈ I) :
    ∃ a ∈ cs, ∃ b ∈ cs, (a : ℝ) ≤ x ∧ x ≤ (b : ℝ) := by
  cases I with
  | empty => simp [corners] at h
  | mk lo hi =>
    cases lo <;> cases hi <;> simp only [corners, reduceCtorEq] at h
    rename_i a b
    obtain ⟨hx1, hx2⟩ := hx
    simp only [Ext.toE_fin, EReal.coe_le_coe_iff] at hx1 hx2
    split_ifs at h with h1 h2 <;> cases h
    · rw [beq_iff_eq] at h1; subst h1; exact ⟨a, by simp, a, by simp, hx1, hx2⟩
    · exact ⟨a, by simp, b, by simp, hx1, hx2⟩

theorem vec_vertex_le : ∀ {X : IVec} {G : List ℝ → ℝ} {vs : List QVec}, VecAffine G → vecVertices X = some vs →
    ∀ {x}, VMem x X → ∃ v ∈ vs, G (castV v) ≤ G x := by
  intro X
  induction X with
  | nil =>
    intro G vs _ hvs x hx
    cases hx
    cases hvs
    exact ⟨[], by simp, le_rfl⟩
  | cons I Xs ih =>
    intro G vs hG hvs x hx
    simp only [vecVertices, Option.bind_eq_bind, Option.bind_eq_some_iff, Option.pure_def,
      Option.some.injEq] at hvs
    obtain ⟨cs, hcs, rest, hrest, rfl⟩ := hvs
    cases hx with
    | @cons x0 _ xs _ hx0 hxs =>
      obtain ⟨a, ha, b, hb, hax, hxb⟩ := corners_mem hcs hx0
      obtain ⟨c, hc, hcx⟩ : ∃ c ∈ cs, G ((c : ℝ) :: xs) ≤ G (x0 :: xs) :=
        (affine_end_le (H := fun t => G (t :: xs)) (hG [] xs) hax hxb).elim (⟨a, ha, ·⟩) (⟨b, hb, ·⟩)
      obtain ⟨v, hv, hvx⟩ := ih (G := fun t => G ((c : ℝ) :: t)) (fun pre => hG ((c : ℝ) :: pre)) hrest hxs
      exact ⟨c :: v, List.mem_flatMap.2 ⟨c, hc, List.mem_map.2 ⟨v, hv, rfl⟩⟩, hvx.trans hcx⟩

theorem mat_vertex_le : ∀ {A : IMat} {G : List (List ℝ) → ℝ} {vs : List QMat}, MatAffine G →
    matVertices A = some vs → ∀ {a}, MMem a A → ∃ V ∈ vs, G (castM V) ≤ G a := by
  intro A
  induction A with
  | nil =>
    intro G vs _ hvs a ha
    cases ha
    cases hvs
    exact ⟨[], by simp, le_rfl⟩
  | cons R Rs ih =>
    intro G vs hG hvs a ha
    simp only [matVertices, Option.bind_eq_bind, Option.bind_eq_some_iff, Option.pure_def,
      Option.some.injEq] at hvs
    obtain ⟨rvs, hrvs, rest, hrest, rfl⟩ := hvs
    cases ha with
    | @cons r _ rows _ hr hrows =>
      obtain ⟨v, hv, hvr⟩ := vec_vertex_le (G := fun t => G (t :: rows)) (hG [] rows) hrvs hr
      obtain ⟨W, hW, hWr⟩ := ih (G := fun t => G (castV v :: t)) (fun Rpre => hG (castV v :: Rpre)) hrest hrows
      exact ⟨v :: W, List.mem_flatMap.2 ⟨v, hv, List.mem_map.2 ⟨W, hW, rfl⟩⟩, hWr.trans hvr⟩

/-! ### the determinant is affine in each entry -/

theorem toVec_affine (n : Nat) (pre post : List ℝ) (p q lam : ℝ) :
    toVec n (pre ++ (lam * p + (1 - lam) * q) :: post) =
      lam • toVec n (pre ++ p :: post) + (1 - lam) • toVec n (pre ++ q :: post) := by
  funext k
  simp only [toVec, Pi.add_apply, Pi.smul_apply, smul_eq_mul]
  rw [getD_append_cons 0 pre post p, getD_append_cons 0 pre post q, getD_append_cons 0 pre post (_ + _)]
  split
  · rfl
  · ring

/-- row `Rpre.length` of the matrix read from `Rpre ++ r :: Rpost` is `r`, the others do not depend on `r` -/
theorem toMat_row (n : Nat) (Rpre Rpost : List (List ℝ)) (r : List ℝ) :
    toMat n n (Rpre ++ r :: Rpost) =
      if h : Rpre.length < n then (toMat n n (Rpre ++ [] :: Rpost)).updateRow ⟨_, h⟩ (toVec n r)
      else toMat n n (Rpre ++ [] :: Rpost) := by
  funext i j
  have hi := getD_append_cons [] Rpre Rpost r i
  split
  · rw [Matrix.updateRow_apply]
    simp only [toMat, Fin.ext_iff, hi]
    split <;> rfl
  · rename_i h
    simp only [toMat, hi, if_neg (show ¬ (i : Nat) = Rpre.length from fun e => h (e ▸ i.2))]

theorem det_toMat_matAffine (n : Nat) : MatAffine fun a => (toMat n n a).det := by
  intro Rpre Rpost pre post p q lam
  simp only [toMat_row n Rpre Rpost (pre ++ _ :: post)]
  split
  · rw [toVec_affine, Matrix.det_updateRow_add, Matrix.det_updateRow_smul, Matrix.det_updateRow_smul]
  · ring

/-- **determinant by vertex enumeration**: if the interval `D` contains the exact determinant of every
    vertex matrix of `[A]`, it contains the determinant of EVERY real matrix of `[A]`. -/
theorem det_vertices_sound {n : Nat} {A : IMat} {vs : List QMat} {lo hi : Ext}
    (hvs : matVertices A = some vs) (hchk : detVerticesIn n vs (.mk lo hi) = true)
    {a : RMat} (ha : MMem a A) : (toMat n n a).det ∈ Itv.mk lo hi := by
  have hin : ∀ V ∈ vs, (toMat n n (castM V)).det ∈ Itv.mk lo hi := by
    intro V hV
    simp only [detVerticesIn, List.all_eq_true] at hchk
    rw [← detQ_cast]
    exact Itv.containsExt_fin.1 (hchk V hV)
  obtain ⟨V, hV, h1⟩ := mat_vertex_le (det_toMat_matAffine n) hvs ha
  obtain ⟨W, hW, h2⟩ := mat_vertex_le (det_toMat_matAffine n).neg hvs ha
  exact ⟨(hin V hV).1.trans (EReal.coe_le_coe_iff.2 h1),
    (EReal.coe_le_coe_iff.2 (neg_le_neg_iff.1 h2)).trans (hin W hW).2⟩

/-- **regularity by vertex enumeration**: if the determinants of all vertex matrices have the same
    strict sign, every real matrix of `[A]` is regular (non-zero determinant). -/
theorem det_vertices_regular {n : Nat} {A : IMat} {vs : List QMat}
    (hvs : matVertices A = some vs) (hchk : detVerticesSameSign n vs = true)
    {a : RMat} (ha : MMem a A) : (toMat n n a).det ≠ 0 := by
  have hds : ∀ V : QMat, (toMat n n (castM V)).det = ((detQ n V : ℚ) : ℝ) := fun V => (detQ_cast n V).symm
  simp only [detVerticesSameSign, Bool.or_eq_true, List.all_eq_true, decide_eq_true_eq] at hchk
  rcases hchk with hpos | hneg
  · obtain ⟨V, hV, h1⟩ := mat_vertex_le (det_toMat_matAffine n) hvs ha
    rw [hds] at h1
    exact ne_of_gt (lt_of_lt_of_le (by exact_mod_cast hpos V hV) h1)
  · obtain ⟨W, hW, h2⟩ := mat_vertex_le (det_toMat_matAffine n).neg hvs ha
    rw [hds, neg_le_neg_iff] at h2
    exact ne_of_lt (lt_of_le_of_lt h2 (by exact_mod_cast hneg W hW))

/-! ### strict diagonal dominance implies regularity (Gershgorin) -/

theorem offAbsR_eq_sum (i : Nat) : ∀ (row : List ℝ) (k n : Nat), row.length ≤ n →
    offAbsR i k row = ∑ j : Fin n, if (j : Nat) + k = i then 0 else |row.getD j 0|
  | [], k, n, _ => (Finset.sum_eq_zero fun j _ => by rw [List.getD_nil, abs_zero, ite_self]).symm
  | a :: as, k, 0, h => by simp at h
  | a :: as, k, n + 1, h => by
    rw [offAbsR, offAbsR_eq_sum i as (k + 1) n (Nat.le_of_succ_le_succ h), Fin.sum_univ_succ]
    -- column `j + 1` of `a :: as`, counted from `k`, is column `j` of `as`, counted from `k + 1`
    have hshift : ∀ j : Nat, j + 1 + k = j + (k + 1) := fun j => by omega
    simp only [Fin.val_zero, Nat.zero_add, List.getD_cons_zero, Fin.val_succ, List.getD_cons_succ, hshift]

theorem SDDRows.row : ∀ {rows : RMat} {i : Nat}, SDDRows i rows → ∀ t, t < rows.length →
    offAbsR (i + t) 0 (rows.getD t []) < |(rows.getD t []).getD (i + t) 0|
  | _ :: _, _, h, 0, _ => h.1
  | _ :: _, i, h, t + 1, ht => by
    have := SDDRows.row h.2 t (Nat.lt_of_succ_lt_succ ht)
    rwa [Nat.add_right_comm, Nat.add_assoc] at this

theorem sdd_det_ne_zero {n : Nat} {a : RMat} (hlen : a.length = n) (hrow : ∀ r ∈ a, r.length ≤ n)
    (h : SDDRows 0 a) : (toMat n n a).det ≠ 0 := by
  apply det_ne_zero_of_sum_row_lt_diag
  intro k
  have hk : (k : Nat) < a.length := hlen ▸ k.2
  have := h.row k hk
  rw [Nat.zero_add, offAbsR_eq_sum k _ 0 n (by rw [List.getD_eq_getElem _ _ hk]; exact hrow _ (List.getElem_mem hk))] at this
  simp only [toMat, Real.norm_eq_abs]
  refine lt_of_eq_of_lt ?_ this
  rw [← Finset.sum_erase (s := Finset.univ) (a := k) (by simp)]
  exact Finset.sum_congr rfl fun j hj => (if_neg fun e => Finset.ne_of_mem_erase hj (Fin.ext e)).symm

/-! ### certificates checked on rational instances: inverse, kernel vector, quadratic form -/

theorem dotR_eq_dotProduct : ∀ (u v : List ℝ) (n : Nat), v.length = n → dotR u v = toVec n u ⬝ᵥ toVec n v
  | u, [], _, h => by subst h; rw [dotR_nil_right]; rfl
  | [], _ :: _, _, _ => by simp [dotProduct, toVec]
  | u0 :: us, v0 :: vs, 0, h => by simp at h
  | u0 :: us, v0 :: vs, n + 1, h => by
    rw [dotR_cons, dotR_eq_dotProduct us vs n (Nat.succ.inj h)]
    exact (Fin.sum_univ_succ fun i => toVec (n + 1) (u0 :: us) i * toVec (n + 1) (v0 :: vs) i).symm

theorem dotQ_eq_dotProduct : ∀ (u v : List ℚ) (n : Nat), v.length = n → dotQ u v = toVec n u ⬝ᵥ toVec n v
  | u, [], _, h => by subst h; cases u <;> rfl
  | [], _ :: _, _, _ => by simp [dotQ, dotProduct, toVec]
  | u0 :: us, v0 :: vs, 0, h => by simp at h
  | u0 :: us, v0 :: vs, n + 1, h => by
    rw [dotQ, dotQ_eq_dotProduct us vs n (Nat.succ.inj h)]
    exact (Fin.sum_univ_succ fun i => toVec (n + 1) (u0 :: us) i * toVec (n + 1) (v0 :: vs) i).symm

theorem toVec_mulVecQ (m : Nat) {n : Nat} (A : QMat) {v : QVec} (hv : v.length = n) :
    toVec m (mulVecQ A v) = (toMat m n A).mulVec (toVec n v) := by
  funext i
  have h : (mulVecQ A v).getD i (dotQ [] v) = dotQ (A.getD i []) v := List.getD_map A [] (dotQ · v)
  rw [show dotQ [] v = 0 by simp [dotQ]] at h
  rw [toVec, h, dotQ_eq_dotProduct _ _ n hv]
  rfl

theorem toMat_mulQ {m k n : Nat} {A B : QMat} (hA : A.length = m) (hB : B.length = k) :
    toMat m n (mulQ n A B) = toMat m k A * toMat k n B := by
  funext i j
  have hi : (i : Nat) < A.length := hA ▸ i.2
  have hrow : (mulQ n A B).getD i [] = (List.range n).map fun j => dotQ (A.getD i []) (colQ B j) := by
    rw [mulQ, List.getD_eq_getElem _ _ (by simpa using hi), List.getElem_map, List.getD_eq_getElem _ _ hi]
  rw [toMat, hrow, getD_map_range _ _ j.2, dotQ_eq_dotProduct _ _ k (by simp [colQ, hB]), Matrix.mul_apply]
  exact Finset.sum_congr rfl fun l _ => by rw [toVec, toVec, colQ_getD]; rfl

theorem toMat_idQ (n : Nat) : toMat n n (idQ n) = 1 := by
  funext i j
  rw [toMat, idQ, getD_map_range _ _ i.2, getD_map_range _ _ j.2, Matrix.one_apply]
  simp only [Fin.ext_iff]

theorem isInverse_sound {n : Nat} {A B : QMat} (h : isInverse n A B = true) :
    toMat n n A * toMat n n B = 1 := by
  simp only [isInverse, Bool.and_eq_true, beq_iff_eq] at h
  rw [← toMat_mulQ h.1.1 h.1.2, h.2, toMat_idQ]

theorem toVec_eq_zero {v : QVec} (h : isZeroVec v = true) (n : Nat) : toVec n v = 0 := by
  funext k
  rw [isZeroVec, List.all_eq_true] at h
  rw [toVec, List.getD_eq_getElem?_getD]
  cases hk : v[(k : Nat)]? with
  | none => rfl
  | some x => exact beq_iff_eq.1 (h x (List.mem_of_getElem? hk))

theorem isZeroVec_of_toVec {n : Nat} {v : QVec} (hv : v.length ≤ n) (h : toVec n v = 0) : isZeroVec v = true := by
  rw [isZeroVec, List.all_eq_true]
  intro x hx
  obtain ⟨k, hk, rfl⟩ := List.getElem_of_mem hx
  rw [beq_iff_eq, ← List.getD_eq_getElem v 0 hk]
  exact congrFun h ⟨k, hk.trans_le hv⟩

theorem isNullVec_sound (m : Nat) {n : Nat} {A : QMat} {v : QVec} (h : isNullVec n A v = true) :
    toVec n v ≠ 0 ∧ (toMat m n A).mulVec (toVec n v) = 0 := by
  simp only [isNullVec, Bool.and_eq_true, beq_iff_eq, Bool.not_eq_eq_eq_not, Bool.not_true] at h
  obtain ⟨⟨hlen, hnz⟩, hz⟩ := h
  refine ⟨fun h0 => ?_, by rw [← toVec_mulVecQ m A hlen]; exact toVec_eq_zero hz m⟩
  rw [isZeroVec_of_toVec hlen.le h0] at hnz
  exact Bool.noConfusion hnz

theorem quadQ_eq {n : Nat} {A : QMat} {v : QVec} (hA : A.length = n) (hv : v.length = n) :
    quadQ A v = toVec n v ⬝ᵥ (toMat n n A).mulVec (toVec n v) := by
  rw [quadQ, dotQ_eq_dotProduct _ _ n (by simp [mulVecQ, hA]), toVec_mulVecQ n A hv]

/-! ### strong regularity: `‖I − C·a‖∞ < 1` for every instance implies regularity -/

/-- If every row of `|I − C·M|` sums to less than 1, `M` is regular: a kernel vector `v ≠ 0` of `M` is a fixed point of
    `I − C·M`; at an index `i` where `|v i|` is largest, `|v i| ≤ (Σ_j |(I − C·M) i j|) · |v i| < |v i|`. -/
theorem det_ne_zero_of_resid {n : Nat} (Cm M : Matrix (Fin n) (Fin n) ℝ)
    (h : ∀ i, ∑ j, |(1 - Cm * M) i j| < 1) : M.det ≠ 0 := by
  intro hdet
  obtain ⟨v, hv, hMv⟩ := Matrix.exists_mulVec_eq_zero_iff.2 hdet
  have hfix : (1 - Cm * M).mulVec v = v := by
    rw [Matrix.sub_mulVec, Matrix.one_mulVec, ← Matrix.mulVec_mulVec, hMv, Matrix.mulVec_zero, sub_zero]
  obtain ⟨i0, hi0⟩ : ∃ i, v i ≠ 0 := by
    by_contra hall
    simp only [not_exists, not_not] at hall
    exact hv (funext hall)
  obtain ⟨i, -, hmax⟩ := Finset.exists_max_image Finset.univ (fun i => |v i|) ⟨i0, Finset.mem_univ _⟩
  have hpos : 0 < |v i| := lt_of_lt_of_le (abs_pos.2 hi0) (hmax i0 (Finset.mem_univ _))
  have h1 : |v i| ≤ ∑ j, |(1 - Cm * M) i j| * |v i| := by
    have : v i = ∑ j, (1 - Cm * M) i j * v j := by
      conv_lhs => rw [← hfix]
      rfl
    calc |v i| = |∑ j, (1 - Cm * M) i j * v j| := by rw [← this]
      _ ≤ ∑ j, |(1 - Cm * M) i j * v j| := Finset.abs_sum_le_sum_abs _ _
      _ ≤ ∑ j, |(1 - Cm * M) i j| * |v i| := by
        refine Finset.sum_le_sum fun j _ => ?_
        rw [abs_mul]
        exact mul_le_mul_of_nonneg_left (hmax j (Finset.mem_univ _)) (abs_nonneg _)
  rw [← Finset.sum_mul] at h1
  have := mul_lt_mul_of_pos_right (h i) hpos
  linarith

theorem sumAbs_le {e : RVec} {R : IVec} (h : VMem e R) :
    (((e.map fun t => |t|).sum : ℝ) : EReal) ≤ (sumMagE R).toE := by
  induction h with
  | nil => simp [sumMagE]
  | cons h1 _ ih =>
    simp only [List.map_cons, List.sum_cons, sumMagE, addE_toE, EReal.coe_add]
    exact add_le_add (abs_le_magE h1) ih

theorem toMat_mul_apply {m k n : Nat} (c : RMat) {a : RMat} (ha : a.length = k) (i : Fin m) (j : Fin n) :
    (toMat m k c * toMat k n a) i j = dotR (c.getD i []) (colR a j) := by
  rw [Matrix.mul_apply, dotR_eq_dotProduct _ _ k (by simp [colR, ha])]
  exact Finset.sum_congr rfl fun l _ => by rw [toVec, toVec, colR_getD]; rfl

/-- **strong-regularity certificate**: if `‖I − C·[A]‖∞ < 1` (exact test on the interval residual) for
    some rational matrix `C`, every real matrix of the `n × n` interval matrix `[A]` is regular. -/
theorem betaOk_sound {n : Nat} {C : QMat} {A : IMat} (hok : betaOk n C A = true)
    {a : RMat} (ha : MMem a A) (hlen : a.length = n) : (toMat n n a).det ≠ 0 := by
  apply det_ne_zero_of_resid (toMat n n (castM C))
  intro i
  -- row `i` of the real residual `I − C·a` and its interval enclosure, as lists
  let e : Nat → ℝ := fun j => (if (i : Nat) = j then 1 else 0) - dotR (castV (C.getD i [])) (colR a j)
  have hmem : VMem ((List.range n).map e) ((List.range n).map fun j =>
      Itv.sub (Itv.point (if (i : Nat) = j then 1 else 0)) (dotCI (C.getD i []) (colI A j) (Itv.point 0))) := by
    refine forall₂_map_map fun j _ => ?_
    have h1 := dotCI_encl (C.getD i []) (colR_mem ha j) (Itv.mem_point_zero.2 rfl)
    rw [zero_add] at h1
    exact Itv.sub_encl (Itv.mem_point.2 (by split <;> simp)) h1
  simp only [betaOk, List.all_eq_true] at hok
  have h2 := lt_of_le_of_lt (sumAbs_le hmem)
    ((Ext.lt_iff _ _).1 (hok _ (List.mem_map.2 ⟨i, List.mem_range.2 i.2, rfl⟩)))
  have hent : ∀ j : Fin n, (1 - toMat n n (castM C) * toMat n n a) i j = e j := fun j => by
    rw [Matrix.sub_apply, toMat_mul_apply _ hlen, Matrix.one_apply, castM_getD]
    simp only [e, Fin.ext_iff]
  rw [Ext.toE_fin] at h2
  calc ∑ j, |(1 - toMat n n (castM C) * toMat n n a) i j|
      = ∑ j : Fin n, |e j| := Finset.sum_congr rfl fun j _ => congrArg abs (hent j)
    _ = (((List.range n).map e).map fun t => |t|).sum := by rw [List.map_map, list_range_sum]; rfl
    _ < 1 := by exact_mod_cast h2


/-! ### positive definiteness of every instance from an exact `L D Lᵀ` certificate -/

theorem quad_ldl {n : Nat} (L : Fin n → Fin n → ℝ) (d x : Fin n → ℝ) :
    ∑ i, ∑ j, x i * (∑ p, L i p * d p * L j p) * x j = ∑ p, d p * (∑ i, L i p * x i) ^ 2 := by
  have h1 : ∀ p, d p * (∑ i, L i p * x i) ^ 2 = ∑ i, ∑ j, x i * (L i p * d p * L j p) * x j := by
    intro p
    rw [sq, Finset.sum_mul_sum, Finset.mul_sum]
    refine Finset.sum_congr rfl fun i _ => ?_
    rw [Finset.mul_sum]
    refine Finset.sum_congr rfl fun j _ => ?_
    ring
  calc ∑ i, ∑ j, x i * (∑ p, L i p * d p * L j p) * x j
      = ∑ i, ∑ j, ∑ p, x i * (L i p * d p * L j p) * x j := by
        simp only [Finset.mul_sum, Finset.sum_mul]
    _ = ∑ i, ∑ p, ∑ j, x i * (L i p * d p * L j p) * x j :=
        Finset.sum_congr rfl fun i _ => Finset.sum_comm
    _ = ∑ p, ∑ i, ∑ j, x i * (L i p * d p * L j p) * x j := Finset.sum_comm
    _ = ∑ p, d p * (∑ i, L i p * x i) ^ 2 := by simp_rw [h1]

theorem quad_perturb {n : Nat} (e r : Fin n → Fin n → ℝ) (x : Fin n → ℝ) (mu : ℝ)
    (he : ∀ i j, |e i j| ≤ r i j) (hrow : ∀ i, ∑ j, r i j ≤ mu) (hcol : ∀ j, ∑ i, r i j ≤ mu) :
    -(mu * ∑ i, x i ^ 2) ≤ ∑ i, ∑ j, x i * e i j * x j := by
  -- `2 x_i e_ij x_j ≥ −r_ij (x_i² + x_j²)`, since `r ± e ≥ 0` and `(x_i ± x_j)² ≥ 0`
  have hterm : ∀ i j, -(x i ^ 2 * r i j + x j ^ 2 * r i j) ≤ 2 * (x i * e i j * x j) := by
    intro i j
    obtain ⟨h1, h2⟩ := abs_le.1 (he i j)
    have := mul_nonneg (show 0 ≤ r i j + e i j by linarith) (sq_nonneg (x i + x j))
    have := mul_nonneg (show 0 ≤ r i j - e i j by linarith) (sq_nonneg (x i - x j))
    linarith
  have hsum : ∀ r' : Fin n → Fin n → ℝ, (∀ i, ∑ j, r' i j ≤ mu) →
      ∑ i, ∑ j, x i ^ 2 * r' i j ≤ mu * ∑ i, x i ^ 2 := by
    intro r' h
    rw [Finset.mul_sum]
    refine Finset.sum_le_sum fun i _ => ?_
    rw [← Finset.mul_sum, mul_comm]
    exact mul_le_mul_of_nonneg_right (h i) (sq_nonneg _)
  have hA := hsum r hrow
  have hB : ∑ i, ∑ j, x j ^ 2 * r i j ≤ mu * ∑ j, x j ^ 2 := by
    rw [Finset.sum_comm]; exact hsum (fun j i => r i j) hcol
  have h2 : -((∑ i, ∑ j, x i ^ 2 * r i j) + ∑ i, ∑ j, x j ^ 2 * r i j) ≤ 2 * ∑ i, ∑ j, x i * e i j * x j := by
    simp only [← Finset.sum_add_distrib, ← Finset.sum_neg_distrib, Finset.mul_sum]
    exact Finset.sum_le_sum fun i _ => Finset.sum_le_sum fun j _ => hterm i j
  linarith

/-- `a = L D Lᵀ + (μ+ε) I + e` with `D ≥ 0`, `ε > 0` and `|e| ≤ r` entrywise, where every row and column of `r` sums to at
    most `μ`: then `xᵀ a x ≥ ε |x|² > 0` -/
theorem quad_pos_of_ldl {n : Nat} {a c r L : Fin n → Fin n → ℝ} {d : Fin n → ℝ} {mu eps : ℝ} (heps : 0 < eps)
    (he : ∀ i j, |a i j - c i j| ≤ r i j) (hrow : ∀ i, ∑ j, r i j ≤ mu) (hcol : ∀ j, ∑ i, r i j ≤ mu)
    (hd : ∀ p, 0 ≤ d p) (hc : ∀ i j, c i j = (∑ p, L i p * d p * L j p) + if i = j then mu + eps else 0)
    {x : Fin n → ℝ} (hx : x ≠ 0) : 0 < ∑ i, ∑ j, x i * a i j * x j := by
  have hS : 0 < ∑ i, x i ^ 2 := by
    obtain ⟨i0, hi0⟩ := Function.ne_iff.1 hx
    exact lt_of_lt_of_le (pow_pos (abs_pos.2 hi0) 2 |>.trans_eq (sq_abs _))
      (Finset.single_le_sum (f := fun i => x i ^ 2) (fun i _ => sq_nonneg _) (Finset.mem_univ i0))
  have hij : ∀ i j, x i * a i j * x j = x i * (∑ p, L i p * d p * L j p) * x j + x i * (a i j - c i j) * x j +
      (if i = j then (mu + eps) * x i ^ 2 else 0) := by
    intro i j
    have := hc i j
    split_ifs at this ⊢ with h
    · subst h; rw [this]; ring
    · rw [this]; ring
  have hldl : 0 ≤ ∑ p, d p * (∑ i, L i p * x i) ^ 2 :=
    Finset.sum_nonneg fun p _ => mul_nonneg (hd p) (sq_nonneg _)
  have hper := quad_perturb (fun i j => a i j - c i j) r x mu he hrow hcol
  -- `xᵀ a x` is the `L D Lᵀ` part, plus the perturbation part, plus the diagonal part
  have hsplit : ∑ i, ∑ j, x i * a i j * x j = ∑ p, d p * (∑ i, L i p * x i) ^ 2 +
      ∑ i, ∑ j, x i * (a i j - c i j) * x j + (mu + eps) * ∑ i, x i ^ 2 := by
    simp only [hij, Finset.sum_add_distrib, Finset.sum_ite_eq, Finset.mem_univ, if_true, quad_ldl, ← Finset.mul_sum]
  calc 0 < eps * ∑ i, x i ^ 2 := mul_pos heps hS
    _ = 0 + -(mu * ∑ i, x i ^ 2) + (mu + eps) * ∑ i, x i ^ 2 := by ring
    _ ≤ _ := hsplit ▸ add_le_add (add_le_add hldl hper) le_rfl

theorem allRange_iff {n : Nat} {p : Nat → Bool} : allRange n p = true ↔ ∀ i, i < n → p i = true := by
  simp [allRange]

theorem sumRange_cast (n : Nat) (f : Nat → ℚ) : ((sumRange n f : ℚ) : ℝ) = ∑ k : Fin n, ((f k : ℚ) : ℝ) := by
  unfold sumRange
  rw [list_range_sum, Rat.cast_sum]

theorem abs_sub_cen_le {I : Itv} {v : ℝ} (hf : finiteI I = true) (hv : v ∈ I) :
    |v - ((cenQ I : ℚ) : ℝ)| ≤ ((radQ I : ℚ) : ℝ) := by
  cases I with
  | empty => exact absurd hv (Itv.not_mem_empty v)
  | mk lo hi =>
    cases lo <;> cases hi <;> simp only [finiteI, Bool.false_eq_true] at hf
    rename_i a b
    obtain ⟨h1, h2⟩ := hv
    simp only [Ext.toE_fin, EReal.coe_le_coe_iff] at h1 h2
    simp only [cenQ, radQ]
    push_cast
    rw [abs_le]
    constructor <;> linarith

/-- **positive-definiteness certificate**: when `pdCertOk` accepts, EVERY real matrix `a` of `[A]`
    (symmetric or not) satisfies `xᵀ a x > 0` for all `x ≠ 0`. -/
theorem pdCertOk_sound {n : Nat} {A : IMat} {L : QMat} {d : List ℚ} {mu eps : ℚ}
    (hok : pdCertOk n A L d mu eps = true) {a : RMat} (ha : MMem a A) (x : Fin n → ℝ) (hx : x ≠ 0) :
    0 < ∑ i, ∑ j, x i * toMat n n a i j * x j := by
  simp only [pdCertOk, Bool.and_eq_true, decide_eq_true_eq, allRange_iff, beq_iff_eq] at hok
  obtain ⟨⟨⟨⟨⟨heps, hfin⟩, hrow⟩, hcol⟩, hd⟩, hldl⟩ := hok
  refine quad_pos_of_ldl (c := fun i j => ((cenQ (entryI A i j) : ℚ) : ℝ))
    (r := fun i j => ((radQ (entryI A i j) : ℚ) : ℝ)) (L := fun i p => ((entryQ L i p : ℚ) : ℝ))
    (d := fun p => ((d.getD p 0 : ℚ) : ℝ)) (mu := mu) (eps := eps) (by exact_mod_cast heps)
    (fun i j => abs_sub_cen_le (hfin i i.2 j j.2) ((ha.getD_nil i).getD_point j))
    (fun i => ?_) (fun j => ?_) (fun p => by exact_mod_cast hd p p.2) (fun i j => ?_) hx
  · rw [← sumRange_cast n fun j => radQ (entryI A i j)]; exact_mod_cast hrow i i.2
  · rw [← sumRange_cast n fun i => radQ (entryI A i j)]; exact_mod_cast hcol j j.2
  · have h := congrArg (Rat.cast : ℚ → ℝ) (hldl i i.2 j j.2)
    rw [sumRange_cast] at h
    simp only [Rat.cast_sub, Rat.cast_mul, apply_ite (Rat.cast : ℚ → ℝ), Rat.cast_add, Rat.cast_zero, Fin.val_inj] at h
    exact eq_add_of_sub_eq h

theorem pdCertFind_sound {n : Nat} {A : IMat} (hok : pdCertFind n A = true) {a : RMat} (ha : MMem a A)
    (x : Fin n → ℝ) (hx : x ≠ 0) : 0 < ∑ i, ∑ j, x i * toMat n n a i j * x j := by
  unfold pdCertFind at hok
  split at hok
  · exact absurd hok (by simp)
  · simp only at hok
    split at hok
    · exact absurd hok (by simp)
    · split at hok
      · exact pdCertOk_sound hok ha x hx
      · exact absurd hok (by simp)

end Ibex.LinAlg
