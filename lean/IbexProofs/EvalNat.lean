/-
  The evaluator of `IbexModel/Expr.lean` is *natural* with respect to a relation `R` between the
  entries of two number algebras (`AlgRel R A B`: every operation of `A` is followed by `B` along
  `R`): what holds of one node holds of the fold over the node array, of the root and of the table
  of applied functions, in a weak form (both evaluations defined) and in a total form (`B` defined
  wherever `A` is).
-/
import IbexProofs.EvalRel
import Mathlib.Data.List.Induction

namespace Ibex
open Ibex List

section Rel
variable {α β γ δ : Type}
variable {R : α → β → Prop}

/-! ## the evaluator is natural w.r.t. a relation between two algebras -/

/-- `B` follows `A` along `R`: every operation of `A` that is defined on arguments related to
    arguments of `B` is defined in `B` with a related result.  For the unary operators named by a
    string the requirement applies only to the names that `B` supports. -/
structure AlgRel (R : α → β → Prop) (A : Alg α) (B : Alg β) : Prop where
  ofItv : ∀ I a, A.ofItv I = some a → ∃ b, B.ofItv I = some b ∧ R a b
  zero : R A.zero B.zero
  add : Rel2 R R A.add B.add
  sub : Rel2 R R A.sub B.sub
  mul : Rel2 R R A.mul B.mul
  div : Rel2 R R A.div B.div
  max : Rel2 R R A.max B.max
  min : Rel2 R R A.min B.min
  un : ∀ op f g, A.un op = some f → B.un op = some g → Rel1 R R f g
  pow : ∀ n, Rel1 R R (fun a => A.pow a n) (fun b => B.pow b n)
  chi : ∀ a b a' b' a'' b'' x, R a b → R a' b' → R a'' b'' → A.chi a a' a'' = some x →
    ∃ y, B.chi b b' b'' = some y ∧ R x y

namespace Eval
variable {A : Alg α} {B : Alg β}

theorem sumList_rel (h : AlgRel R A B) {l1 : List α} {l2 : List β} (hl : Forall₂ R l1 l2) {x : α}
    (hx : sumList A l1 = some x) : ∃ y, sumList B l2 = some y ∧ R x y := by
  cases hl with
  | nil => simp only [sumList, Option.some.injEq] at hx ⊢; subst hx; exact ⟨_, rfl, h.zero⟩
  | cons hab hl => exact foldlM_rel h.add hl hab hx

theorem dot_rel (h : AlgRel R A B) {u1 v1 : List α} {u2 v2 : List β} (hu : Forall₂ R u1 u2)
    (hv : Forall₂ R v1 v2) {x : α} (hx : dot A u1 v1 = some x) : ∃ y, dot B u2 v2 = some y ∧ R x y :=
  bind_rel (P := Forall₂ R)
    (fun _ hps => mapM_rel (R := fun (p : α × α) (q : β × β) => R p.1 q.1 ∧ R p.2 q.2)
      (fun _ _ _ hpq hx => h.mul _ _ _ _ _ hpq.1 hpq.2 hx) (forall₂_zip_pair hu hv) hps)
    (fun _ _ _ hpq hx => sumList_rel h hpq hx) hx

theorem matMul_rel (h : AlgRel R A B) {a a' : Mat α} {b b' : Mat β} (ha : MatRel R a b)
    (ha' : MatRel R a' b') {x : Mat α} (hx : matMul A a a' = some x) :
    ∃ y, matMul B b b' = some y ∧ MatRel R x y := by
  unfold matMul at hx ⊢
  rw [← ha.2.1, ← ha'.1, ← ha.1, ← ha'.2.1]
  split at hx
  · exact absurd hx (by simp)
  · rename_i hcond
    rw [if_neg hcond]
    exact bind_rel (P := Forall₂ R)
      (fun _ hd => mapM_rel_same (fun ij x hx => dot_rel h (ha.row _) (ha'.col _) hx) hd)
      (fun _ _ _ hdd hx => by cases hx; exact ⟨_, rfl, rfl, rfl, hdd⟩) hx

theorem _root_.Ibex.MatRel.isScalar_eq {a : Mat α} {b : Mat β} (h : MatRel R a b) : a.isScalar = b.isScalar := by
  unfold Mat.isScalar; rw [h.1, h.2.1]

theorem mulVal_rel (h : AlgRel R A B) {a a' : Mat α} {b b' : Mat β} (ha : MatRel R a b)
    (ha' : MatRel R a' b') {x : Mat α} (hx : mulVal A a a' = some x) :
    ∃ y, mulVal B b b' = some y ∧ MatRel R x y := by
  unfold mulVal at hx ⊢
  rw [← ha.isScalar_eq]
  split at hx
  · rename_i hs
    rw [if_pos hs]
    have hd := ha.2.2
    split at hx
    · rename_i s hs1
      rw [hs1] at hd
      generalize b.d = bd at hd ⊢
      cases hd with
      | cons hst hnil =>
        cases hnil
        exact Mat.mapM?_rel (R := R) (S := R) (f := fun u => A.mul s u)
          (fun u v x huv hx => h.mul _ _ _ _ _ hst huv hx) ha' hx
    · exact absurd hx (by simp)
  · rename_i hs
    rw [if_neg hs]
    exact matMul_rel h ha ha' hx

theorem binVal_rel (h : AlgRel R A B) (op : String) {a a' : Mat α} {b b' : Mat β} (ha : MatRel R a b)
    (ha' : MatRel R a' b') {x : Mat α} :
    binVal A op a a' = some x → ∃ y, binVal B op b b' = some y ∧ MatRel R x y := by
  unfold binVal
  rw [← ha.isScalar_eq, ← ha'.isScalar_eq]
  split
  · exact Mat.zip?_rel h.add ha ha'
  · exact Mat.zip?_rel h.sub ha ha'
  · exact mulVal_rel h ha ha'
  · split
    · exact Mat.zip?_rel h.div ha ha'
    · intro hx; exact absurd hx (by simp)
  · split
    · exact Mat.zip?_rel h.max ha ha'
    · intro hx; exact absurd hx (by simp)
  · split
    · exact Mat.zip?_rel h.min ha ha'
    · intro hx; exact absurd hx (by simp)
  · intro hx; exact absurd hx (by simp)

theorem un_bind_rel (h : AlgRel R A B) {op : String} {a : Mat α} {b : Mat β} (ha : MatRel R a b)
    {x : Mat α} (hx : ((A.un op).bind fun f => a.mapM? f) = some x) :
    (∃ y, ((B.un op).bind fun g => b.mapM? g) = some y ∧ MatRel R x y) ∨ B.un op = none := by
  obtain ⟨f, hf, hx⟩ := Option.bind_eq_some_iff.1 hx
  cases hg : B.un op with
  | none => exact .inr rfl
  | some g => exact .inl (Mat.mapM?_rel (h.un _ f g hf hg) ha hx)

theorem unVal_rel (h : AlgRel R A B) (op : String) {a : Mat α} {b : Mat β} (ha : MatRel R a b) {x : Mat α} :
    unVal A op a = some x →
      (∃ y, unVal B op b = some y ∧ MatRel R x y) ∨ (op ≠ "trans" ∧ B.un op = none) := by
  unfold unVal
  rw [← ha.isScalar_eq]
  split
  · intro hx
    cases hx
    exact .inl ⟨_, rfl, ha.transpose⟩
  · exact fun hx => (un_bind_rel h ha hx).imp_right fun e => ⟨by decide, e⟩
  · rename_i hnt _
    split
    · exact fun hx => (un_bind_rel h ha hx).imp_right fun e => ⟨hnt, e⟩
    · intro hx; cases hx

theorem vecVal_rel {row : Bool} {ps : List (Mat α)} {qs : List (Mat β)} (h : Forall₂ (MatRel R) ps qs)
    {x : Mat α} (hx : vecVal row ps = some x) : ∃ y, vecVal row qs = some y ∧ MatRel R x y := by
  cases h with
  | nil => exact absurd hx (by simp [vecVal])
  | @cons p q ps' qs' hpq hrest =>
    have hall : Forall₂ (MatRel R) (p :: ps') (q :: qs') := .cons hpq hrest
    have hr : (p :: ps').all (fun m => m.r == p.r) = (q :: qs').all (fun m => m.r == q.r) :=
      forall₂_all_eq (fun a b hab => by rw [hab.1, hpq.1]) hall
    have hc : (p :: ps').all (fun m => m.c == p.c) = (q :: qs').all (fun m => m.c == q.c) :=
      forall₂_all_eq (fun a b hab => by rw [hab.2.1, hpq.2.1]) hall
    have hmr : (p :: ps').map (·.r) = (q :: qs').map (·.r) := forall₂_map_eq (fun a b hab => hab.1) hall
    have hmc : (p :: ps').map (·.c) = (q :: qs').map (·.c) := forall₂_map_eq (fun a b hab => hab.2.1) hall
    unfold vecVal at hx ⊢
    simp only at hx ⊢
    rw [← hr, ← hc, ← hmr, ← hmc]
    split at hx
    · rename_i hrow
      split at hx
      · rename_i hcond
        rw [if_pos hrow, if_pos hcond]
        simp only [Option.some.injEq] at hx
        subst hx
        refine ⟨_, rfl, hpq.1, rfl, ?_⟩
        simp only
        rw [← hpq.1]
        exact forall₂_flatMap_same (fun i => rel_flatMap hall fun _ _ hab => hab.row i) _
      · exact absurd hx (by simp)
    · rename_i hrow
      split at hx
      · rename_i hcond
        rw [if_neg hrow, if_pos hcond]
        simp only [Option.some.injEq] at hx
        subst hx
        refine ⟨_, rfl, rfl, hpq.2.1, ?_⟩
        exact rel_flatMap hall fun _ _ hab => hab.2.2
      · exact absurd hx (by simp)

/-- the values available so far are related, and `v2` is defined wherever `v1` is: the fold only
    goes on while both evaluations are defined -/
def ArgsRel (R : α → β → Prop) (v1 : Array (Mat α)) (v2 : Array (Mat β)) : Prop :=
  ∀ (j : Nat) (v : Mat α), v1[j]? = some v → ∃ z, v2[j]? = some z ∧ MatRel R v z

/-- call tables: when both calls are defined on related arguments, the results are related.  That the
    second is defined is not asked: an applied function that `B` cannot evaluate is one of the two
    `Unchecked` cases below (`CallRelT` is the form that asks it). -/
def CallRel (R : α → β → Prop) (c1 : Nat → List (Mat α) → Option (Mat α))
    (c2 : Nat → List (Mat β) → Option (Mat β)) : Prop :=
  ∀ f as bs x y, Forall₂ (MatRel R) as bs → c1 f as = some x → c2 f bs = some y → MatRel R x y

/-- The only two reasons why `B` can leave a node undefined although `A` defines it on related
    arguments: a unary operator whose name `B` does not support, or an applied function whose
    evaluation in `B` is undefined. -/
def Unchecked (B : Alg β) (c2 : Nat → List (Mat β) → Option (Mat β)) (v2 : Array (Mat β)) (n : Node) : Prop :=
  (∃ op a, n.k = .un op a ∧ op ≠ "trans" ∧ B.un op = none) ∨
  (∃ f as bs, n.k = .apply f as ∧ as.mapM (fun i => v2[i]?) = some bs ∧ c2 f bs = none)

theorem unVal_none {op : String} (hop : op ≠ "trans") (hB : B.un op = none) (b : Mat β) :
    unVal B op b = none := by
  unfold unVal
  split
  · exact absurd rfl hop
  · rw [hB]; rfl
  · rw [hB]; split <;> rfl

theorem Unchecked.nodeVal_none {e2 : List β} {c2 : Nat → List (Mat β) → Option (Mat β)}
    {v2 : Array (Mat β)} {n : Node} (h : Unchecked B c2 v2 n) : nodeVal B e2 c2 v2 n = none := by
  obtain ⟨k, r, c⟩ := n
  rcases h with ⟨op, a, hk, hop, hB⟩ | ⟨f, as, bs, hk, hbs, hc⟩
  · simp only at hk
    subst hk
    simp only [nodeVal]
    cases v2[a]? with
    | none => rfl
    | some b => exact unVal_none hop hB b
  · simp only at hk
    subst hk
    simp only [nodeVal, bind, hbs, Option.bind_some, hc]

theorem args_mapM {v1 : Array (Mat α)} {v2 : Array (Mat β)} (hv : ArgsRel R v1 v2) {as : List Nat} {ms : List (Mat α)}
    (h : as.mapM (fun i => v1[i]?) = some ms) :
    ∃ zs, as.mapM (fun i => v2[i]?) = some zs ∧ Forall₂ (MatRel R) ms zs :=
  mapM_rel_same (fun i x hx => hv i x hx) h

theorem nodeVal_rel {e1 : List α} {e2 : List β} {c1 : Nat → List (Mat α) → Option (Mat α)}
    {c2 : Nat → List (Mat β) → Option (Mat β)} {v1 : Array (Mat α)} {v2 : Array (Mat β)}
    (h : AlgRel R A B) (henv : Forall₂ R e1 e2) (hc : CallRel R c1 c2) (hv : ArgsRel R v1 v2)
    (n : Node) {x : Mat α} :
    nodeVal A e1 c1 v1 n = some x →
      (∃ y, nodeVal B e2 c2 v2 n = some y ∧ MatRel R x y) ∨ Unchecked B c2 v2 n := by
  obtain ⟨k, r, c⟩ := n
  cases k with
  | var off =>
    intro hx
    left
    simp only [nodeVal] at hx ⊢
    have hd := forall₂_take (r * c) (forall₂_drop off henv)
    rw [← hd.length_eq]
    split at hx
    · rename_i hl
      rw [if_pos hl]
      simp only [Option.some.injEq] at hx
      subst hx
      exact ⟨_, rfl, rfl, rfl, hd⟩
    · exact absurd hx (by simp)
  | const vs =>
    refine fun hx => .inl <| bind_rel (P := Forall₂ R)
      (fun d hd => mapM_rel_same (fun I a ha => h.ofItv I a ha) hd) (fun d d' x hdd hx => ?_) hx
    rw [← hdd.length_eq]
    split at hx
    · rename_i hl
      rw [if_pos hl]
      cases hx
      exact ⟨_, rfl, rfl, rfl, hdd⟩
    · cases hx
  | un op a =>
    intro hx
    simp only [nodeVal, Option.bind_eq_some_iff] at hx
    obtain ⟨va, hva, hx⟩ := hx
    obtain ⟨vb, hvb, hab⟩ := hv _ _ hva
    rcases unVal_rel h op hab hx with ⟨y, hy, hxy⟩ | hun
    · exact .inl ⟨y, by simp only [nodeVal, hvb, Option.bind_some, hy], hxy⟩
    · exact .inr (.inl ⟨op, a, rfl, hun⟩)
  | bin op a b =>
    exact fun hx => .inl <| bind_rel (hv a) (fun va wa x haa hx =>
      bind_rel (hv b) (fun vb wb x hbb hx => binVal_rel h op haa hbb hx) hx) hx
  | pow a k =>
    refine fun hx => .inl <| bind_rel (hv a) (fun va wa x haa hx => ?_) hx
    rw [← haa.isScalar_eq]
    split at hx
    · rename_i hs
      rw [if_pos hs]
      exact Mat.mapM?_rel (h.pow k) haa hx
    · cases hx
  | idx a r1 r2 c1 c2 =>
    exact fun hx => .inl <| bind_rel (hv a) (fun va wa x haa hx => haa.sub? hx) hx
  | vec row as =>
    exact fun hx => .inl <| bind_rel (fun ms hms => args_mapM hv hms)
      (fun ms zs x hmz hx => vecVal_rel hmz hx) hx
  | chi a b c' =>
    refine fun hx => .inl <| bind_rel (hv a) (fun va wa x haa hx => bind_rel (hv b)
      (fun vb wb x hbb hx => bind_rel (hv c') (fun vc wc x hcc hx => ?_) hx) hx) hx
    have ha := haa.2.2
    have hb := hbb.2.2
    have hc' := hcc.2.2
    split at hx
    · rename_i x1 y1 z1 e1 e2 e3
      rw [e1] at ha; rw [e2] at hb; rw [e3] at hc'
      generalize wa.d = da at ha ⊢
      generalize wb.d = db at hb ⊢
      generalize wc.d = dc at hc' ⊢
      cases ha with
      | cons ha hn1 =>
      cases hn1
      cases hb with
      | cons hb hn2 =>
      cases hn2
      cases hc' with
      | cons hc' hn3 =>
      cases hn3
      simp only [Option.map_eq_some_iff] at hx ⊢
      obtain ⟨s, hs, rfl⟩ := hx
      obtain ⟨t, ht, hst⟩ := h.chi _ _ _ _ _ _ _ ha hb hc' hs
      exact ⟨_, ⟨t, ht, rfl⟩, rfl, rfl, .cons hst .nil⟩
    · exact absurd hx (by simp)
  | apply f as =>
    intro hx
    simp only [nodeVal, bind, Option.bind_eq_some_iff] at hx
    obtain ⟨ms, hms, hx⟩ := hx
    obtain ⟨zs, hzs, hmz⟩ := args_mapM hv hms
    cases hy : c2 f zs with
    | none => exact .inr (.inr ⟨f, as, zs, rfl, hzs, hy⟩)
    | some y => exact .inl ⟨y, by simp only [nodeVal, bind, hzs, Option.bind_some, hy], hc _ _ _ _ _ hmz hx hy⟩

theorem nodeVal_rel_of_some {e1 : List α} {e2 : List β} {c1 : Nat → List (Mat α) → Option (Mat α)}
    {c2 : Nat → List (Mat β) → Option (Mat β)} {v1 : Array (Mat α)} {v2 : Array (Mat β)}
    (h : AlgRel R A B) (henv : Forall₂ R e1 e2) (hc : CallRel R c1 c2) (hv : ArgsRel R v1 v2)
    {n : Node} {x : Mat α} {y : Mat β} (hx : nodeVal A e1 c1 v1 n = some x)
    (hy : nodeVal B e2 c2 v2 n = some y) : MatRel R x y := by
  rcases nodeVal_rel h henv hc hv n hx with ⟨y', hy', hxy⟩ | hu
  · rw [hy] at hy'
    simp only [Option.some.injEq] at hy'
    subst hy'
    exact hxy
  · rw [hu.nodeVal_none] at hy
    exact absurd hy (by simp)

/-! ### the whole evaluation (`Eval.run`): induction over the node array -/

def step (A : Alg α) (env : List α) (call : Nat → List (Mat α) → Option (Mat α))
    (vals : Array (Mat α)) (n : Node) : Option (Array (Mat α)) := do
  let v ← nodeVal A env call vals n
  if v.r == n.r && v.c == n.c then pure (vals.push v) else none

theorem run_eq (A : Alg α) (env : List α) (call : Nat → List (Mat α) → Option (Mat α)) (dag : Dag) :
    run A env call dag = dag.toList.foldlM (step A env call) #[] := by
  unfold run
  rw [Array.foldlM_toList]
  rfl

theorem step_eq_some {env : List α} {call : Nat → List (Mat α) → Option (Mat α)} {vals w : Array (Mat α)}
    {n : Node} (h : step A env call vals n = some w) :
    ∃ v, nodeVal A env call vals n = some v ∧ v.r = n.r ∧ v.c = n.c ∧ w = vals.push v := by
  unfold step at h
  simp only [bind, Option.bind_eq_some_iff] at h
  obtain ⟨v, hv, h⟩ := h
  split at h
  · rename_i hd
    simp only [Bool.and_eq_true, beq_iff_eq] at hd
    simp only [pure, Option.some.injEq] at h
    exact ⟨v, hv, hd.1, hd.2, h.symm⟩
  · exact absurd h (by simp)

theorem step_of_nodeVal {env : List α} {call : Nat → List (Mat α) → Option (Mat α)} {vals : Array (Mat α)}
    {n : Node} {v : Mat α} (h : nodeVal A env call vals n = some v) (hr : v.r = n.r) (hc : v.c = n.c) :
    step A env call vals n = some (vals.push v) := by
  unfold step
  simp [bind, h, hr, hc]

section
variable {env : List α} {call : Nat → List (Mat α) → Option (Mat α)} {vals : Array (Mat α)}

@[dag_eval] theorem foldlM_step_nil : ([] : List Node).foldlM (step A env call) vals = some vals := rfl

@[dag_eval] theorem foldlM_step_cons (n : Node) (ns : List Node) :
    (n :: ns).foldlM (step A env call) vals =
      (step A env call vals n).bind fun w => ns.foldlM (step A env call) w := by
  rw [List.foldlM_cons]; rfl

@[dag_eval] theorem step_eq (n : Node) : step A env call vals n =
    (nodeVal A env call vals n).bind fun v =>
      if v.r = n.r ∧ v.c = n.c then some (vals.push v) else none := by
  unfold step
  cases nodeVal A env call vals n <;> simp [bind]

end

theorem fold_prefix {env : List α} {call : Nat → List (Mat α) → Option (Mat α)} :
    ∀ (ns : List Node) {v r : Array (Mat α)}, ns.foldlM (step A env call) v = some r →
      r.size = v.size + ns.length ∧ ∀ j, j < v.size → r[j]? = v[j]? := by
  intro ns
  induction ns with
  | nil => intro v r h; simp at h; subst h; simp
  | cons n ns ih =>
    intro v r h
    simp only [List.foldlM_cons, bind, Option.bind_eq_some_iff] at h
    obtain ⟨w, hw, h⟩ := h
    obtain ⟨x, _, _, _, rfl⟩ := step_eq_some hw
    obtain ⟨h1, h2⟩ := ih h
    refine ⟨by rw [h1]; simp; omega, fun j hj => ?_⟩
    rw [h2 j (by simp; omega), Array.getElem?_push, if_neg (by omega)]

/-- An invariant of the value array that every step keeps is kept by the fold.  The step for node
    `i` may use that the value it appends is entry `v.size + i` of the final array. -/
theorem fold_inv {env : List α} {call : Nat → List (Mat α) → Option (Mat α)} {ns : List Node}
    {v r : Array (Mat α)} (h : ns.foldlM (step A env call) v = some r)
    {P : Nat → Array (Mat α) → Prop} (h0 : P 0 v)
    (hstep : ∀ i n w x, ns[i]? = some n → w.size = v.size + i → P i w →
      nodeVal A env call w n = some x → r[v.size + i]? = some x → P (i + 1) (w.push x)) :
    P ns.length r := by
  induction ns generalizing v P with
  | nil => cases h; exact h0
  | cons n ns ih =>
    obtain ⟨w, hw, h⟩ := Option.bind_eq_some_iff.1 ((foldlM_step_cons n ns).symm.trans h)
    obtain ⟨x, hx, _, _, rfl⟩ := step_eq_some hw
    have hfin : r[v.size]? = some x := by
      rw [(fold_prefix ns h).2 v.size (by simp), Array.getElem?_push_size]
    refine ih h (P := fun i w => P (i + 1) w) (hstep 0 n v x rfl rfl h0 hx hfin)
      fun i n' w x' hn hsz hP hx' hr => ?_
    rw [Array.size_push, Nat.add_assoc, Nat.add_comm 1 i] at hsz hr
    exact hstep (i + 1) n' w x' hn hsz hP hx' hr

theorem ArgsRel.push {v1 : Array (Mat α)} {v2 : Array (Mat β)} (hs : v1.size = v2.size)
    (hv : ArgsRel R v1 v2) {x : Mat α} {y : Mat β} (hxy : MatRel R x y) :
    ArgsRel R (v1.push x) (v2.push y) := by
  intro j v hj
  rw [Array.getElem?_push] at hj ⊢
  rw [← hs]
  split at hj
  · rename_i e
    rw [if_pos e]
    simp only [Option.some.injEq] at hj
    subst hj
    exact ⟨y, rfl, hxy⟩
  · rename_i e
    rw [if_neg e]
    exact hv j v hj

theorem fold_rel {e1 : List α} {e2 : List β} {c1 : Nat → List (Mat α) → Option (Mat α)}
    {c2 : Nat → List (Mat β) → Option (Mat β)} (h : AlgRel R A B) (henv : Forall₂ R e1 e2)
    (hc : CallRel R c1 c2) :
    ∀ (ns : List Node) {v1 r1 : Array (Mat α)} {v2 r2 : Array (Mat β)}, v1.size = v2.size →
      ArgsRel R v1 v2 → ns.foldlM (step A e1 c1) v1 = some r1 → ns.foldlM (step B e2 c2) v2 = some r2 →
      r1.size = r2.size ∧ ArgsRel R r1 r2 := by
  intro ns
  induction ns with
  | nil =>
    intro v1 r1 v2 r2 hs hv h1 h2
    simp at h1 h2
    subst h1; subst h2
    exact ⟨hs, hv⟩
  | cons n ns ih =>
    intro v1 r1 v2 r2 hs hv h1 h2
    simp only [List.foldlM_cons, bind, Option.bind_eq_some_iff] at h1 h2
    obtain ⟨w1, hw1, h1⟩ := h1
    obtain ⟨w2, hw2, h2⟩ := h2
    obtain ⟨x, hx, _, _, rfl⟩ := step_eq_some hw1
    obtain ⟨y, hy, _, _, rfl⟩ := step_eq_some hw2
    have hxy := nodeVal_rel_of_some h henv hc hv hx hy
    exact ih (by simp [hs]) (hv.push hs hxy) h1 h2

theorem run_rel {e1 : List α} {e2 : List β} {c1 : Nat → List (Mat α) → Option (Mat α)}
    {c2 : Nat → List (Mat β) → Option (Mat β)} (h : AlgRel R A B) (henv : Forall₂ R e1 e2)
    (hc : CallRel R c1 c2) {dag : Dag} {r1 : Array (Mat α)} {r2 : Array (Mat β)}
    (h1 : run A e1 c1 dag = some r1) (h2 : run B e2 c2 dag = some r2) :
    r1.size = r2.size ∧ ArgsRel R r1 r2 := by
  rw [run_eq] at h1 h2
  exact fold_rel h henv hc _ rfl (fun j v hj => by simp at hj) h1 h2

theorem root_rel {e1 : List α} {e2 : List β} {c1 : Nat → List (Mat α) → Option (Mat α)}
    {c2 : Nat → List (Mat β) → Option (Mat β)} (h : AlgRel R A B) (henv : Forall₂ R e1 e2)
    (hc : CallRel R c1 c2) {dag : Dag} {x : Mat α} {y : Mat β}
    (h1 : root A e1 c1 dag = some x) (h2 : root B e2 c2 dag = some y) : MatRel R x y := by
  unfold root at h1 h2
  simp only [Option.bind_eq_some_iff] at h1 h2
  obtain ⟨r1, hr1, h1⟩ := h1
  obtain ⟨r2, hr2, h2⟩ := h2
  obtain ⟨hs, hv⟩ := run_rel h henv hc hr1 hr2
  rw [Array.back?_eq_getElem?] at h1 h2
  obtain ⟨z, hz, hxz⟩ := hv _ _ h1
  rw [hs, h2] at hz
  simp only [Option.some.injEq] at hz
  subst hz
  exact hxz

/-! ### total form: when `B` supports everything `A` does, `B` is defined wherever `A` is -/

def CallRelT (R : α → β → Prop) (c1 : Nat → List (Mat α) → Option (Mat α))
    (c2 : Nat → List (Mat β) → Option (Mat β)) : Prop :=
  ∀ f as bs x, Forall₂ (MatRel R) as bs → c1 f as = some x → ∃ y, c2 f bs = some y ∧ MatRel R x y

theorem CallRelT.toCallRel {c1 : Nat → List (Mat α) → Option (Mat α)}
    {c2 : Nat → List (Mat β) → Option (Mat β)} (h : CallRelT R c1 c2) : CallRel R c1 c2 := by
  intro f as bs x y hab hx hy
  obtain ⟨y', hy', hxy⟩ := h f as bs x hab hx
  rw [hy] at hy'
  simp only [Option.some.injEq] at hy'
  subst hy'
  exact hxy

def Supp (A : Alg α) (B : Alg β) (n : Node) : Prop :=
  ∀ op a, n.k = .un op a → op ≠ "trans" → B.un op = none → A.un op = none

theorem nodeVal_rel_total {e1 : List α} {e2 : List β} {c1 : Nat → List (Mat α) → Option (Mat α)}
    {c2 : Nat → List (Mat β) → Option (Mat β)} {v1 : Array (Mat α)} {v2 : Array (Mat β)}
    (h : AlgRel R A B) (henv : Forall₂ R e1 e2)
    (hc : CallRelT R c1 c2) (hv : ArgsRel R v1 v2) (n : Node) (hsup : Supp A B n) {x : Mat α}
    (hx : nodeVal A e1 c1 v1 n = some x) : ∃ y, nodeVal B e2 c2 v2 n = some y ∧ MatRel R x y := by
  rcases nodeVal_rel h henv hc.toCallRel hv n hx with hy | hu
  · exact hy
  · exfalso
    rcases hu with ⟨op, a, hk, hop, hB⟩ | ⟨f, as, bs, hk, hbs, hcn⟩
    · have : Unchecked A c1 v1 n := .inl ⟨op, a, hk, hop, hsup op a hk hop hB⟩
      rw [this.nodeVal_none] at hx
      exact absurd hx (by simp)
    · obtain ⟨k, r, c⟩ := n
      simp only at hk
      subst hk
      simp only [nodeVal, bind, Option.bind_eq_some_iff] at hx
      obtain ⟨ms, hms, hx⟩ := hx
      obtain ⟨zs, hzs, hmz⟩ := args_mapM hv hms
      rw [hbs] at hzs
      simp only [Option.some.injEq] at hzs
      subst hzs
      obtain ⟨y, hy, _⟩ := hc _ _ _ _ hmz hx
      rw [hcn] at hy
      exact absurd hy (by simp)

theorem fold_rel_total {e1 : List α} {e2 : List β} {c1 : Nat → List (Mat α) → Option (Mat α)}
    {c2 : Nat → List (Mat β) → Option (Mat β)} (h : AlgRel R A B)
    (henv : Forall₂ R e1 e2) (hc : CallRelT R c1 c2) :
    ∀ (ns : List Node) {v1 r1 : Array (Mat α)} {v2 : Array (Mat β)}, (∀ n ∈ ns, Supp A B n) →
      v1.size = v2.size →
      ArgsRel R v1 v2 → ns.foldlM (step A e1 c1) v1 = some r1 →
      ∃ r2, ns.foldlM (step B e2 c2) v2 = some r2 ∧ r1.size = r2.size ∧ ArgsRel R r1 r2 := by
  intro ns
  induction ns with
  | nil =>
    intro v1 r1 v2 _ hs hv h1
    simp at h1
    subst h1
    exact ⟨v2, by simp, hs, hv⟩
  | cons n ns ih =>
    intro v1 r1 v2 hsup hs hv h1
    simp only [List.foldlM_cons, bind, Option.bind_eq_some_iff] at h1
    obtain ⟨w1, hw1, h1⟩ := h1
    obtain ⟨x, hx, hxr, hxc, rfl⟩ := step_eq_some hw1
    obtain ⟨y, hy, hxy⟩ := nodeVal_rel_total h henv hc hv n (hsup n (by simp)) hx
    have hstep := step_of_nodeVal hy (hxy.1 ▸ hxr) (hxy.2.1 ▸ hxc)
    obtain ⟨r2, hr2, hres⟩ := ih (v2 := v2.push y) (fun m hm => hsup m (by simp [hm]))
      (by simp [hs]) (hv.push hs hxy) h1
    exact ⟨r2, by simp only [List.foldlM_cons, bind, hstep, Option.bind_some, hr2], hres⟩

theorem run_rel_total {e1 : List α} {e2 : List β} {c1 : Nat → List (Mat α) → Option (Mat α)}
    {c2 : Nat → List (Mat β) → Option (Mat β)} (h : AlgRel R A B)
    (henv : Forall₂ R e1 e2) (hc : CallRelT R c1 c2)
    {dag : Dag} (hsup : ∀ n ∈ dag.toList, Supp A B n) {r1 : Array (Mat α)}
    (h1 : run A e1 c1 dag = some r1) :
    ∃ r2, run B e2 c2 dag = some r2 ∧ r1.size = r2.size ∧ ArgsRel R r1 r2 := by
  rw [run_eq] at h1
  rw [run_eq]
  exact fold_rel_total h henv hc _ hsup rfl (fun j v hj => by simp at hj) h1

theorem root_rel_total {e1 : List α} {e2 : List β} {c1 : Nat → List (Mat α) → Option (Mat α)}
    {c2 : Nat → List (Mat β) → Option (Mat β)} (h : AlgRel R A B)
    (henv : Forall₂ R e1 e2) (hc : CallRelT R c1 c2)
    {dag : Dag} (hsup : ∀ n ∈ dag.toList, Supp A B n) {x : Mat α} (h1 : root A e1 c1 dag = some x) :
    ∃ y, root B e2 c2 dag = some y ∧ MatRel R x y := by
  unfold root at h1 ⊢
  simp only [Option.bind_eq_some_iff] at h1
  obtain ⟨r1, hr1, h1⟩ := h1
  obtain ⟨r2, hr2, hs, hv⟩ := run_rel_total h henv hc hsup hr1
  rw [Array.back?_eq_getElem?] at h1
  obtain ⟨z, hz, hxz⟩ := hv _ _ h1
  rw [hs] at hz
  exact ⟨z, by simp only [hr2, Option.bind_some, Array.back?_eq_getElem?, hz], hxz⟩

/-! ### the table of applied functions -/

theorem buildCalls_concat (funs : List Dag) (d : Dag) :
    buildCalls A (funs ++ [d]) = fun i args =>
      if i == funs.length then root A (args.flatMap (·.d)) (buildCalls A funs) d
      else buildCalls A funs i args := by
  unfold buildCalls
  rw [List.zipIdx_append, List.foldl_append]
  simp only [List.zipIdx_cons, List.zipIdx_nil, List.foldl_cons, List.foldl_nil, Nat.zero_add]

theorem buildCalls_induction
    {P : (Nat → List (Mat α) → Option (Mat α)) → (Nat → List (Mat β) → Option (Mat β)) → Prop}
    (funs : List Dag) (h0 : P (fun _ _ => none) (fun _ _ => none))
    (hstep : ∀ d ∈ funs, ∀ (k : Nat) t1 t2, P t1 t2 →
      P (fun i args => if i == k then root A (args.flatMap (·.d)) t1 d else t1 i args)
        (fun i args => if i == k then root B (args.flatMap (·.d)) t2 d else t2 i args)) :
    P (buildCalls A funs) (buildCalls B funs) := by
  induction funs using List.reverseRecOn with
  | nil => exact h0
  | append_singleton funs d ih =>
    rw [buildCalls_concat, buildCalls_concat]
    exact hstep d (by simp) _ _ _ (ih fun d hd => hstep d (List.mem_append_left _ hd))

theorem buildCalls_rel (h : AlgRel R A B) (funs : List Dag) :
    CallRel R (buildCalls A funs) (buildCalls B funs) := by
  refine buildCalls_induction funs (fun f as bs x y _ hx => nomatch hx) fun d _ k t1 t2 ih => ?_
  intro f as bs x y hab hx hy
  dsimp only at hx hy
  by_cases hf : (f == k) = true
  · rw [if_pos hf] at hx hy
    exact root_rel h (rel_flatMap hab fun _ _ hab => hab.2.2) ih hx hy
  · rw [if_neg hf] at hx hy
    exact ih _ _ _ _ _ hab hx hy

theorem buildCalls_rel_total (h : AlgRel R A B) (funs : List Dag)
    (hsup : ∀ d ∈ funs, ∀ n ∈ d.toList, Supp A B n) :
    CallRelT R (buildCalls A funs) (buildCalls B funs) := by
  refine buildCalls_induction funs (fun f as bs x _ hx => nomatch hx) fun d hd k t1 t2 ih => ?_
  intro f as bs x hab hx
  dsimp only at hx ⊢
  by_cases hf : (f == k) = true
  · rw [if_pos hf] at hx ⊢
    exact root_rel_total h (rel_flatMap hab fun _ _ hab => hab.2.2) ih (hsup d hd) hx
  · rw [if_neg hf] at hx ⊢
    exact ih _ _ _ _ hab hx

end Eval

/-- giving the constants other values, which agree with the old ones wherever these are defined,
    leaves every operation as it is -/
theorem AlgRel.of_ofItv {A : Alg α} {of' : Itv → Option α} (h : ∀ I a, A.ofItv I = some a → of' I = some a) :
    AlgRel Eq A { A with ofItv := of' } where
  ofItv := fun I a ha => ⟨a, h I a ha, rfl⟩
  zero := rfl
  add := .refl _
  sub := .refl _
  mul := .refl _
  div := .refl _
  max := .refl _
  min := .refl _
  un := fun _ f _ hf hg => Option.some.inj (hf.symm.trans hg) ▸ .refl f
  pow := fun _ => .refl _
  chi := fun _ _ _ _ _ _ x e e' e'' h => e ▸ e' ▸ e'' ▸ ⟨x, h, rfl⟩

namespace Eval

theorem root_of_ofItv {A : Alg α} {of' : Itv → Option α} (h : ∀ I a, A.ofItv I = some a → of' I = some a)
    {funs : List Dag} {dag : Dag} {env : List α} {v : Mat α}
    (hv : root A env (buildCalls A funs) dag = some v) :
    root { A with ofItv := of' } env (buildCalls { A with ofItv := of' } funs) dag = some v := by
  have hsupp : ∀ n : Node, Supp A { A with ofItv := of' } n := fun _ _ _ _ _ h => h
  obtain ⟨z, hz, hvz⟩ := root_rel_total (AlgRel.of_ofItv h) (List.forall₂_refl env)
    (buildCalls_rel_total (AlgRel.of_ofItv h) funs fun _ _ n _ => hsupp n) (fun n _ => hsupp n) hv
  exact hvz.eq ▸ hz

end Eval

end Rel
end Ibex
