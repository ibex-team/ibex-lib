/-
  Soundness, over the reals, of the checkers of `IbexModel/Optim.lean` that the driver runs on the
  results of the real global optimizer (C07, optimizer half of C18).
-/
import IbexModel.Optim
import IbexProofs.RatFun
import IbexProofs.Props.C02
import IbexProofs.Props.C05

namespace Ibex.Optim
open Ibex Ibex.Eval List

/-! ## real-number meaning of a problem -/

/-- the scalar expression `f` is defined at `ρ` with value `v` (real semantics `Alg.real` of C02) -/
def RealVal (f : Fn) (ρ : List ℝ) (v : ℝ) : Prop :=
  ∃ m, root Alg.real ρ (buildCalls Alg.real f.1) f.2 = some m ∧ m.d = [v]

theorem RealVal.unique {f : Fn} {ρ : List ℝ} {v w : ℝ} (h₁ : RealVal f ρ v) (h₂ : RealVal f ρ w) : v = w := by
  obtain ⟨m, hm, hd⟩ := h₁
  obtain ⟨m', hm', hd'⟩ := h₂
  rw [hm] at hm'
  cases hm'
  rw [hd] at hd'
  simpa using hd'

/-- `v spec 0`, equalities relaxed to `|v| ≤ epsH` -/
def SpecHolds (epsH : ℝ) (spec : String) (v : ℝ) : Prop :=
  (spec = "leq" ∧ v ≤ 0) ∨ (spec = "lt" ∧ v < 0) ∨ (spec = "geq" ∧ 0 ≤ v) ∨ (spec = "gt" ∧ 0 < v) ∨
    (spec = "eq" ∧ |v| ≤ epsH)

/-- `ρ` is a feasible point of the eps_h-relaxed problem: in the box, every constraint defined and satisfied -/
def Feasible (P : Problem) (ρ : List ℝ) : Prop :=
  Box.Mem ρ P.box ∧ ∀ c ∈ P.ctrs, ∃ v, RealVal c.1 ρ v ∧ SpecHolds (P.epsH : ℝ) c.2 v

def castPt (p : List ℚ) : List ℝ := p.map (Rat.cast : ℚ → ℝ)

/-! ## exact evaluation -/

theorem evalQ_real {f : Fn} {p : List ℚ} {v : ℚ} (h : evalQ f p = some v) : RealVal f (castPt p) (v : ℝ) := by
  unfold evalQ at h
  split at h
  · rename_i m hm
    split at h
    · rename_i w hd
      simp only [Option.some.injEq] at h
      subst h
      obtain ⟨z, hz, -, -, hrel⟩ := C02.rat_root_real hm
      refine ⟨z, hz, ?_⟩
      rw [hd, forall₂_cons_left_iff] at hrel
      obtain ⟨x, xs, hx, hxs, hzd⟩ := hrel
      rw [forall₂_nil_left_iff] at hxs
      subst hxs
      rw [hzd, hx]
    · cases h
  · cases h

theorem specSat_iff {e : ℚ} {spec : String} {v : ℚ} :
    specSat e spec v = true ↔ SpecHolds (e : ℝ) spec (v : ℝ) := by
  unfold SpecHolds
  by_cases hs : spec = "leq" ∨ spec = "lt" ∨ spec = "geq" ∨ spec = "gt" ∨ spec = "eq"
  · rcases hs with rfl | rfl | rfl | rfl | rfl <;>
      simp only [specSat, String.reduceEq, if_true, if_false, false_and, true_and, false_or, or_false,
        Bool.and_eq_true, decide_eq_true_eq, abs_le] <;> norm_cast
  · simp only [not_or] at hs
    simp only [specSat, hs, if_false, false_and, or_false, Bool.false_eq_true]

theorem inBoxQ_iff : ∀ {p : List ℚ} {b : Box}, inBoxQ p b = true ↔ Box.Mem (castPt p) b
  | [], [] => by simp [inBoxQ, castPt, Box.mem_nil]
  | q :: ps, I :: bs => by
    simp only [inBoxQ, Bool.and_eq_true, castPt, List.map_cons, Box.mem_cons]
    exact and_congr Itv.containsExt_fin inBoxQ_iff
  | [], _ :: _ => ⟨fun h => by simp [inBoxQ] at h, fun hm => by simpa [castPt] using hm.length_eq⟩
  | _ :: _, [] => ⟨fun h => by simp [inBoxQ] at h, fun hm => by simpa [castPt] using hm.length_eq⟩

theorem ctrSatQ_sound {e : ℚ} {c : Fn × String} {p : List ℚ} (h : ctrSatQ e c p = true) :
    ∃ v, RealVal c.1 (castPt p) v ∧ SpecHolds (e : ℝ) c.2 v := by
  unfold ctrSatQ at h
  split at h
  · rename_i v hv
    exact ⟨(v : ℝ), evalQ_real hv, specSat_iff.1 h⟩
  · cases h

theorem feasQ_sound {P : Problem} {p : List ℚ} (h : feasQ P p = true) : Feasible P (castPt p) := by
  simp only [feasQ, Bool.and_eq_true, List.all_eq_true] at h
  exact ⟨inBoxQ_iff.1 h.1, fun c hc => ctrSatQ_sound (h.2 c hc)⟩

/-! ## bounds on the checked points -/

theorem lowerOk_sound {P : Problem} {uplo : Ext} {pts : List (List ℚ)} (h : lowerOk P uplo pts = true)
    {p : List ℚ} (hp : p ∈ pts) (hf : feasQ P p = true) {v : ℚ} (hv : evalQ P.obj p = some v) :
    uplo.toE ≤ (((v : ℚ) : ℝ) : EReal) := by
  have := List.all_eq_true.1 h p hp
  simp only [lowerOkAt, hf, Bool.not_true, Bool.false_or, hv] at this
  simpa using (Ext.le_iff _ _).1 this

/-! ## the loup point -/

theorem pointOf_mem : ∀ {b : Box} {p : List ℚ}, pointOf b = some p → Box.Mem (castPt p) b
  | [], p, h => by
    simp only [pointOf, Option.some.injEq] at h
    subst h
    exact Box.mem_nil
  | .mk (.fin a) (.fin c) :: bs, p, h => by
    simp only [pointOf] at h
    split_ifs at h with hac
    simp only [Option.map_eq_some_iff] at h
    obtain ⟨ps, hps, rfl⟩ := h
    simp only [castPt, List.map_cons]
    refine Box.mem_cons.2 ⟨?_, pointOf_mem hps⟩
    rw [Itv.mem_mk]
    subst hac
    simp
  | .empty :: _, _, h => by simp [pointOf] at h
  | .mk .ninf _ :: _, _, h => by simp [pointOf] at h
  | .mk .pinf _ :: _, _, h => by simp [pointOf] at h
  | .mk (.fin _) .ninf :: _, _, h => by simp [pointOf] at h
  | .mk (.fin _) .pinf :: _, _, h => by simp [pointOf] at h

theorem witExact_sound {P : Problem} {loup : Ext} {p : List ℚ} (h : witExact P loup p = true) :
    Feasible P (castPt p) ∧ ∃ v, RealVal P.obj (castPt p) v ∧ ((v : ℝ) : EReal) ≤ loup.toE := by
  simp only [witExact, Bool.and_eq_true] at h
  refine ⟨feasQ_sound h.1, ?_⟩
  have h2 := h.2
  split at h2
  · rename_i v hv
    exact ⟨(v : ℝ), evalQ_real hv, by simpa using (Ext.le_iff _ _).1 h2⟩
  · cases h2

theorem itvVal_encl {f : Fn} {b : Box} {z : Itv} (h : itvVal f b = some z) {ρ : List ℝ} (hρ : Box.Mem ρ b)
    {v : ℝ} (hv : RealVal f ρ v) : v ∈ z := by
  unfold itvVal at h
  split at h
  · rename_i m hm
    split at h
    · rename_i z' hd
      simp only [Option.some.injEq] at h
      subst h
      obtain ⟨mr, hmr, hdr⟩ := hv
      obtain ⟨-, -, hrel⟩ := C02.root_encl hρ hmr hm
      rw [hdr, hd] at hrel
      cases hrel with
      | cons hx _ => exact hx
    · cases h
  · cases h

theorem specProved_sound {e : ℚ} {spec : String} {z : Itv} (h : specProved e spec z = true) {v : ℝ}
    (hv : v ∈ z) : SpecHolds (e : ℝ) spec v := by
  unfold specProved at h
  split_ifs at h with heq
  · simp only [Bool.and_eq_true] at h
    have := Itv.mem_of_subset h.1 hv
    rw [Itv.mem_mk] at this
    refine Or.inr (Or.inr (Or.inr (Or.inr ⟨heq, ?_⟩)))
    rw [abs_le]
    simp only [Ext.toE_fin, EReal.coe_le_coe_iff, Rat.cast_neg] at this
    exact this
  · rcases C05.signProved_sound h hv with h1 | h1 | h1 | h1
    · exact Or.inl h1
    · exact Or.inr (Or.inl h1)
    · exact Or.inr (Or.inr (Or.inl h1))
    · exact Or.inr (Or.inr (Or.inr (Or.inl h1)))

def WitOn (P : Problem) (loup : Ext) (ρ : List ℝ) : Prop :=
  Box.Mem ρ P.box ∧ (∀ c ∈ P.ctrs, ∀ v, RealVal c.1 ρ v → SpecHolds (P.epsH : ℝ) c.2 v) ∧
    ∀ v, RealVal P.obj ρ v → ((v : ℝ) : EReal) ≤ loup.toE

theorem witItv_sound {P : Problem} {loup : Ext} {b : Box} (h : witItv P loup b = true) {ρ : List ℝ}
    (hρ : Box.Mem ρ b) : WitOn P loup ρ := by
  simp only [witItv, Bool.and_eq_true, List.all_eq_true] at h
  obtain ⟨⟨⟨-, hsub⟩, hc⟩, ho⟩ := h
  refine ⟨Box.subset_sound hsub hρ, fun c hcm v hv => ?_, fun v hv => ?_⟩
  · have := hc c hcm
    split at this
    · rename_i z hz
      exact specProved_sound this (itvVal_encl hz hρ hv)
    · cases this
  · split at ho
    · rename_i lo hi hz
      have hm := itvVal_encl hz hρ hv
      exact le_trans hm.2 ((Ext.le_iff _ _).1 ho)
    · cases ho

/-- rigor mode, decidable part: every real point of the thin box is in the initial box and has `f ≤ loup` -/
theorem witRigor_sound {P : Problem} {loup : Ext} {b : Box} (h : witRigor P loup b = true) {ρ : List ℝ}
    (hρ : Box.Mem ρ b) : Box.Mem ρ P.box ∧ ∀ v, RealVal P.obj ρ v → ((v : ℝ) : EReal) ≤ loup.toE := by
  simp only [witRigor, Bool.and_eq_true] at h
  obtain ⟨⟨-, hsub⟩, ho⟩ := h
  refine ⟨Box.subset_sound hsub hρ, fun v hv => ?_⟩
  split at ho
  · rename_i lo hi hz
    exact le_trans (itvVal_encl hz hρ hv).2 ((Ext.le_iff _ _).1 ho)
  · cases ho

/-! ## the refuting checkers -/

theorem specRefuted_sound {e : ℚ} {rigor : Bool} {spec : String} {z : Itv}
    (h : specRefuted e rigor spec z = true) {v : ℝ} (hv : v ∈ z) :
    ¬ SpecHolds (if rigor then (0 : ℝ) else (e : ℝ)) spec v := by
  cases z with
  | empty => exact absurd hv (Itv.not_mem_empty v)
  | mk lo hi =>
    obtain ⟨hlo, hhi⟩ := (Itv.mem_mk ..).1 hv
    rintro (⟨rfl, hs⟩ | ⟨rfl, hs⟩ | ⟨rfl, hs⟩ | ⟨rfl, hs⟩ | ⟨rfl, hs⟩) <;>
      simp only [specRefuted, String.reduceEq, if_true, if_false] at h
    · have := Ext.fin_lt_real h hlo; rw [Rat.cast_zero] at this; exact not_le.2 this hs
    · have := Ext.fin_le_real h hlo; rw [Rat.cast_zero] at this; exact not_lt.2 this hs
    · have := Ext.real_lt_fin h hhi; rw [Rat.cast_zero] at this; exact not_le.2 this hs
    · have := Ext.real_le_fin h hhi; rw [Rat.cast_zero] at this; exact not_lt.2 this hs
    · obtain ⟨h1, h2⟩ := abs_le.1 hs
      cases rigor <;> simp only [Bool.false_eq_true, if_false, if_true, Bool.or_eq_true] at h h1 h2 <;>
        rcases h with h | h
      · have := Ext.fin_lt_real h hlo; linarith
      · have := Ext.real_lt_fin h hhi; rw [Rat.cast_neg] at this; linarith
      · have := Ext.fin_lt_real h hlo; rw [Rat.cast_zero] at this; linarith
      · have := Ext.real_lt_fin h hhi; rw [Rat.cast_zero] at this; linarith

theorem witBoxRefuted_sound {P : Problem} {rigor : Bool} {loup : Ext} {b : Box}
    (h : witBoxRefuted P rigor loup b = true) :
    Box.isEmpty b = true ∨ Box.subset b P.box = false ∨
    (∃ c ∈ P.ctrs, ∀ ρ, Box.Mem ρ b → ∀ v, RealVal c.1 ρ v →
      ¬ SpecHolds (if rigor then (0 : ℝ) else (P.epsH : ℝ)) c.2 v) ∨
    (∃ lo hi, itvVal P.obj b = some (.mk lo hi) ∧ Ext.le hi loup = false) := by
  simp only [witBoxRefuted, Bool.or_eq_true, Bool.not_eq_true', List.any_eq_true] at h
  rcases h with ((h | h) | ⟨c, hc, h⟩) | h
  · exact Or.inl h
  · exact Or.inr (Or.inl h)
  · refine Or.inr (Or.inr (Or.inl ⟨c, hc, fun ρ hρ v hv => ?_⟩))
    split at h
    · rename_i z hz
      exact specRefuted_sound h (itvVal_encl hz hρ hv)
    · cases h
  · refine Or.inr (Or.inr (Or.inr ?_))
    split at h
    · rename_i lo hi hz
      exact ⟨lo, hi, hz, by simpa using h⟩
    · cases h

/-- **a point refuted exactly is not a feasible real point**: it lies outside the box, or some constraint is defined
    at it (hence has THE value computed exactly) and violated -/
theorem infeasQ_sound {P : Problem} {p : List ℚ} (h : infeasQ P p = true) : ¬ Feasible P (castPt p) := by
  simp only [infeasQ, Bool.or_eq_true, Bool.not_eq_true', List.any_eq_true] at h
  rintro ⟨hbox, hctr⟩
  rcases h with h | ⟨c, hc, h⟩
  · rw [inBoxQ_iff.2 hbox] at h
    cases h
  · obtain ⟨w, hw, hs⟩ := hctr c hc
    split at h
    · rename_i v hv
      have : w = (v : ℝ) := RealVal.unique hw (evalQ_real hv)
      subst this
      rw [specSat_iff.2 hs] at h
      cases h
    · cases h

theorem witRefuted_sound {P : Problem} {loup : Ext} {p : List ℚ} (h : witRefuted P loup p = true) :
    ¬ (Feasible P (castPt p) ∧ ∃ v, RealVal P.obj (castPt p) v ∧ ((v : ℝ) : EReal) ≤ loup.toE) := by
  simp only [witRefuted, Bool.or_eq_true] at h
  rintro ⟨hf, w, hw, hle⟩
  rcases h with h | h
  · exact infeasQ_sound h hf
  · split at h
    · rename_i v hv
      have : w = (v : ℝ) := RealVal.unique hw (evalQ_real hv)
      subst this
      have h' : Ext.le (.fin v) loup = false := by simpa using h
      have : Ext.le (.fin v) loup = true := (Ext.le_iff _ _).2 (by simpa using hle)
      rw [h'] at this
      cases this
    · cases h

/-- the decision table of `witness`: which checker stands behind each verdict -/
theorem witness_spec {P : Problem} {R : Run} {res : Result} {w : Wit} (h : witness P R res = w) :
    match (generalizing := false) w with
    | .none => Ext.lt res.loup R.initLoup = false
    | .exact => Ext.lt res.loup R.initLoup = true ∧ ∃ p, pointOf res.lp = some p ∧ witExact P res.loup p = true
    | .interval => Ext.lt res.loup R.initLoup = true ∧ ∃ p, pointOf res.lp = some p ∧ witItv P res.loup res.lp = true
    | .rigorBox => Ext.lt res.loup R.initLoup = true ∧ pointOf res.lp = none ∧ R.rigor = true ∧
        witRigor P res.loup res.lp = true
    | .refuted => Ext.lt res.loup R.initLoup = true ∧
        match pointOf res.lp with
        | some p => witRefuted P res.loup p = true ∨ witUndefined P res.lp = true
        | none => R.rigor = false ∨ witBoxRefuted P true res.loup res.lp = true
    | .undecided => True := by
  subst h
  unfold witness
  cases hlt : Ext.lt res.loup R.initLoup with
  | false => rfl
  | true =>
    rw [Bool.not_true, if_neg Bool.false_ne_true]
    cases hp : pointOf res.lp with
    | some p =>
      dsimp only
      unfold witnessPoint
      split_ifs with h1 h2 h3 h4
      exacts [⟨rfl, p, rfl, h1⟩, ⟨rfl, Or.inl h2⟩, ⟨rfl, Or.inr h3⟩, ⟨rfl, p, rfl, h4⟩, trivial]
    | none =>
      dsimp only
      unfold witnessBox
      cases hr : R.rigor with
      | false => exact ⟨rfl, Or.inl rfl⟩
      | true =>
        rw [Bool.not_true, if_neg Bool.false_ne_true]
        split_ifs with h2 h3
        exacts [⟨rfl, Or.inr h2⟩, ⟨rfl, rfl, rfl, h3⟩, trivial]

/-! ## status -/

/-- the precision test of the optimizer, on the exact values of the doubles -/
def Precision (relEps absEps : ℝ) (uplo loup : Ext) : Prop :=
  ∃ u l : ℚ, uplo = .fin u ∧ loup = .fin l ∧
    ((l : ℝ) - u ≤ absEps ∨ (l = 0 ∧ (0 : ℝ) ≤ u) ∨ (l ≠ 0 ∧ u ≠ 0 ∧ (l : ℝ) - u ≤ relEps * |(u : ℝ)|))

theorem precOk_sound {rel abs : ℚ} {uplo loup : Ext} (h : precOk rel abs uplo loup = true) :
    Precision (rel : ℝ) (abs : ℝ) uplo loup := by
  unfold precOk at h
  split at h
  · rename_i u l
    refine ⟨u, l, rfl, rfl, ?_⟩
    simp only [Bool.or_eq_true, decide_eq_true_eq] at h
    rcases h with h | h
    · exact Or.inl (by exact_mod_cast h)
    · by_cases hl : l = 0
      · rw [if_pos hl] at h
        exact Or.inr (Or.inl ⟨hl, by exact_mod_cast of_decide_eq_true h⟩)
      · rw [if_neg hl] at h
        simp only [Bool.and_eq_true, decide_eq_true_eq] at h
        refine Or.inr (Or.inr ⟨hl, h.1, ?_⟩)
        have h2 : ((l - u : ℚ) : ℝ) ≤ ((rel * (if u < 0 then -u else u) : ℚ) : ℝ) := by exact_mod_cast h.2
        have habs : ((if u < 0 then -u else u : ℚ) : ℝ) = |(u : ℝ)| := by
          by_cases hu : u < 0
          · rw [if_pos hu, abs_of_neg (by exact_mod_cast hu)]; push_cast; ring
          · rw [if_neg hu, abs_of_nonneg (by exact_mod_cast not_lt.1 hu)]
        rw [Rat.cast_mul, habs] at h2
        push_cast at h2
        exact h2
  · cases h

theorem statusOk_success {R : Run} {res : Result} (h : statusOk R res = true) (hs : res.status = "SUCCESS") :
    Precision (R.relEps : ℝ) (R.absEps : ℝ) res.uplo res.loup ∧ res.loup.toE < R.initLoup.toE := by
  simp only [statusOk, hs, if_true, Bool.and_eq_true] at h
  exact ⟨precOk_sound h.1, (Ext.lt_iff _ _).1 h.2⟩

theorem statusOk_nofeasible {R : Run} {res : Result} (h : statusOk R res = true)
    (hs : res.status = "INFEASIBLE" ∨ res.status = "NO_FEASIBLE_FOUND") : res.loup = R.initLoup := by
  unfold statusOk at h
  rcases hs with hs | hs <;> simpa [hs] using h

theorem statusOk_cases {R : Run} {res : Result} (h : statusOk R res = true) :
    res.status = "SUCCESS" ∨ res.status = "INFEASIBLE" ∨ res.status = "NO_FEASIBLE_FOUND" ∨
      res.status = "UNBOUNDED_OBJ" ∨ res.status = "TIME_OUT" ∨ res.status = "UNREACHED_PREC" := by
  unfold statusOk at h
  split_ifs at h with h1 h2
  · exact Or.inl h1
  · rcases h2 with h2 | h2
    · exact Or.inr (Or.inl h2)
    · exact Or.inr (Or.inr (Or.inl h2))
  · have := of_decide_eq_true h
    rcases this with h3 | h3 | h3
    · exact Or.inr (Or.inr (Or.inr (Or.inl h3)))
    · exact Or.inr (Or.inr (Or.inr (Or.inr (Or.inl h3))))
    · exact Or.inr (Or.inr (Or.inr (Or.inr (Or.inr h3))))

/-- INFEASIBLE accepted ⇒ no checked point is feasible with a defined objective value below the initial loup
    (`initLoup = +∞` when none was given: then the conclusion `⊤ ≤ v` is absurd, i.e. there is no such point) -/
theorem infeasOk_sound {P : Problem} {R : Run} {res : Result} {pts : List (List ℚ)}
    (h : infeasOk P R res pts = true) (hs : res.status = "INFEASIBLE") {p : List ℚ} (hp : p ∈ pts)
    (hf : feasQ P p = true) {v : ℚ} (hv : evalQ P.obj p = some v) :
    R.initLoup.toE ≤ (((v : ℚ) : ℝ) : EReal) := by
  simp only [infeasOk, hs, beq_self_eq_true, Bool.not_true, Bool.false_or, List.all_eq_true] at h
  have := h p hp
  simp only [refutesInfeasible, hf, Bool.true_and, hv, Bool.not_eq_true'] at this
  have h2 : ¬ (Ext.lt (.fin v) R.initLoup = true) := by simp [this]
  rw [Ext.lt_iff] at h2
  simpa using not_lt.1 h2

/-! ## lower-bound certificates -/

theorem polyOf_sound {B n : ℕ} {f : Fn} {q : Poly} (h : polyOf B f n = some q) {ρ : List ℝ}
    (hρ : ρ.length = n) {v : ℝ} (hv : RealVal f ρ v) : v = Poly.ev q (valOf ρ) := by
  unfold polyOf at h
  split at h
  · rename_i m hm
    split at h
    · rename_i F hd
      split_ifs at h with hden
      simp only [Option.some.injEq] at h
      subst h
      obtain ⟨mr, hmr, hdr⟩ := hv
      obtain ⟨-, -, hrel⟩ := nf_real hρ hm hmr
      rw [hdr, hd] at hrel
      cases hrel with
      | cons hx _ =>
        obtain ⟨-, hx⟩ := hx
        rw [hx, hden, Poly.ev_one, div_one]
    · cases h
  · cases h

theorem valOf_mem {ρ : List ℝ} {b : Box} (hρ : Box.Mem ρ b) {k : ℕ} {I : Itv} (hI : b[k]? = some I) :
    valOf ρ k ∈ I := by
  obtain ⟨hl, h⟩ := Box.mem_iff.1 hρ
  have hk : k < b.length := (List.getElem?_eq_some_iff.1 hI).1
  have hk' : k < ρ.length := hl ▸ hk
  have : ρ[k]? = some ρ[k] := List.getElem?_eq_getElem hk'
  rw [valOf_getElem? this]
  exact h k _ _ this hI

theorem spec_leq_lt {e v : ℝ} {s : String} (hs : s = "leq" ∨ s = "lt") (h : SpecHolds e s v) : v ≤ 0 := by
  rcases hs with rfl | rfl <;>
    simp only [SpecHolds, String.reduceEq, false_and, true_and, false_or, or_false] at h
  · exact h
  · exact h.le

theorem spec_geq_gt {e v : ℝ} {s : String} (hs : s = "geq" ∨ s = "gt") (h : SpecHolds e s v) : 0 ≤ v := by
  rcases hs with rfl | rfl <;>
    simp only [SpecHolds, String.reduceEq, false_and, true_and, false_or, or_false] at h
  · exact h
  · exact h.le

theorem spec_eq {e v : ℝ} {s : String} (hs : s = "eq") (h : SpecHolds e s v) : |v| ≤ e := by
  subst hs
  simpa only [SpecHolds, String.reduceEq, false_and, true_and, false_or] using h

theorem ctr_poly_spec {B : ℕ} {P : Problem} {ρ : List ℝ} (hf : Feasible P ρ) {j : ℕ} {c : Fn × String}
    (hc : P.ctrs[j]? = some c) {q : Poly} (hq : polyOf B c.1 P.box.length = some q) :
    SpecHolds (P.epsH : ℝ) c.2 (Poly.ev q (valOf ρ)) := by
  obtain ⟨v, hv, hs⟩ := hf.2 c (List.mem_of_getElem? hc)
  rwa [← polyOf_sound hq hf.1.length_eq hv]

theorem slackPoly_nonneg {B : ℕ} {P : Problem} {s : Slack} {sp : Poly}
    (h : slackPoly B P P.box.length s = some sp) {ρ : List ℝ} (hf : Feasible P ρ) :
    0 ≤ Poly.ev sp (valOf ρ) := by
  cases s with
  | lo k =>
    simp only [slackPoly] at h
    split at h
    · rename_i l hi hI
      simp only [Option.some.injEq] at h
      subst h
      have := (valOf_mem hf.1 hI).1
      simp only [Ext.toE_fin, EReal.coe_le_coe_iff] at this
      rw [Poly.ev_sub, Poly.ev_var, Poly.ev_const]
      linarith
    · cases h
  | hi k =>
    simp only [slackPoly] at h
    split at h
    · rename_i lo u hI
      simp only [Option.some.injEq] at h
      subst h
      have := (valOf_mem hf.1 hI).2
      simp only [Ext.toE_fin, EReal.coe_le_coe_iff] at this
      rw [Poly.ev_sub, Poly.ev_var, Poly.ev_const]
      linarith
    · cases h
  | ctr j =>
    simp only [slackPoly] at h
    split at h
    · rename_i c hc
      split_ifs at h with h1 h2
      · simp only [Option.map_eq_some_iff] at h
        obtain ⟨q, hq, rfl⟩ := h
        rw [Poly.ev_neg]
        linarith [spec_leq_lt h1 (ctr_poly_spec hf hc hq)]
      · exact spec_geq_gt h2 (ctr_poly_spec hf hc h)
    · cases h
  | eqP j =>
    simp only [slackPoly] at h
    split at h
    · rename_i c hc
      split_ifs at h with h1
      simp only [Option.map_eq_some_iff] at h
      obtain ⟨q, hq, rfl⟩ := h
      rw [Poly.ev_sub, Poly.ev_const]
      linarith [(abs_le.1 (spec_eq h1 (ctr_poly_spec hf hc hq))).2]
    · cases h
  | eqM j =>
    simp only [slackPoly] at h
    split at h
    · rename_i c hc
      split_ifs at h with h1
      simp only [Option.map_eq_some_iff] at h
      obtain ⟨q, hq, rfl⟩ := h
      rw [Poly.ev_add, Poly.ev_const]
      linarith [(abs_le.1 (spec_eq h1 (ctr_poly_spec hf hc hq))).1]
    · cases h

theorem sosPoly_nonneg {B n : ℕ} (val : ℕ → ℝ) : ∀ {l : List (ℚ × Fn)} {s : Poly},
    sosPoly B n l = some s → 0 ≤ Poly.ev s val
  | [], s, h => by
    simp only [sosPoly, Option.some.injEq] at h
    subst h
    simp [Poly.ev]
  | (w, q) :: rest, s, h => by
    simp only [sosPoly] at h
    split_ifs at h with hw
    split at h
    · rename_i qp r hq hr
      simp only [Option.some.injEq] at h
      subst h
      rw [Poly.ev_add, Poly.ev_mul, Poly.ev_mul, Poly.ev_const]
      exact add_nonneg (mul_nonneg (Rat.cast_nonneg.2 (not_lt.1 hw)) (mul_self_nonneg _)) (sosPoly_nonneg val hr)
    · cases h

theorem linPoly_nonneg {B : ℕ} {P : Problem} {ρ : List ℝ} (hf : Feasible P ρ) :
    ∀ {l : List (ℚ × Slack)} {s : Poly}, linPoly B P P.box.length l = some s → 0 ≤ Poly.ev s (valOf ρ)
  | [], s, h => by
    simp only [linPoly, Option.some.injEq] at h
    subst h
    simp [Poly.ev]
  | (w, sl) :: rest, s, h => by
    simp only [linPoly] at h
    split_ifs at h with hw
    split at h
    · rename_i sp r hs hr
      simp only [Option.some.injEq] at h
      subst h
      rw [Poly.ev_add, Poly.ev_mul, Poly.ev_const]
      exact add_nonneg (mul_nonneg (Rat.cast_nonneg.2 (not_lt.1 hw)) (slackPoly_nonneg hs hf)) (linPoly_nonneg hf hr)
    · cases h

/-- **Soundness of the lower-bound certificate.**  If the checker accepts `f ≡ c + Σ w q² + Σ λ s` then at EVERY
    feasible real point of the box at which the objective is defined, its value is at least `c`. -/
theorem Cert.okB_sound {B : ℕ} {P : Problem} {C : Cert} (h : C.okB B P = true) {ρ : List ℝ}
    (hf : Feasible P ρ) {v : ℝ} (hv : RealVal P.obj ρ v) : (C.c : ℝ) ≤ v := by
  have hlen : ρ.length = P.box.length := hf.1.length_eq
  unfold Cert.okB at h
  split at h
  · rename_i t m ht hm
    split at h
    · rename_i F hd
      simp only [beq_iff_eq] at h
      obtain ⟨mr, hmr, hdr⟩ := hv
      obtain ⟨-, -, hrel⟩ := nf_real hlen hm hmr
      rw [hdr, hd] at hrel
      have hF : RF.Rep (valOf ρ) v F := by
        cases hrel with
        | cons hx _ => exact hx
      have ht' : RF.Rep (valOf ρ) (Poly.ev t (valOf ρ)) ⟨t, Poly.one⟩ := by
        refine ⟨by simp [Poly.ev_one], by simp [Poly.ev_one]⟩
      rw [RF.eqv_sound h hF ht']
      unfold Cert.poly at ht
      split at ht
      · rename_i s l hs hl
        simp only [Option.some.injEq] at ht
        subst ht
        rw [Poly.ev_add, Poly.ev_add, Poly.ev_const]
        have := sosPoly_nonneg (valOf ρ) hs
        have := linPoly_nonneg hf hl
        linarith
      · cases ht
    · cases h
  · cases h

/-! ## resumed searches -/

theorem carriedOk_last : ∀ {saved : List Saved} {res : Result}, carriedOk saved res = true →
    ∀ s, saved.getLast? = some s → res.loup.toE ≤ s.loup.toE ∧ (res.loup = s.loup → res.lp = s.lp)
  | [], _, _, s, hs => by simp at hs
  | [s0], res, h, s, hs => by
    simp only [List.getLast?_singleton, Option.some.injEq] at hs
    subst hs
    simp only [carriedOk, Bool.and_eq_true, Bool.or_eq_true, Bool.not_eq_true', beq_eq_false_iff_ne,
      beq_iff_eq] at h
    exact ⟨(Ext.le_iff _ _).1 h.1, fun e => h.2.resolve_left (fun hne => hne e)⟩
  | s0 :: t :: rest, res, h, s, hs => by
    simp only [carriedOk, Bool.and_eq_true] at h
    rw [List.getLast?_cons_cons] at hs
    exact carriedOk_last h.2 s hs

theorem carriedOk_all : ∀ {saved : List Saved} {res : Result}, carriedOk saved res = true →
    ∀ s ∈ saved, res.loup.toE ≤ s.loup.toE
  | [], _, _, s, hs => by cases hs
  | [s0], res, h, s, hs => by
    simp only [List.mem_singleton] at hs
    subst hs
    simp only [carriedOk, Bool.and_eq_true] at h
    exact (Ext.le_iff _ _).1 h.1
  | s0 :: t :: rest, res, h, s, hs => by
    simp only [carriedOk, Bool.and_eq_true] at h
    have ih := carriedOk_all h.2
    rcases List.mem_cons.1 hs with rfl | hs
    · exact le_trans (ih t (List.mem_cons_self ..)) ((Ext.le_iff _ _).1 h.1.1)
    · exact ih s hs

end Ibex.Optim
