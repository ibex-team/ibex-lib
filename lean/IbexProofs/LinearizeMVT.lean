/-
  C20 — slope enclosures from derivative enclosures: bridge between the list-based statements of
  IbexProofs/Linearize.lean and the mean value theorem telescoped over the coordinates (C08.hansen_slope).
-/
import IbexProofs.Linearize
import IbexProofs.Props.C08

namespace Ibex
namespace Lin
open List

theorem dotR_ofFn : ∀ {n : ℕ} (u w : Fin n → ℝ), dotR (ofFn u) (ofFn w) = ∑ k, u k * w k
  | 0, _, _ => by simp
  | n + 1, u, w => by
    rw [ofFn_succ, ofFn_succ, dotR_cons, Fin.sum_univ_succ, dotR_ofFn]

theorem ofFn_getD {α : Type} (l : List α) (d : α) {n : ℕ} (h : l.length = n) : ofFn (fun k : Fin n => l.getD k d) = l := by
  apply ext_getElem
  · simp [h]
  · intro i h1 h2
    simp [List.getD_eq_getElem?_getD, h2]

theorem castL_getD : ∀ (c : List ℚ) (k : ℕ), (castL c).getD k 0 = ((c.getD k 0 : ℚ) : ℝ)
  | [], k => by simp
  | a :: as, 0 => by simp
  | a :: as, k + 1 => by simpa using castL_getD as k

/-- the list form of `C08.hansen_slope_ex`: a value enclosure at `c` and enclosures of the partial derivatives on the
    Hansen segments give `SlopeEncl` (stated for the library's contract in `C20.slopeEncl_of_derivatives`) -/
theorem SlopeEncl.of_hasDerivAt {n : ℕ} (g : List ℝ → ℝ) (box : Box) (c : List ℚ) (v : Itv) (G : List Itv)
    (hc : c.length = n) (hG : G.length = n) (hbox : box.length = n) (hval : g (castL c) ∈ v)
    (hder : ∀ x : Fin n → ℝ, BoxMem (ofFn x) box → ∀ (k : Fin n), ∀ t ∈ Set.uIcc ((c.getD k 0 : ℚ) : ℝ) (x k), ∃ D : ℝ,
      HasDerivAt (fun t => g (ofFn (Function.update (C08.mix (fun i : Fin n => ((c.getD i 0 : ℚ) : ℝ)) x k) k t))) D t ∧
        D ∈ G.getD k Itv.empty) :
    SlopeEncl g box c v G := by
  refine ⟨hval, fun xl hx => ?_⟩
  have hxl : xl.length = n := by rw [hx.length_eq, hbox]
  let x : Fin n → ℝ := fun k => xl.getD k 0
  let x0 : Fin n → ℝ := fun i => ((c.getD i 0 : ℚ) : ℝ)
  have hxe : ofFn x = xl := ofFn_getD xl 0 hxl
  have hce : ofFn x0 = castL c := by
    have : ofFn (fun k : Fin n => (castL c).getD k 0) = castL c := ofFn_getD (castL c) 0 (by simp [hc])
    rw [← this]
    exact congrArg ofFn (funext fun k => (castL_getD c k).symm)
  obtain ⟨s, hs, heq⟩ := C08.hansen_slope_ex (f := fun w => g (ofFn w)) (H := fun k : Fin n => G.getD k Itv.empty)
    (hder x (by rw [hxe]; exact hx))
  refine ⟨ofFn s, ?_, ?_⟩
  · rw [forall₂_iff_get]
    refine ⟨by simp [hG], fun i h1 h2 => ?_⟩
    have hi : i < n := by simpa using h1
    have := hs ⟨i, hi⟩
    simpa [List.getD_eq_getElem?_getD, h2] using this
  · have hsub : subR xl (castL c) = ofFn (fun k => x k - x0 k) := by
      rw [← hxe, ← hce]
      apply ext_getElem
      · simp [subR]
      · intro i h1 h2
        simp [subR]
    rw [hsub, dotR_ofFn, ← hxe, ← hce]
    exact heq

end Lin
end Ibex
