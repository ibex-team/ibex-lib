/-
  C18 (first half) — codec lemmas for the COV file format model (`IbexModel/Cov.lean`).
  For every field / layer parser `p` with encoder `enc`, from the fixed-width fields up to the layers:
    Sound    p enc      : p bs = ok (a, r) → bs = enc a ++ r          (what is accepted is the encoding of what is returned)
    Complete p enc wf   : wf a → p (enc a ++ r) = ok (a, r)           (well-formed content is read back identically)
    Stable   p          : p bs = ok (a, r) → p (bs ++ ext) = ok (a, r ++ ext)   (a reader only looks at a prefix)
  and for the whole file `decode_sound`, `decode_complete`, `stable_decode`, which `Props/C18.lean` restates.
  No Mathlib. No bound on sizes (induction on lists / counts).
-/
import IbexModel.Cov

namespace Ibex.Cov
open P

def Sound (p : P α) (enc : α → Bytes) : Prop :=
  ∀ bs a r, p bs = .ok (a, r) → bs = enc a ++ r

def Complete (p : P α) (enc : α → Bytes) (wf : α → Prop) : Prop :=
  ∀ a r, wf a → p (enc a ++ r) = .ok (a, r)

/-! ## the parser monad -/

theorem pure_apply (a : α) (bs : Bytes) : (pure a : P α) bs = .ok (a, bs) := rfl

theorem bind_apply (p : P α) (f : α → P β) (bs : Bytes) :
    (p >>= f) bs = match p bs with
      | .error e => .error e
      | .ok (a, r) => f a r := rfl

theorem bind_ok {p : P α} {f : α → P β} {bs : Bytes} {b : β} {r : Bytes} :
    (p >>= f) bs = .ok (b, r) ↔ ∃ a r', p bs = .ok (a, r') ∧ f a r' = .ok (b, r) := by
  rw [bind_apply]
  cases h : p bs with
  | error e => simp
  | ok x =>
    obtain ⟨a, r'⟩ := x
    constructor
    · intro h2; exact ⟨a, r', rfl, h2⟩
    · rintro ⟨a2, r2, h1, h2⟩
      simp only [Except.ok.injEq, Prod.mk.injEq] at h1
      obtain ⟨rfl, rfl⟩ := h1
      exact h2

theorem bind_of_ok {p : P α} {f : α → P β} {bs : Bytes} {a : α} {r' : Bytes}
    (h : p bs = .ok (a, r')) : (p >>= f) bs = f a r' := by
  rw [bind_apply, h]

theorem pure_ok {a b : α} {bs r : Bytes} : (pure a : P α) bs = .ok (b, r) ↔ a = b ∧ bs = r := by
  rw [pure_apply]; simp

theorem check_ok {c : Bool} {e : CovErr} {bs r : Bytes} {u : Unit} :
    check c e bs = .ok (u, r) ↔ c = true ∧ bs = r := by
  unfold check; cases c <;> simp

theorem check_true {e : CovErr} (bs : Bytes) : check true e bs = .ok ((), bs) := rfl

/-! ## fixed-width little-endian fields -/

theorem splitN_some {k : Nat} {bs h r : Bytes} (hs : splitN k bs = some (h, r)) :
    bs = h ++ r ∧ h.length = k := by
  induction k generalizing bs h r with
  | zero => simp [splitN] at hs; obtain ⟨rfl, rfl⟩ := hs; simp
  | succ k ih =>
    cases bs with
    | nil => simp [splitN] at hs
    | cons b bs =>
      simp only [splitN] at hs
      cases h2 : splitN k bs with
      | none => simp [h2] at hs
      | some x =>
        obtain ⟨h', r'⟩ := x
        simp [h2] at hs
        obtain ⟨rfl, rfl⟩ := hs
        obtain ⟨e1, e2⟩ := ih h2
        simp [e1, e2]

theorem splitN_append (h r : Bytes) : splitN h.length (h ++ r) = some (h, r) := by
  induction h with
  | nil => simp [splitN]
  | cons b h ih => simp [splitN, ih]

theorem leBytes_length (k x : Nat) : (leBytes k x).length = k := by
  induction k generalizing x with
  | zero => rfl
  | succ k ih => simp [leBytes, ih]

theorem leVal_lt (bs : Bytes) : leVal bs < 256 ^ bs.length := by
  induction bs with
  | nil => simp [leVal]
  | cons b bs ih =>
    simp only [leVal, List.length_cons, Nat.pow_succ]
    have := b.toNat_lt
    omega

theorem leBytes_leVal (bs : Bytes) : leBytes bs.length (leVal bs) = bs := by
  induction bs with
  | nil => rfl
  | cons b bs ih =>
    have hb := b.toNat_lt
    simp only [List.length_cons, leBytes, leVal]
    have h1 : (b.toNat + 256 * leVal bs) % 256 = b.toNat := by omega
    have h2 : (b.toNat + 256 * leVal bs) / 256 = leVal bs := by omega
    rw [h1, h2, ih, UInt8.ofNat_toNat]

theorem leVal_leBytes {k x : Nat} (h : x < 256 ^ k) : leVal (leBytes k x) = x := by
  induction k generalizing x with
  | zero => simp at h; simp [leBytes, leVal, h]
  | succ k ih =>
    simp only [leBytes, leVal]
    have h' : x / 256 < 256 ^ k := by
      rw [Nat.pow_succ] at h
      exact Nat.div_lt_of_lt_mul (by rw [Nat.mul_comm]; exact h)
    rw [ih h']
    have : (UInt8.ofNat (x % 256)).toNat = x % 256 := by
      simp
    rw [this]; omega

theorem getU32_ok {bs r : Bytes} {x : Nat} :
    getU32 bs = .ok (x, r) ↔ ∃ h, splitN 4 bs = some (h, r) ∧ leVal h = x := by
  unfold getU32
  cases splitN 4 bs with
  | none => simp
  | some y =>
    obtain ⟨hd, tl⟩ := y
    constructor
    · intro h; cases h; exact ⟨hd, rfl, rfl⟩
    · rintro ⟨_, e, rfl⟩; cases e; rfl

theorem getF64_ok {bs r : Bytes} {x : UInt64} :
    getF64 bs = .ok (x, r) ↔ ∃ h, splitN 8 bs = some (h, r) ∧ UInt64.ofNat (leVal h) = x := by
  unfold getF64
  cases splitN 8 bs with
  | none => simp
  | some y =>
    obtain ⟨hd, tl⟩ := y
    constructor
    · intro h; cases h; exact ⟨hd, rfl, rfl⟩
    · rintro ⟨_, e, rfl⟩; cases e; rfl

theorem getU32_sound : Sound getU32 putU32 := by
  intro bs x r h
  obtain ⟨hd, hs, rfl⟩ := getU32_ok.1 h
  obtain ⟨e1, e2⟩ := splitN_some hs
  rw [e1, putU32, ← e2, leBytes_leVal]

theorem getU32_complete : Complete getU32 putU32 (fun x => x < u32) := fun x r hx =>
  getU32_ok.2 ⟨_, leBytes_length 4 x ▸ splitN_append (putU32 x) r, leVal_leBytes hx⟩

theorem getU32_lt {bs r : Bytes} {x : Nat} (h : getU32 bs = .ok (x, r)) : x < u32 := by
  obtain ⟨hd, hs, rfl⟩ := getU32_ok.1 h
  have := leVal_lt hd
  rwa [(splitN_some hs).2] at this

theorem getF64_sound : Sound getF64 putF64 := by
  intro bs x r h
  obtain ⟨hd, hs, rfl⟩ := getF64_ok.1 h
  obtain ⟨e1, e2⟩ := splitN_some hs
  have hlt := leVal_lt hd
  rw [e2] at hlt
  rw [e1, putF64, UInt64.toNat_ofNat', Nat.mod_eq_of_lt hlt, ← e2, leBytes_leVal]

theorem getF64_complete : Complete getF64 putF64 (fun _ => True) := fun x r _ =>
  getF64_ok.2 ⟨_, leBytes_length 8 _ ▸ splitN_append (putF64 x) r,
    by rw [putF64, leVal_leBytes x.toNat_lt, UInt64.ofNat_toNat]⟩

/-! ## C strings -/

theorem getName_sound : Sound getName putName := by
  intro bs
  induction bs with
  | nil => intro s r h; simp [getName] at h
  | cons b bs ih =>
    intro s r h
    simp only [getName] at h
    by_cases hb : b = 0
    · simp [hb] at h
      obtain ⟨rfl, rfl⟩ := h
      simp [putName, hb]
    · simp only [hb, if_false] at h
      cases h2 : getName bs with
      | error e => simp [h2] at h
      | ok x =>
        obtain ⟨s', r'⟩ := x
        simp [h2] at h
        obtain ⟨rfl, rfl⟩ := h
        have := ih s' r' h2
        simp [putName] at this ⊢
        exact this

theorem getName_complete : Complete getName putName (fun s => nameOk s = true) := by
  intro s
  induction s with
  | nil => intro r _; simp [putName, getName]
  | cons b s ih =>
    intro r h
    simp only [nameOk, List.contains_cons, Bool.not_eq_true', Bool.or_eq_false_iff] at h
    obtain ⟨h1, h2⟩ := h
    have hb : b ≠ 0 := by
      intro hb; subst hb; simp at h1
    have ih' := ih r (by simp only [nameOk, h2]; rfl)
    simp only [putName, List.cons_append, getName, hb, if_false] at ih' ⊢
    rw [ih']

/-! ## repetition -/

theorem rep_sound {p : P α} {enc : α → Bytes} (hp : Sound p enc) :
    ∀ (k : Nat) (bs : Bytes) (as : List α) (r : Bytes), rep p k bs = .ok (as, r) →
      bs = as.flatMap enc ++ r ∧ as.length = k := by
  intro k
  induction k with
  | zero => intro bs as r h; simp [rep] at h; obtain ⟨rfl, rfl⟩ := h; simp
  | succ k ih =>
    intro bs as r h
    simp only [rep] at h
    cases h1 : p bs with
    | error e => simp [h1] at h
    | ok x =>
      obtain ⟨a, r1⟩ := x
      simp only [h1] at h
      cases h2 : rep p k r1 with
      | error e => simp [h2] at h
      | ok y =>
        obtain ⟨as', r2⟩ := y
        simp [h2] at h
        obtain ⟨rfl, rfl⟩ := h
        obtain ⟨e1, e2⟩ := ih r1 as' r2 h2
        have e0 := hp bs a r1 h1
        simp [e0, e1, e2]

theorem rep_complete {p : P α} {enc : α → Bytes} {wf : α → Prop} (hp : Complete p enc wf) :
    ∀ (as : List α) (r : Bytes), (∀ a ∈ as, wf a) → rep p as.length (as.flatMap enc ++ r) = .ok (as, r) := by
  intro as
  induction as with
  | nil => intro r _; simp [rep]
  | cons a as ih =>
    intro r h
    simp only [List.length_cons, rep, List.flatMap_cons, List.append_assoc]
    rw [hp a _ (h a (by simp))]
    simp only
    rw [ih r (fun b hb => h b (by simp [hb]))]

theorem rep_complete' {p : P α} {enc : α → Bytes} {wf : α → Prop} (hp : Complete p enc wf)
    {k : Nat} (as : List α) (r : Bytes) (hk : as.length = k) (h : ∀ a ∈ as, wf a) :
    rep p k (as.flatMap enc ++ r) = .ok (as, r) := by
  subst hk; exact rep_complete hp as r h

/-! ## intervals and boxes -/

theorem getItv_sound : Sound getItv encItv := by
  intro bs a r h
  simp only [getItv, bind_ok, pure_ok] at h
  obtain ⟨lo, r1, h1, hi, r2, h2, rfl, rfl⟩ := h
  rw [getF64_sound _ _ _ h1, getF64_sound _ _ _ h2]
  simp only [encItv, List.append_assoc]

theorem getItv_complete : Complete getItv encItv (fun _ => True) := by
  intro a r _
  simp only [getItv, encItv, List.append_assoc]
  rw [bind_of_ok (getF64_complete _ _ trivial), bind_of_ok (getF64_complete _ _ trivial)]
  rfl

theorem getBox_sound (n : Nat) : Sound (getBox n) encBox := by
  intro bs b r h
  exact (rep_sound getItv_sound n bs b r h).1

theorem getBox_length {n : Nat} {bs r : Bytes} {b : RawBox} (h : getBox n bs = .ok (b, r)) : b.length = n :=
  (rep_sound getItv_sound n bs b r h).2

theorem getBox_complete (n : Nat) : Complete (getBox n) encBox (fun b => b.length = n) := by
  intro b r h
  exact rep_complete' getItv_complete b r h (fun _ _ => trivial)

/-! ## layers -/

theorem getLCov_sound : Sound getLCov LCov.enc := by
  intro bs a r h
  simp only [getLCov, bind_ok, pure_ok] at h
  obtain ⟨n, r1, h1, rfl, rfl⟩ := h
  exact getU32_sound _ _ _ h1

theorem getLCov_complete : Complete getLCov LCov.enc (fun l => l.n < u32) := by
  intro a r h
  simp only [getLCov, LCov.enc]
  rw [bind_of_ok (getU32_complete _ _ h)]
  rfl

theorem getLList_sound (n : Nat) : Sound (getLList n) LList.enc := by
  intro bs a r h
  simp only [getLList, bind_ok, pure_ok] at h
  obtain ⟨k, r1, h1, bx, r2, h2, rfl, rfl⟩ := h
  obtain ⟨e1, rfl⟩ := rep_sound (getBox_sound n) k r1 bx _ h2
  rw [getU32_sound _ _ _ h1, e1]
  simp only [LList.enc, List.append_assoc]

theorem getLList_complete (n : Nat) : Complete (getLList n) LList.enc (fun l => l.wf n = true) := by
  intro a r h
  simp only [LList.wf, Bool.and_eq_true, decide_eq_true_eq, List.all_eq_true, beq_iff_eq] at h
  simp only [getLList, LList.enc, List.append_assoc]
  rw [bind_of_ok (getU32_complete _ _ h.1), bind_of_ok (rep_complete (getBox_complete n) _ _ h.2)]
  rfl

theorem rep_u32_complete {k : Nat} (l : List Nat) (r : Bytes) (hk : l.length = k) (h : ∀ a ∈ l, a < u32) :
    rep getU32 k (l.flatMap putU32 ++ r) = .ok (l, r) :=
  rep_complete' getU32_complete l r hk h

theorem getLIU_sound (size : Nat) : Sound (getLIU size) LIU.enc := by
  intro bs a r h
  simp only [getLIU, bind_ok, pure_ok, check_ok] at h
  obtain ⟨k, r1, h1, idx, r2, h2, u, r3, ⟨_, rfl⟩, rfl, rfl⟩ := h
  obtain ⟨e1, rfl⟩ := rep_sound getU32_sound k r1 idx _ h2
  rw [getU32_sound _ _ _ h1, e1]
  simp only [LIU.enc, List.append_assoc]

theorem getLIU_complete (size : Nat) (hsize : size < u32) :
    Complete (getLIU size) LIU.enc (fun l => l.wf size = true) := by
  intro a r h
  simp only [LIU.wf, Bool.and_eq_true, decide_eq_true_eq] at h
  obtain ⟨hlen, hok⟩ := h
  have hok' := hok
  simp only [LIU.ok, Bool.and_eq_true, List.all_eq_true, decide_eq_true_eq] at hok'
  simp only [getLIU, LIU.enc, List.append_assoc]
  rw [bind_of_ok (getU32_complete _ _ hlen),
      bind_of_ok (rep_u32_complete _ _ rfl (fun i hi => Nat.lt_trans (hok'.2 i hi) hsize))]
  have : LIU.ok size { inner := a.inner } = true := hok
  rw [this, bind_of_ok (check_true _)]
  rfl

theorem getLIBU_sound (size : Nat) (inner : List Nat) : Sound (getLIBU size inner) LIBU.enc := by
  intro bs a r h
  simp only [getLIBU, bind_ok, pure_ok, check_ok] at h
  obtain ⟨bt, r0, h0, k, r1, h1, idx, r2, h2, u, r3, ⟨_, rfl⟩, u', r4, ⟨_, rfl⟩, rfl, rfl⟩ := h
  obtain ⟨e1, rfl⟩ := rep_sound getU32_sound k r1 idx _ h2
  rw [getU32_sound _ _ _ h0, getU32_sound _ _ _ h1, e1]
  simp only [LIBU.enc, List.append_assoc]

theorem getLIBU_complete (size : Nat) (inner : List Nat) (hsize : size < u32) :
    Complete (getLIBU size inner) LIBU.enc (fun l => l.wf size inner = true) := by
  intro a r h
  simp only [LIBU.wf, Bool.and_eq_true, decide_eq_true_eq] at h
  obtain ⟨⟨hbt, hlen⟩, hok⟩ := h
  have hok' := hok
  simp only [LIBU.okIdx, Bool.and_eq_true, List.all_eq_true, decide_eq_true_eq] at hok'
  simp only [getLIBU, LIBU.enc, List.append_assoc]
  rw [bind_of_ok (getU32_complete _ _ (by unfold u32; omega)), bind_of_ok (getU32_complete _ _ hlen),
      bind_of_ok (rep_u32_complete _ _ rfl (fun i hi => Nat.lt_trans (hok'.2 i hi).1 hsize))]
  have h1 : decide (a.btype ≤ 1) = true := by simpa using hbt
  have h2 : LIBU.okIdx size inner { btype := a.btype, boundary := a.boundary } = true := hok
  rw [h1, bind_of_ok (check_true _), h2, bind_of_ok (check_true _)]
  rfl

/-! ### manifold layer -/

theorem getSol_sound (n m : Nat) : Sound (getSol n m) Sol.enc := by
  intro bs a r h
  simp only [getSol, bind_ok, pure_ok] at h
  obtain ⟨i, r1, h1, vs, r2, h2, u, r3, h3, rfl, rfl⟩ := h
  obtain ⟨e2, _⟩ := rep_sound getU32_sound _ r1 vs _ h2
  rw [getU32_sound _ _ _ h1, e2, getBox_sound n _ _ _ h3]
  simp only [Sol.enc, List.append_assoc]

/-- what `getSol` needs to read a solution back: shapes and 32-bit integers -/
def Sol.rd (n m : Nat) (s : Sol) : Prop :=
  s.idx < u32 ∧ s.varset.length = solVarLen n m ∧ (∀ v ∈ s.varset, v < u32) ∧ s.unicity.length = n

theorem getSol_complete (n m : Nat) : Complete (getSol n m) Sol.enc (Sol.rd n m) := by
  intro a r h
  obtain ⟨h1, h2, h3, h4⟩ := h
  simp only [getSol, Sol.enc, List.append_assoc]
  rw [bind_of_ok (getU32_complete _ _ h1), bind_of_ok (rep_u32_complete _ _ h2 h3),
      bind_of_ok (getBox_complete n _ _ h4)]
  rfl

theorem getBnd_sound (n m : Nat) : Sound (getBnd n m) Bnd.enc := by
  intro bs a r h
  simp only [getBnd, bind_ok, pure_ok] at h
  obtain ⟨i, r1, h1, vs, r2, h2, rfl, rfl⟩ := h
  obtain ⟨e2, _⟩ := rep_sound getU32_sound _ r1 vs _ h2
  rw [getU32_sound _ _ _ h1, e2]
  simp only [Bnd.enc, List.append_assoc]

def Bnd.rd (n m : Nat) (b : Bnd) : Prop :=
  b.idx < u32 ∧ b.varset.length = bndVarLen n m ∧ (∀ v ∈ b.varset, v < u32)

theorem getBnd_complete (n m : Nat) : Complete (getBnd n m) Bnd.enc (Bnd.rd n m) := by
  intro a r h
  obtain ⟨h1, h2, h3⟩ := h
  simp only [getBnd, Bnd.enc, List.append_assoc]
  rw [bind_of_ok (getU32_complete _ _ h1), bind_of_ok (rep_u32_complete _ _ h2 h3)]
  rfl

theorem getLMan_sound (n size : Nat) (inner ibuB : List Nat) : Sound (getLMan n size inner ibuB) LMan.enc := by
  intro bs a r h
  simp only [getLMan, bind_ok, pure_ok, check_ok] at h
  obtain ⟨m, r1, h1, q, r2, h2, bt, r3, h3, sols, r4, h4, kb, r5, h5, bnds, r6, h6,
    u1, r7, ⟨_, rfl⟩, u2, r8, ⟨_, rfl⟩, u3, r9, ⟨_, rfl⟩, rfl, rfl⟩ := h
  obtain ⟨e6, rfl⟩ := rep_sound (getBnd_sound n m) kb r5 bnds _ h6
  rw [getU32_sound _ _ _ h1, getU32_sound _ _ _ h2, getU32_sound _ _ _ h3]
  by_cases hm : m > 0
  · simp only [hm, if_true, bind_ok] at h4
    obtain ⟨k, r3', h41, h42⟩ := h4
    obtain ⟨e4, rfl⟩ := rep_sound (getSol_sound n m) k r3' sols _ h42
    rw [getU32_sound _ _ _ h41, e4, getU32_sound _ _ _ h5, e6]
    simp only [LMan.enc, hm, if_true, List.append_assoc]
  · simp only [hm, if_false, pure_ok] at h4
    obtain ⟨rfl, rfl⟩ := h4
    rw [getU32_sound _ _ _ h5, e6]
    simp only [LMan.enc, hm, if_false, List.append_assoc, List.nil_append]

theorem all_map_imp {β γ : Type} {l : List β} {g : β → γ} {q : γ → Bool} {P : γ → Prop}
    (h : (l.map g).all q = true) (hq : ∀ i, q i = true → P i) : ∀ b ∈ l, P (g b) := by
  intro b hb
  simp only [List.all_map, List.all_eq_true, Function.comp] at h
  exact hq _ (h b hb)

theorem getLMan_complete (n size : Nat) (inner ibuB : List Nat) (hn : n < u32) (hsize : size < u32) :
    Complete (getLMan n size inner ibuB) LMan.enc (fun l => l.wf n size inner ibuB = true) := by
  intro a r h
  obtain ⟨m, q, bt, sols, bnds⟩ := a
  simp only [LMan.wf, Bool.and_eq_true, decide_eq_true_eq, Bool.or_eq_true, List.all_eq_true,
    List.isEmpty_iff] at h
  obtain ⟨⟨⟨⟨⟨⟨⟨⟨⟨hm, hq⟩, hbt⟩, hls⟩, hlb⟩, hempty⟩, hsw⟩, hbw⟩, hvar⟩, hidx⟩ := h
  have hvar' := hvar
  have hidx' := hidx
  simp only [LMan.okVar, Bool.and_eq_true, List.all_eq_true, varsetOk, decide_eq_true_eq] at hvar'
  simp only [LMan.okIdx, Bool.and_eq_true] at hidx'
  obtain ⟨⟨⟨⟨_, _⟩, hsI⟩, _⟩, hbI⟩ := hidx'
  have hsols : ∀ s ∈ sols, Sol.rd n m s := by
    intro s hs
    have h1 := hsw s hs
    simp only [Sol.wf, Bool.and_eq_true, beq_iff_eq] at h1
    have h2 : s.idx < size :=
      all_map_imp (P := fun i => i < size) hsI (by intro i hi; simp at hi; exact hi.1) s hs
    exact ⟨Nat.lt_trans h2 hsize, h1.1, fun v hv => Nat.lt_trans ((hvar'.1 s hs).1 v hv) hn, h1.2⟩
  have hbnds : ∀ b ∈ bnds, Bnd.rd n m b := by
    intro b hb
    have h1 := hbw b hb
    simp only [Bnd.wf, beq_iff_eq] at h1
    have h2 : b.idx < size :=
      all_map_imp (P := fun i => i < size) hbI (by intro i hi; simp at hi; exact hi.1.1) b hb
    exact ⟨Nat.lt_trans h2 hsize, h1, fun v hv => Nat.lt_trans ((hvar'.2 b hb).1 v hv) hn⟩
  have c1 : decide (bt ≤ 2) = true := by simpa using hbt
  -- the solutions are written, and read back, only when `m > 0`
  have hsr : ∀ r', (if m > 0 then getU32 >>= fun k => rep (getSol n m) k else pure [])
      ((if m > 0 then putU32 sols.length ++ sols.flatMap Sol.enc else []) ++ r') = .ok (sols, r') := by
    intro r'
    by_cases hm0 : m > 0
    · rw [if_pos hm0, if_pos hm0, List.append_assoc, bind_of_ok (getU32_complete _ _ hls)]
      exact rep_complete (getSol_complete n m) _ _ hsols
    · rw [if_neg hm0, if_neg hm0, hempty.resolve_left hm0]
      rfl
  simp only [getLMan, LMan.enc, List.append_assoc]
  rw [bind_of_ok (getU32_complete _ _ hm), bind_of_ok (getU32_complete _ _ hq),
      bind_of_ok (getU32_complete _ _ (by unfold u32; omega)), bind_of_ok (hsr _),
      bind_of_ok (getU32_complete _ _ hlb), bind_of_ok (rep_complete (getBnd_complete n m) _ _ hbnds),
      c1, bind_of_ok (check_true _), hvar, bind_of_ok (check_true _), hidx, bind_of_ok (check_true _)]
  rfl

/-! ### solver and optimizer layers -/

theorem getLSol_sound (n size : Nat) (inner ibuB : List Nat) : Sound (getLSol n size inner ibuB) LSol.enc := by
  intro bs a r h
  simp only [getLSol, bind_ok, pure_ok, check_ok] at h
  obtain ⟨names, r1, h1, st, r2, h2, t, r3, h3, c, r4, h4, k, r5, h5, idx, r6, h6,
    u1, r7, ⟨_, rfl⟩, u2, r8, ⟨_, rfl⟩, rfl, rfl⟩ := h
  obtain ⟨e1, _⟩ := rep_sound getName_sound n bs names _ h1
  obtain ⟨e6, rfl⟩ := rep_sound getU32_sound k r5 idx _ h6
  rw [e1, getU32_sound _ _ _ h2, getF64_sound _ _ _ h3, getU32_sound _ _ _ h4, getU32_sound _ _ _ h5, e6]
  simp only [LSol.enc, List.append_assoc]

theorem getLSol_complete (n size : Nat) (inner ibuB : List Nat) (hsize : size < u32) :
    Complete (getLSol n size inner ibuB) LSol.enc (fun l => l.wf n size inner ibuB = true) := by
  intro a r h
  obtain ⟨names, st, t, c, idx⟩ := a
  simp only [LSol.wf, Bool.and_eq_true, decide_eq_true_eq, List.all_eq_true, beq_iff_eq] at h
  obtain ⟨⟨⟨⟨⟨hnl, hnm⟩, hst⟩, hc⟩, hlen⟩, hok⟩ := h
  have hok' := hok
  simp only [LSol.okIdx, Bool.and_eq_true, List.all_eq_true, decide_eq_true_eq] at hok'
  have c1 : decide (st ≤ 5) = true := by simpa using hst
  simp only [getLSol, LSol.enc, List.append_assoc]
  rw [bind_of_ok (rep_complete' getName_complete names _ hnl hnm),
      bind_of_ok (getU32_complete _ _ (by unfold u32; omega)), bind_of_ok (getF64_complete _ _ trivial),
      bind_of_ok (getU32_complete _ _ hc), bind_of_ok (getU32_complete _ _ hlen),
      bind_of_ok (rep_u32_complete _ _ rfl (fun i hi => Nat.lt_trans (hok'.2 i hi).1.1 hsize)),
      c1, bind_of_ok (check_true _), hok, bind_of_ok (check_true _)]
  rfl

theorem getLOpt_sound (n size : Nat) : Sound (getLOpt n size) LOpt.enc := by
  intro bs a r h
  simp only [getLOpt, bind_ok, pure_ok, check_ok] at h
  obtain ⟨names, r1, h1, st, r2, h2, ext, r3, h3, uplo, r4, h4, ue, r5, h5, loup, r6, h6, lf, r7, h7,
    t, r8, h8, c, r9, h9, u1, r10, ⟨_, rfl⟩, u2, r11, ⟨_, rfl⟩, rfl, rfl⟩ := h
  obtain ⟨e1, _⟩ := rep_sound getName_sound n bs names _ h1
  rw [e1, getU32_sound _ _ _ h2, getU32_sound _ _ _ h3, getF64_sound _ _ _ h4, getF64_sound _ _ _ h5,
      getF64_sound _ _ _ h6, getU32_sound _ _ _ h7, getF64_sound _ _ _ h8, getU32_sound _ _ _ h9]
  simp only [LOpt.enc, List.append_assoc]

theorem getLOpt_complete (n size : Nat) :
    Complete (getLOpt n size) LOpt.enc (fun l => l.wf n size = true) := by
  intro a r h
  obtain ⟨names, st, ext, uplo, ue, loup, lf, t, c⟩ := a
  simp only [LOpt.wf, Bool.and_eq_true, decide_eq_true_eq, List.all_eq_true, beq_iff_eq] at h
  obtain ⟨⟨⟨⟨⟨⟨hnl, hnm⟩, hst⟩, hext⟩, hlf⟩, hc⟩, hok⟩ := h
  have c1 : decide (st ≤ 5) = true := by simpa using hst
  simp only [getLOpt, LOpt.enc, List.append_assoc]
  rw [bind_of_ok (rep_complete' getName_complete names _ hnl hnm),
      bind_of_ok (getU32_complete _ _ (by unfold u32; omega)), bind_of_ok (getU32_complete _ _ hext),
      bind_of_ok (getF64_complete _ _ trivial), bind_of_ok (getF64_complete _ _ trivial),
      bind_of_ok (getF64_complete _ _ trivial), bind_of_ok (getU32_complete _ _ hlf),
      bind_of_ok (getF64_complete _ _ trivial), bind_of_ok (getU32_complete _ _ hc),
      c1, bind_of_ok (check_true _), hok, bind_of_ok (check_true _)]
  rfl

/-! ## whole file -/

theorem getSig_sound {bs r : Bytes} {u : Unit} (h : getSig bs = .ok (u, r)) : bs = sigBytes ++ r := by
  unfold getSig at h
  cases hs : splitN 20 bs with
  | none => simp [hs] at h
  | some y =>
    obtain ⟨hd, tl⟩ := y
    simp only [hs] at h
    by_cases hh : hd = sigBytes
    · simp [hh] at h
      subst h
      rw [(splitN_some hs).1, hh]
    · simp [hh] at h

theorem getSig_complete (r : Bytes) : getSig (sigBytes ++ r) = .ok ((), r) := by
  have := splitN_append sigBytes r
  have hl : sigBytes.length = 20 := rfl
  rw [hl] at this
  unfold getSig
  rw [this]
  simp

theorem layer_sound {p : P α} {enc : α → Bytes} (hp : Sound p enc) (want : Bool) (stk : List Tag) (tag : Tag)
    {bs r : Bytes} {x : Option α × List Tag} (h : layer want stk tag p bs = .ok (x, r)) :
    bs = encOpt enc x.1 ++ r := by
  unfold layer at h
  cases want with
  | false => simp only [Bool.false_eq_true, if_false, pure_ok] at h; obtain ⟨rfl, rfl⟩ := h; simp [encOpt]
  | true =>
    simp only [if_true] at h
    cases stk with
    | nil => simp only [pure_ok] at h; obtain ⟨rfl, rfl⟩ := h; simp [encOpt]
    | cons t rest =>
      simp only at h
      by_cases ht : t = tag
      · simp only [ht, if_true, bind_ok, pure_ok] at h
        obtain ⟨a, r', h1, rfl, rfl⟩ := h
        simpa [encOpt] using hp _ _ _ h1
      · simp only [ht, if_false, pure_ok] at h
        obtain ⟨rfl, rfl⟩ := h; simp [encOpt]

theorem layer_hit {p : P α} {tag : Tag} {rest : List Tag} {bs r : Bytes} {a : α}
    (h : p bs = .ok (a, r)) : layer true (tag :: rest) tag p bs = .ok ((some a, rest), r) := by
  simp only [layer, if_true]
  rw [bind_of_ok h]
  rfl

/-- a layer of a well-formed content is read back when the class wants it and its tag is on top of the
    stack, and is absent and skipped otherwise (`h` is the clause of `WF` for this layer) -/
theorem layer_complete {p : P α} {enc : α → Bytes} {wf : α → Bool} (hp : Complete p enc (fun a => wf a = true))
    {want : Bool} {tag : Tag} {rest : List Tag} {o : Option α} (r : Bytes)
    (h : (match o with | some a => want && wf a | none => !want) = true) :
    layer want ((if want then [tag] else []) ++ rest) tag p (encOpt enc o ++ r) = .ok ((o, rest), r) := by
  cases o with
  | none =>
    obtain rfl : want = false := by simpa using h
    rfl
  | some a =>
    simp only [Bool.and_eq_true] at h
    obtain ⟨rfl, ha⟩ := h
    exact layer_hit (hp a r ha)

theorem decode_sound (k : Kind) {bs r : Bytes} {f : CovFile} (h : decode k bs = .ok (f, r)) :
    bs = encode f ++ r := by
  simp only [decode, bind_ok, pure_ok, check_ok] at h
  obtain ⟨u0, r0, h0, level, ra, ha, ids, rb, hb, vers, rc, hc, u1, rd, ⟨_, rfl⟩,
    x1, r1, h1, x2, r2, h2, x3, r3, h3, x4, r4, h4, x5, r5, h5, x6, r6, h6, x7, r7, h7, rfl, rfl⟩ := h
  obtain ⟨eb, lb⟩ := rep_sound getU32_sound _ ra ids _ hb
  obtain ⟨ec, _⟩ := rep_sound getU32_sound _ rb vers _ hc
  have e1 := layer_sound getLCov_sound _ _ _ h1
  have e2 := layer_sound (getLList_sound _) _ _ _ h2
  have e3 := layer_sound (getLIU_sound _) _ _ _ h3
  have e4 := layer_sound (getLIBU_sound _ _) _ _ _ h4
  have e5 := layer_sound (getLMan_sound _ _ _ _) _ _ _ h5
  have e6 := layer_sound (getLSol_sound _ _ _ _) _ _ _ h6
  have e7 := layer_sound (getLOpt_sound _ _) _ _ _ h7
  have hl : ids.length - 1 = level := by omega
  rw [getSig_sound h0, getU32_sound _ _ _ ha, eb, ec, e1, e2, e3, e4, e5, e6, e7]
  simp only [encode, encHeader, hl, List.append_assoc]

theorem kind_header (k : Kind) :
    0 < k.ids.length ∧ k.ids.length ≤ 6 ∧ k.vers.length = k.ids.length ∧
      (∀ a ∈ k.ids ++ k.vers, a < u32) ∧ k.vers.headD 0 ≤ 1 := by
  cases k <;> decide

theorem kind_stack (k : Kind) : k.ids.zip k.vers =
    tagCov :: ((if k.wList then [tagList] else []) ++ ((if k.wIU then [tagIU] else []) ++
      ((if k.wIBU then [tagIBU] else []) ++ ((if k.wMan then [tagMan] else []) ++
        ((if k.wSol then [tagSol] else []) ++ ((if k.wOpt then [tagOpt] else []) ++ [])))))) := by
  cases k <;> rfl

theorem encOpt_some (enc : α → Bytes) (a : α) : encOpt enc (some a) = enc a := rfl

theorem optD_some (d : β) (f : α → β) (a : α) : optD d f (some a) = f a := rfl

theorem CovFile.n_eq (f : CovFile) : f.n = optD 0 LCov.n f.cov := by
  obtain ⟨_, _, cov, _, _, _, _, _, _⟩ := f; cases cov <;> rfl

theorem CovFile.size_eq (f : CovFile) : f.size = optD 0 (fun l => l.boxes.length) f.list := by
  obtain ⟨_, _, _, list, _, _, _, _, _⟩ := f; cases list <;> rfl

theorem CovFile.inner_eq (f : CovFile) : f.inner = optD [] LIU.inner f.iu := by
  obtain ⟨_, _, _, _, iu, _, _, _, _⟩ := f; cases iu <;> rfl

theorem CovFile.ibuB_eq (f : CovFile) : f.ibuB = optD [] LIBU.boundary f.ibu := by
  obtain ⟨_, _, _, _, _, ibu, _, _, _⟩ := f; cases ibu <;> rfl

theorem decode_complete (k : Kind) (f : CovFile) (r : Bytes) (h : WF k f = true) :
    decode k (encode f ++ r) = .ok (f, r) := by
  simp only [WF, Bool.and_eq_true, beq_iff_eq, CovFile.n_eq, CovFile.size_eq, CovFile.inner_eq,
    CovFile.ibuB_eq] at h
  obtain ⟨ids, vers, cov, list, iu, ibu, man, sol, opt⟩ := f
  obtain ⟨⟨⟨⟨⟨⟨⟨⟨hids, hvers⟩, hcov⟩, hlist⟩, hiu⟩, hibu⟩, hman⟩, hsol⟩, hopt⟩ := h
  simp only at hids hvers hcov hlist hiu hibu hman hsol hopt
  subst hids hvers
  obtain ⟨hpos, hle, hlen, h32, hroot⟩ := kind_header k
  have hk1 : k.ids.length - 1 < u32 := by unfold u32; omega
  have hk2 : k.ids.length = k.ids.length - 1 + 1 := by omega
  cases cov with
  | none => cases hcov
  | some c =>
    have hn : c.n < u32 := of_decide_eq_true hcov
    have hsize : optD 0 (fun l => l.boxes.length) list < u32 := by
      cases list with
      | none => exact Nat.zero_lt_succ _
      | some l => simp only [LList.wf, Bool.and_eq_true, decide_eq_true_eq] at hlist; exact hlist.2.1
    simp only [optD_some] at hlist hiu hibu hman hsol hopt
    simp only [decode, encode, encHeader, encOpt_some, List.append_assoc]
    rw [bind_of_ok (getSig_complete _), bind_of_ok (getU32_complete _ _ hk1),
        bind_of_ok (rep_u32_complete k.ids _ hk2 fun a ha => h32 a (List.mem_append_left _ ha)),
        bind_of_ok (rep_u32_complete k.vers _ (hlen.trans hk2) fun a ha => h32 a (List.mem_append_right _ ha)),
        decide_eq_true hroot, bind_of_ok (check_true _), kind_stack k, bind_of_ok (layer_hit (getLCov_complete _ _ hn))]
    simp only [optD_some]
    rw [bind_of_ok (layer_complete (want := k.wList) (o := list) (getLList_complete c.n) _ (by cases list <;> exact hlist))]
    simp only
    rw [bind_of_ok (layer_complete (want := k.wIU) (o := iu) (getLIU_complete _ hsize) _ (by cases iu <;> exact hiu))]
    simp only
    rw [bind_of_ok (layer_complete (want := k.wIBU) (o := ibu) (getLIBU_complete _ _ hsize) _ (by cases ibu <;> exact hibu))]
    simp only
    rw [bind_of_ok (layer_complete (want := k.wMan) (o := man) (getLMan_complete _ _ _ _ hn hsize) _ (by cases man <;> exact hman))]
    simp only
    rw [bind_of_ok (layer_complete (want := k.wSol) (o := sol) (getLSol_complete _ _ _ _ hsize) _ (by cases sol <;> exact hsol))]
    simp only
    rw [bind_of_ok (layer_complete (want := k.wOpt) (o := opt) (getLOpt_complete _ _) _ (by cases opt <;> exact hopt))]
    rfl

/-! ## readers only look at a prefix

What they return does not depend on the bytes after the part consumed; hence a proper prefix (truncation) of a
file that loads completely is rejected (`C18.truncation_rejected`). -/

def Stable (p : P α) : Prop :=
  ∀ bs a r ext, p bs = .ok (a, r) → p (bs ++ ext) = .ok (a, r ++ ext)

theorem stable_pure (a : α) : Stable (pure a : P α) := by
  intro bs b r ext h
  rw [pure_ok] at h; obtain ⟨rfl, rfl⟩ := h; rfl

theorem stable_check (c : Bool) (e : CovErr) : Stable (check c e) := by
  intro bs b r ext h
  rw [check_ok] at h; obtain ⟨rfl, rfl⟩ := h; rfl

theorem stable_bind {p : P α} {f : α → P β} (hp : Stable p) (hf : ∀ a, Stable (f a)) : Stable (p >>= f) := by
  intro bs b r ext h
  rw [bind_ok] at h
  obtain ⟨a, r', h1, h2⟩ := h
  rw [bind_of_ok (hp _ _ _ ext h1)]
  exact hf a _ _ _ ext h2

theorem splitN_stable {k : Nat} {bs h r : Bytes} (ext : Bytes) (hs : splitN k bs = some (h, r)) :
    splitN k (bs ++ ext) = some (h, r ++ ext) := by
  obtain ⟨e1, e2⟩ := splitN_some hs
  subst e1 e2
  rw [List.append_assoc]
  exact splitN_append _ _

theorem stable_getU32 : Stable getU32 := fun _ _ _ ext h =>
  let ⟨hd, hs, e⟩ := getU32_ok.1 h
  getU32_ok.2 ⟨hd, splitN_stable ext hs, e⟩

theorem stable_getF64 : Stable getF64 := fun _ _ _ ext h =>
  let ⟨hd, hs, e⟩ := getF64_ok.1 h
  getF64_ok.2 ⟨hd, splitN_stable ext hs, e⟩

theorem stable_getSig : Stable getSig := by
  intro bs a r ext h
  unfold getSig at h ⊢
  cases hs : splitN 20 bs with
  | none => simp [hs] at h
  | some y =>
    obtain ⟨hd, tl⟩ := y
    simp only [hs] at h
    rw [splitN_stable ext hs]
    by_cases hh : hd = sigBytes
    · simp only [hh, if_true, Except.ok.injEq, Prod.mk.injEq] at h ⊢
      exact ⟨h.1, by rw [h.2]⟩
    · simp [hh] at h

theorem stable_getName : Stable getName := by
  intro bs
  induction bs with
  | nil => intro a r ext h; simp [getName] at h
  | cons b bs ih =>
    intro a r ext h
    simp only [getName, List.cons_append] at h ⊢
    by_cases hb : b = 0
    · simp only [hb, if_true, Except.ok.injEq, Prod.mk.injEq] at h ⊢
      exact ⟨h.1, by rw [h.2]⟩
    · simp only [hb, if_false] at h ⊢
      cases h2 : getName bs with
      | error e => simp [h2] at h
      | ok x =>
        obtain ⟨s', r'⟩ := x
        simp only [h2, Except.ok.injEq, Prod.mk.injEq] at h
        obtain ⟨rfl, rfl⟩ := h
        rw [ih s' r' ext h2]

theorem stable_rep {p : P α} (hp : Stable p) (k : Nat) : Stable (rep p k) := by
  induction k with
  | zero =>
    intro bs a r ext h
    simp only [rep, Except.ok.injEq, Prod.mk.injEq] at h ⊢
    exact ⟨h.1, by rw [h.2]⟩
  | succ k ih =>
    intro bs as r ext h
    simp only [rep] at h ⊢
    cases h1 : p bs with
    | error e => simp [h1] at h
    | ok x =>
      obtain ⟨a, r1⟩ := x
      simp only [h1] at h
      cases h2 : rep p k r1 with
      | error e => simp [h2] at h
      | ok y =>
        obtain ⟨as', r2⟩ := y
        simp only [h2, Except.ok.injEq, Prod.mk.injEq] at h
        obtain ⟨rfl, rfl⟩ := h
        rw [hp _ _ _ ext h1]
        simp only
        rw [ih _ _ _ ext h2]

theorem stable_ite {c : Prop} [Decidable c] {p q : P α} (hp : Stable p) (hq : Stable q) :
    Stable (if c then p else q) := by
  by_cases h : c <;> simp [h, hp, hq]

theorem stable_layer {p : P α} (hp : Stable p) (want : Bool) (stk : List Tag) (tag : Tag) :
    Stable (layer want stk tag p) := by
  unfold layer
  cases want with
  | false => exact stable_pure _
  | true =>
    simp only [if_true]
    cases stk with
    | nil => exact stable_pure _
    | cons t rest =>
      simp only
      by_cases ht : t = tag
      · simp only [ht, if_true]
        exact stable_bind hp (fun a => stable_pure _)
      · simp only [ht, if_false]
        exact stable_pure _

theorem stable_getItv : Stable getItv :=
  stable_bind stable_getF64 fun _ => stable_bind stable_getF64 fun _ => stable_pure _

theorem stable_getBox (n : Nat) : Stable (getBox n) := stable_rep stable_getItv n

theorem stable_getLCov : Stable getLCov := stable_bind stable_getU32 fun _ => stable_pure _

theorem stable_getLList (n : Nat) : Stable (getLList n) :=
  stable_bind stable_getU32 fun k => stable_bind (stable_rep (stable_getBox n) k) fun _ => stable_pure _

theorem stable_getLIU (size : Nat) : Stable (getLIU size) :=
  stable_bind stable_getU32 fun k => stable_bind (stable_rep stable_getU32 k) fun _ => stable_bind (stable_check _ _) fun _ => stable_pure _

theorem stable_getLIBU (size : Nat) (inner : List Nat) : Stable (getLIBU size inner) :=
  stable_bind stable_getU32 fun _ => stable_bind stable_getU32 fun k => stable_bind (stable_rep stable_getU32 k) fun _ =>
  stable_bind (stable_check _ _) fun _ => stable_bind (stable_check _ _) fun _ => stable_pure _

theorem stable_getSol (n m : Nat) : Stable (getSol n m) :=
  stable_bind stable_getU32 fun _ => stable_bind (stable_rep stable_getU32 _) fun _ => stable_bind (stable_getBox n) fun _ => stable_pure _

theorem stable_getBnd (n m : Nat) : Stable (getBnd n m) :=
  stable_bind stable_getU32 fun _ => stable_bind (stable_rep stable_getU32 _) fun _ => stable_pure _

theorem stable_getLMan (n size : Nat) (inner ibuB : List Nat) : Stable (getLMan n size inner ibuB) :=
  stable_bind stable_getU32 fun m => stable_bind stable_getU32 fun _ => stable_bind stable_getU32 fun _ =>
  stable_bind (stable_ite (stable_bind stable_getU32 fun k => stable_rep (stable_getSol n m) k) (stable_pure _)) fun _ =>
  stable_bind stable_getU32 fun kb => stable_bind (stable_rep (stable_getBnd n m) kb) fun _ =>
  stable_bind (stable_check _ _) fun _ => stable_bind (stable_check _ _) fun _ => stable_bind (stable_check _ _) fun _ => stable_pure _

theorem stable_getLSol (n size : Nat) (inner ibuB : List Nat) : Stable (getLSol n size inner ibuB) :=
  stable_bind (stable_rep stable_getName n) fun _ => stable_bind stable_getU32 fun _ => stable_bind stable_getF64 fun _ =>
  stable_bind stable_getU32 fun _ => stable_bind stable_getU32 fun k => stable_bind (stable_rep stable_getU32 k) fun _ =>
  stable_bind (stable_check _ _) fun _ => stable_bind (stable_check _ _) fun _ => stable_pure _

theorem stable_getLOpt (n size : Nat) : Stable (getLOpt n size) :=
  stable_bind (stable_rep stable_getName n) fun _ => stable_bind stable_getU32 fun _ => stable_bind stable_getU32 fun _ =>
  stable_bind stable_getF64 fun _ => stable_bind stable_getF64 fun _ => stable_bind stable_getF64 fun _ =>
  stable_bind stable_getU32 fun _ => stable_bind stable_getF64 fun _ => stable_bind stable_getU32 fun _ =>
  stable_bind (stable_check _ _) fun _ => stable_bind (stable_check _ _) fun _ => stable_pure _

theorem stable_decode (k : Kind) : Stable (decode k) :=
  stable_bind stable_getSig fun _ => stable_bind stable_getU32 fun _ =>
  stable_bind (stable_rep stable_getU32 _) fun _ => stable_bind (stable_rep stable_getU32 _) fun _ =>
  stable_bind (stable_check _ _) fun _ =>
  stable_bind (stable_layer stable_getLCov _ _ _) fun _ =>
  stable_bind (stable_layer (stable_getLList _) _ _ _) fun _ =>
  stable_bind (stable_layer (stable_getLIU _) _ _ _) fun _ =>
  stable_bind (stable_layer (stable_getLIBU _ _) _ _ _) fun _ =>
  stable_bind (stable_layer (stable_getLMan _ _ _ _) _ _ _) fun _ =>
  stable_bind (stable_layer (stable_getLSol _ _ _ _) _ _ _) fun _ =>
  stable_bind (stable_layer (stable_getLOpt _ _) _ _ _) fun _ => stable_pure _

end Ibex.Cov
