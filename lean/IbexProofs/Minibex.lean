/-
  C10 — proofs about the model `IbexModel/Minibex.lean`.  The structural comparison `Dag.sameTree` is proved sound for
  a generic evaluator over an arbitrary node semantics, of which `Eval.run` in any number algebra is an instance; then
  the flattened normal-form comparison (`checkFlatB_sound`) and the `#hex` round trip of the serialiser and the lexer.
-/
import IbexModel.Minibex
import IbexProofs.RatFun
import Mathlib.Data.List.Forall2

namespace Ibex
open List

/-! ## 0. small facts on `mapM` in `Option` -/

theorem map_eq_map_iff_forall₂ {ι κ β : Type} {f : ι → β} {g : κ → β} {l : List ι} {u : List κ} :
    l.map f = u.map g ↔ Forall₂ (fun a b => f a = g b) l u := by
  rw [← forall₂_eq_eq_eq, forall₂_map_left_iff, forall₂_map_right_iff]

theorem mapM_some_iff {ι β : Type} {f : ι → Option β} {l : List ι} {ms : List β} :
    l.mapM f = some ms ↔ l.map f = ms.map some :=
  mapM_eq_some_iff.trans map_eq_map_iff_forall₂.symm

theorem forall₂_join {ι κ γ : Type} {R : ι → γ → Prop} {S : κ → γ → Prop} :
    ∀ {as : List ι} {bs : List κ} {cs : List γ}, Forall₂ R as cs → Forall₂ S bs cs →
      Forall₂ (fun a b => ∃ c, R a c ∧ S b c) as bs
  | _, _, _, .nil, h => by
    cases h
    exact .nil
  | _, _, _, .cons hr hrs, h => by
    cases h with
    | cons hs hss => exact .cons ⟨_, hr, hs⟩ (forall₂_join hrs hss)

/-! ## 1. the generic evaluator -/
namespace EvalG
variable {α : Type} {sem : Node → List (Mat α) → Option (Mat α)}

theorem mapM_lookup_mono {v r : Array (Mat α)} (h : ∀ (j : Nat) (x : Mat α), v[j]? = some x → r[j]? = some x)
    {as : List Nat} {ms : List (Mat α)} (hm : (as.mapM fun i => v[i]?) = some ms) :
    (as.mapM fun i => r[i]?) = some ms := by
  rw [mapM_some_iff] at hm ⊢
  rw [map_eq_map_iff_forall₂] at hm ⊢
  exact hm.imp fun a b hab => h _ _ hab

/-- the fold: sizes, earlier entries kept, and every processed node has the value given by `sem`
    on the (final) values of its arguments -/
theorem fold_inv : ∀ (ns : List Node) {v r : Array (Mat α)}, ns.foldlM (step sem) v = some r →
    r.size = v.size + ns.length ∧ (∀ (j : Nat) (x : Mat α), v[j]? = some x → r[j]? = some x) ∧
    ∀ (i : Nat) (n : Node), ns[i]? = some n → ∃ ms x, (n.k.args.mapM fun a => r[a]?) = some ms ∧
      sem n.shape ms = some x ∧ r[v.size + i]? = some x
  | [], v, r, h => by
    obtain rfl : v = r := Option.some.inj h
    exact ⟨rfl, fun _ _ h => h, fun i n hn => by simp at hn⟩
  | n :: ns, v, r, h => by
    simp only [List.foldlM_cons, bind, step, Option.bind_eq_some_iff, Option.map_eq_some_iff] at h
    obtain ⟨w, ⟨ms, hms, x, hx, rfl⟩, h⟩ := h
    obtain ⟨h1, h2, h3⟩ := fold_inv ns h
    have hvw : ∀ (j : Nat) (y : Mat α), v[j]? = some y → (v.push x)[j]? = some y := by
      intro j y hj
      obtain ⟨hlt, _⟩ := Array.getElem?_eq_some_iff.1 hj
      rw [Array.getElem?_push, if_neg (by omega)]
      exact hj
    refine ⟨by rw [h1, Array.size_push, List.length_cons]; omega, fun j y hj => h2 j y (hvw j y hj), ?_⟩
    rintro (_ | i) n' hn'
    · obtain rfl : n = n' := Option.some.inj hn'
      exact ⟨ms, x, mapM_lookup_mono h2 (mapM_lookup_mono hvw hms), hx, h2 _ _ Array.getElem?_push_size⟩
    · obtain ⟨ms', x', hm', hx', hr'⟩ := h3 i n' hn'
      refine ⟨ms', x', hm', hx', ?_⟩
      rwa [Array.size_push, Nat.add_right_comm] at hr'

theorem run_nodes {dag : Dag} {r : Array (Mat α)} (h : run sem dag = some r) :
    r.size = dag.size ∧ ∀ (i : Nat) (n : Node), dag[i]? = some n → ∃ ms x, (n.k.args.mapM fun a => r[a]?) = some ms ∧
      sem n.shape ms = some x ∧ r[i]? = some x := by
  obtain ⟨h1, _, h3⟩ := fold_inv dag.toList h
  refine ⟨by simpa using h1, fun i n hn => ?_⟩
  obtain ⟨ms, x, hm, hx, hr⟩ := h3 i n (Array.getElem?_toList.trans hn)
  exact ⟨ms, x, hm, hx, by rwa [List.size_toArray, List.length_nil, Nat.zero_add] at hr⟩
end EvalG

/-! ## 2. the structural comparison -/
namespace TreeCert
variable {α : Type}

theorem nodeOk_spec {d : Dag} {c : Array Nat} {rep : Array (Node × List Nat)} {i : Nat}
    (h : nodeOk d c rep i = true) :
    ∃ n k sh cc, d[i]? = some n ∧ c[i]? = some k ∧ rep[k]? = some (sh, cc) ∧ n.shape = sh ∧
      Forall₂ (fun a q => a < i ∧ q < k ∧ c[a]? = some q) n.k.args cc := by
  unfold nodeOk at h
  split at h
  · rename_i n k hn hk
    split at h
    · rename_i sh cc hrep
      simp only [Bool.and_eq_true, decide_eq_true_eq, List.all_eq_true] at h
      obtain ⟨⟨⟨h1, h2⟩, h3⟩, h4⟩ := h
      have hq := (forall₂_and_left _ _).2 ⟨h4, (map_eq_map_iff_forall₂.1 h2).flip⟩
      exact ⟨n, k, sh, cc, hn, hk, hrep, h1, (forall₂_and_left _ _).2 ⟨h3, hq.flip⟩⟩
    · exact absurd h (by simp)
  · exact absurd h (by simp)

/-- nodes of the same class have the same value -/
theorem classes_sound {sem₁ sem₂ : Node → List (Mat α) → Option (Mat α)}
    (hsem : ∀ sh ms x y, sem₁ sh ms = some x → sem₂ sh ms = some y → x = y)
    {d1 d2 : Dag} {c1 c2 : Array Nat} {rep : Array (Node × List Nat)}
    (h1 : ∀ i, i < d1.size → nodeOk d1 c1 rep i = true)
    (h2 : ∀ j, j < d2.size → nodeOk d2 c2 rep j = true)
    {r1 r2 : Array (Mat α)} (hr1 : EvalG.run sem₁ d1 = some r1) (hr2 : EvalG.run sem₂ d2 = some r2) :
    ∀ (k i j : Nat), i < d1.size → j < d2.size → c1[i]? = some k → c2[j]? = some k → r1[i]? = r2[j]? := by
  obtain ⟨_, hn1⟩ := EvalG.run_nodes hr1
  obtain ⟨_, hn2⟩ := EvalG.run_nodes hr2
  intro k
  induction k using Nat.strong_induction_on with
  | _ k ih =>
    intro i j hi hj hci hcj
    obtain ⟨n1, k1, sh1, cc1, hd1, hk1, hrep1, hsh1, hcl1⟩ := nodeOk_spec (h1 i hi)
    obtain ⟨n2, k2, sh2, cc2, hd2, hk2, hrep2, hsh2, hcl2⟩ := nodeOk_spec (h2 j hj)
    obtain rfl : k = k1 := Option.some.inj (hci.symm.trans hk1)
    obtain rfl : k = k2 := Option.some.inj (hcj.symm.trans hk2)
    obtain ⟨rfl, rfl⟩ := Prod.mk.inj (Option.some.inj (hrep1.symm.trans hrep2))
    obtain ⟨ms1, x1, hm1, hx1, hv1⟩ := hn1 i n1 hd1
    obtain ⟨ms2, x2, hm2, hx2, hv2⟩ := hn2 j n2 hd2
    -- the arguments are of the same smaller classes, position by position
    have hms : ms1 = ms2 := by
      apply List.map_injective_iff.2 (Option.some_injective _)
      rw [← mapM_some_iff.1 hm1, ← mapM_some_iff.1 hm2, map_eq_map_iff_forall₂]
      refine (forall₂_join hcl1 hcl2).imp ?_
      rintro a b ⟨q, ⟨hai, hqk, haq⟩, hbj, -, hbq⟩
      exact ih q hqk a b (by omega) (by omega) haq hbq
    subst hms
    rw [hv1, hv2, hsem _ _ _ _ hx1 (hsh1 ▸ hsh2 ▸ hx2)]

theorem check_sound {sem₁ sem₂ : Node → List (Mat α) → Option (Mat α)}
    (hsem : ∀ sh ms x y, sem₁ sh ms = some x → sem₂ sh ms = some y → x = y)
    {d1 d2 : Dag} {t : TreeCert} (h : check d1 d2 t = true) {v1 v2 : Mat α}
    (hv1 : EvalG.root sem₁ d1 = some v1) (hv2 : EvalG.root sem₂ d2 = some v2) : v1 = v2 := by
  unfold check at h
  simp only [Bool.and_eq_true, List.all_eq_true, List.mem_range, decide_eq_true_eq] at h
  obtain ⟨⟨⟨⟨h1, h2⟩, hs1⟩, hs2⟩, hroot⟩ := h
  unfold EvalG.root at hv1 hv2
  simp only [Option.bind_eq_some_iff] at hv1 hv2
  obtain ⟨r1, hr1, hb1⟩ := hv1
  obtain ⟨r2, hr2, hb2⟩ := hv2
  obtain ⟨hz1, _⟩ := EvalG.run_nodes hr1
  obtain ⟨hz2, _⟩ := EvalG.run_nodes hr2
  rw [Array.back?_eq_getElem?, hz1] at hb1
  rw [Array.back?_eq_getElem?, hz2] at hb2
  split at hroot
  · rename_i a b ha hb
    have hab : a = b := by simpa using hroot
    subst hab
    have := classes_sound hsem h1 h2 hr1 hr2 a (d1.size - 1) (d2.size - 1) (by omega) (by omega) ha hb
    rw [hb1, hb2] at this
    exact Option.some.inj this
  · exact absurd hroot (by simp)

end TreeCert

/-- **`sameTree` is sound for every node semantics** (hence for every operator, known or not):
    two DAGs accepted by `Dag.sameTree` have the same value whenever both values are defined —
    even under two different semantics, as long as these agree where both are defined.
    (`C10.sameTree_sound_gen` is the case of one semantics.) -/
theorem Dag.sameTree_sound_gen {α : Type} {sem₁ sem₂ : Node → List (Mat α) → Option (Mat α)}
    (hsem : ∀ sh ms x y, sem₁ sh ms = some x → sem₂ sh ms = some y → x = y)
    {d1 d2 : Dag} (h : Dag.sameTree d1 d2 = true) {v1 v2 : Mat α}
    (hv1 : EvalG.root sem₁ d1 = some v1) (hv2 : EvalG.root sem₂ d2 = some v2) : v1 = v2 :=
  TreeCert.check_sound hsem h hv1 hv2

/-! ## 3. `Eval.run` is an instance of the generic evaluator -/
namespace EvalG
variable {α : Type} (A : Alg α) (env : List α) (call : Nat → List (Mat α) → Option (Mat α))

theorem dimOk_map (sh : Node) (vals : Array (Mat α)) (o : Option (Mat α)) :
    (o.bind (dimOk sh)).map vals.push =
      o.bind fun v => if v.r == sh.r && v.c == sh.c then some (vals.push v) else none := by
  cases o with
  | none => rfl
  | some v =>
    simp only [Option.bind_some, dimOk]
    split <;> rfl

/-- Both steps look up the arguments of the node first. If one is missing both sides are `none`;
    otherwise `semOf` at the shape of the node computes, by reduction, the value `Eval.nodeVal`
    gives to the node, and both sides test its dimensions (`dimOk_map`). -/
theorem step_eq (vals : Array (Mat α)) (n : Node) :
    Eval.step A env call vals n = step (semOf A env call) vals n := by
  obtain ⟨k, r, c⟩ := n
  unfold Eval.step step
  cases k <;> simp only [Eval.nodeVal, NodeK.args, List.mapM_cons, List.mapM_nil]
  case var | const => exact (dimOk_map ⟨_, r, c⟩ vals _).symm
  case un op a | pow a e | idx a r1 r2 c1 c2 =>
    cases vals[a]? with
    | none => rfl
    | some x => exact (dimOk_map ⟨_, r, c⟩ vals _).symm
  case bin op a b =>
    cases vals[a]? with
    | none => rfl
    | some x =>
      cases vals[b]? with
      | none => rfl
      | some y => exact (dimOk_map ⟨_, r, c⟩ vals _).symm
  case chi a b c' =>
    cases vals[a]? with
    | none => rfl
    | some x =>
      cases vals[b]? with
      | none => rfl
      | some y =>
        cases vals[c']? with
        | none => rfl
        | some z => exact (dimOk_map ⟨_, r, c⟩ vals _).symm
  case vec row as | apply f as =>
    cases as.mapM fun i => vals[i]? with
    | none => rfl
    | some xs => exact (dimOk_map ⟨_, r, c⟩ vals _).symm

theorem run_eq_runG (dag : Dag) : Eval.run A env call dag = run (semOf A env call) dag := by
  rw [Eval.run_eq]
  unfold run
  congr 1
  funext vals n
  exact step_eq A env call vals n

theorem root_eq_rootG (dag : Dag) : Eval.root A env call dag = root (semOf A env call) dag := by
  unfold Eval.root root
  rw [run_eq_runG]

end EvalG

/-- **Soundness of the structural comparison for the evaluators of the project**: two DAGs accepted
    by `Dag.sameTree` have the same value in EVERY number algebra `A` (reals, rationals, intervals,
    dual numbers, rational functions …), every environment and every table of applied functions,
    whenever both are defined. -/
theorem Dag.sameTree_sound {α : Type} {d1 d2 : Dag} (h : Dag.sameTree d1 d2 = true) (A : Alg α)
    (env : List α) (call : Nat → List (Mat α) → Option (Mat α)) {v1 v2 : Mat α}
    (hv1 : Eval.root A env call d1 = some v1) (hv2 : Eval.root A env call d2 = some v2) : v1 = v2 := by
  rw [EvalG.root_eq_rootG] at hv1 hv2
  exact Dag.sameTree_sound_gen (fun _ _ _ _ hx hy => Option.some.inj (hx.symm.trans hy)) h hv1 hv2

/-! ## 4. flattened normal-form comparison -/
namespace Minibex

def EvalsTo (ρ : List ℝ) (p : Prog) (v : Mat ℝ) : Prop :=
  Eval.root Alg.real ρ (Eval.buildCalls Alg.real p.1) p.2 = some v

theorem nfFlat_real {B n : ℕ} {ps : List Prog} {fs : List RF} {ρ : List ℝ} {vs : List (Mat ℝ)}
    (hρ : ρ.length = n) (hF : nfFlat B ps n = some fs) (hv : Forall₂ (EvalsTo ρ) ps vs) :
    Forall₂ (RF.Rep (valOf ρ)) (vs.flatMap (·.d)) fs := by
  unfold nfFlat at hF
  simp only [Option.map_eq_some_iff] at hF
  obtain ⟨Fs, hFs, rfl⟩ := hF
  rw [mapM_some_iff, map_eq_map_iff_forall₂] at hFs
  have h := forall₂_join hv.flip hFs.flip
  refine rel_flatMap h fun v F hvF => ?_
  obtain ⟨p, hp, hF⟩ := hvF
  exact (nf_real hρ hF hp).2.2

/-- **Soundness of the flattened comparison** (`B`: the size bound of the normal forms, as in
    `Equiv.checkB`; `checkFlat` is `checkFlatB Equiv.bound`): when `checkFlatB` accepts two lists of
    expressions, then at every real point where all of them are defined the concatenations of their entries
    (row-major) are the same list of reals. -/
theorem checkFlatB_sound {B n : ℕ} {as bs : List Prog} (h : checkFlatB B as bs n = some true)
    {ρ : List ℝ} (hρ : ρ.length = n) {va vb : List (Mat ℝ)}
    (ha : Forall₂ (EvalsTo ρ) as va) (hb : Forall₂ (EvalsTo ρ) bs vb) :
    va.flatMap (·.d) = vb.flatMap (·.d) := by
  unfold checkFlatB at h
  simp only [bind, Option.bind_eq_some_iff] at h
  obtain ⟨x, hx, y, hy, h⟩ := h
  exact eqvList_sound h (nfFlat_real hρ hx ha) (nfFlat_real hρ hy hb)

/-! ## 5. hexadecimal constants -/

theorem hexVal_hexChar : ∀ d : Fin 16, hexVal (hexChar d.1) = some d.1 := by decide

theorem hexNat_map_hexChar : ∀ (ds : List ℕ) (acc : ℕ), (∀ d ∈ ds, d < 16) →
    (ds.map hexChar).foldlM (fun acc c => (hexVal c).map fun d => acc * 16 + d) acc =
      some (ds.foldl (fun a d => a * 16 + d) acc)
  | [], acc, _ => rfl
  | d :: ds, acc, h => by
    have hd : d < 16 := h d (by simp)
    have := hexVal_hexChar ⟨d, hd⟩
    simp only at this
    simp only [List.map_cons, List.foldlM_cons, this, Option.map_some, bind, Option.bind_some,
      List.foldl_cons]
    exact hexNat_map_hexChar ds _ fun d' hd' => h d' (by simp [hd'])

theorem hexRev_spec : ∀ (f n : ℕ), n < 16 ^ f →
    (∀ d ∈ hexRev f n, d < 16) ∧ (hexRev f n).foldr (fun d a => a * 16 + d) 0 = n
  | 0, n, h => by
    obtain rfl : n = 0 := by simpa using h
    exact ⟨fun d hd => (nomatch hd), rfl⟩
  | f + 1, n, h => by
    unfold hexRev
    split
    · rename_i hn
      exact ⟨fun d hd => List.mem_singleton.1 hd ▸ hn, Nat.zero_add n⟩
    · have hq : n / 16 < 16 ^ f := Nat.div_lt_of_lt_mul (by rw [pow_succ] at h; omega)
      obtain ⟨h1, h2⟩ := hexRev_spec f (n / 16) hq
      refine ⟨List.forall_mem_cons.2 ⟨Nat.mod_lt _ (by norm_num), h1⟩, ?_⟩
      rw [List.foldr_cons, h2]
      omega

theorem hexNat_printHex {u : ℕ} (hu : u < 2 ^ 64) : hexNat (printHex u) = some u := by
  have h16 : u < 16 ^ 16 := by norm_num at hu ⊢; exact hu
  obtain ⟨h1, h2⟩ := hexRev_spec 16 u h16
  unfold hexNat printHex
  rw [hexNat_map_hexChar _ _ (by simpa using h1), List.foldl_reverse]
  simp only [h2]

/-- **`#hex` round trip at the level of 64-bit patterns**: the lexer reads back the pattern printed
    by the serialiser — for every pattern with `strtoull`, for the patterns below 2^63 with
    `strtoll` (which saturates at 2^63-1 above). -/
theorem readHex_printHex (r : HexReader) {u : ℕ} (hu : u < 2 ^ 64) (h : r = .strtoull ∨ u < 2 ^ 63) :
    readHex r (printHex u) = some u := by
  unfold readHex
  rw [hexNat_printHex hu]
  cases r with
  | strtoll =>
    rcases h with h | h
    · exact absurd h (by simp)
    · simp only [Option.map_some, Option.some.injEq]
      rw [if_neg (by omega)]
  | strtoull =>
    simp only [Option.map_some, Option.some.injEq]
    rw [if_neg (by omega)]

theorem strtoll_saturates : readHex .strtoll (printHex (2 ^ 63)) = some (2 ^ 63 - 1) := by decide +kernel

theorem printHex_ne_nil (u : ℕ) : printHex u ≠ [] := by
  unfold printHex hexRev
  split <;> simp

/-- **`#hex` round trip at the level of doubles** (`signNeg = false`, `r = strtoll` is the pinned
    tree): every non-NaN binary64 `b` printed by `print_dbl` (sign printed apart, `+oo`/`-oo` for the
    infinities) is read back by the lexer + unary minus as `b` itself — with ONE exception on the
    pinned tree: `-0.0` passes the test `x >= 0`, is printed `#8000000000000000` and is read by
    `strtoll` as the NaN pattern `7fffffffffffffff`. -/
theorem readDbl_printDbl (signNeg : Bool) (r : HexReader) {b : ℕ} (hb : notNaN b = true) :
    readDbl r (printDbl signNeg b) = some b ∨ (r = .strtoll ∧ signNeg = false ∧ b = negZeroBits) := by
  have hlt : b < 2 ^ 64 := by
    simp only [notNaN, Bool.and_eq_true, decide_eq_true_eq] at hb
    exact hb.1
  unfold printDbl
  split_ifs with hni hpi hnn
  · rw [beq_iff_eq.1 hni]
    exact .inl rfl
  · rw [beq_iff_eq.1 hpi]
    exact .inl rfl
  · show readHex r (printHex b) = some b ∨ _
    by_cases hs : b < 2 ^ 63
    · exact .inl (readHex_printHex r hlt (.inr hs))
    · cases r with
      | strtoull => exact .inl (readHex_printHex _ hlt (.inl rfl))
      | strtoll =>
        -- only `-0.0` passes the test `x >= 0` with its sign bit set
        cases signNeg <;> simp only [nonNegative, hs, decide_false, Bool.false_or, beq_iff_eq,
          Bool.false_eq_true, if_false, if_true] at hnn
        exact .inr ⟨rfl, rfl, hnn⟩
  · have hs : 2 ^ 63 ≤ b := by
      by_contra hlt'
      cases signNeg <;> simp [nonNegative] at hnn <;> omega
    have hread : readDbl r ('-' :: '#' :: printHex (b - 2 ^ 63)) =
        (readHex r (printHex (b - 2 ^ 63))).map negBits := by
      unfold readDbl
      rfl
    rw [hread, readHex_printHex r (by omega) (.inr (by omega)), Option.map_some, negBits,
      if_pos (by omega)]
    exact .inl (congrArg some (by omega))

/-- the exception is real on the pinned tree -/
theorem negZero_misread :
    readDbl .strtoll (printDbl false negZeroBits) = some 0x7fffffffffffffff := by decide +kernel

/-- with `std::signbit` in the printer or `strtoull` in the lexer there is no exception -/
theorem readDbl_printDbl_repaired {signNeg : Bool} {r : HexReader} (h : signNeg = true ∨ r = .strtoull)
    {b : ℕ} (hb : notNaN b = true) : readDbl r (printDbl signNeg b) = some b := by
  rcases readDbl_printDbl signNeg r hb with h' | ⟨h1, h2, _⟩
  · exact h'
  · rcases h with h | h
    · rw [h] at h2; exact absurd h2 (by simp)
    · rw [h] at h1; exact absurd h1 (by simp)

end Minibex
end Ibex
