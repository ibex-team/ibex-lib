/-
  Abstract contractor theory (used by C04): a contractor is a function on boxes; it is
  *sound* for a set S when it keeps every point of S that was in the input box, and *contracting*
  when its result is inside the input.  Any schedule (propagation loop) of sound contractors is
  sound; shaving (hull of the contractions of a family of slices covering the box) is sound.
-/
import IbexProofs.SetAlg

namespace Ibex.Ctc
open Ibex

abbrev Pt := List ℝ

def Sound (c : Box → Box) (S : Set Pt) : Prop := ∀ x p, Box.Mem p x → p ∈ S → Box.Mem p (c x)
def Contracting (c : Box → Box) : Prop := ∀ x p, Box.Mem p (c x) → Box.Mem p x

theorem sound_comp {c d : Box → Box} {S : Set Pt} (hc : Sound c S) (hd : Sound d S) :
    Sound (d ∘ c) S := fun x p hp hs => hd (c x) p (hc x p hp hs) hs

theorem contracting_comp {c d : Box → Box} (hc : Contracting c) (hd : Contracting d) :
    Contracting (d ∘ c) := fun x p hp => hc x p (hd (c x) p hp)

/-- a constraint-wise sound contractor is sound for the conjunction -/
theorem sound_mono {c : Box → Box} {S T : Set Pt} (h : Sound c S) (hTS : T ⊆ S) : Sound c T :=
  fun x p hp ht => h x p hp (hTS ht)

/-- any finite schedule of calls (propagation with any agenda, ratio, impact information…) -/
def run (cs : List (Box → Box)) (x : Box) : Box := cs.foldl (fun b c => c b) x

theorem run_sound {S : Set Pt} : ∀ (cs : List (Box → Box)), (∀ c ∈ cs, Sound c S) → Sound (run cs) S := by
  intro cs
  induction cs with
  | nil => intro _ x p hp _; exact hp
  | cons c cs ih =>
    intro h x p hp hs
    have hc : Sound c S := h c (by simp)
    have := ih (fun d hd => h d (by simp [hd])) (c x) p (hc x p hp hs) hs
    simpa [run] using this

theorem run_contracting : ∀ (cs : List (Box → Box)), (∀ c ∈ cs, Contracting c) → Contracting (run cs) := by
  intro cs
  induction cs with
  | nil => intro _ x p hp; exact hp
  | cons c cs ih =>
    intro h x p hp
    have hc : Contracting c := h c (by simp)
    have : Box.Mem p (run cs (c x)) := by simpa [run] using hp
    exact hc x p (ih (fun d hd => h d (by simp [hd])) (c x) p this)

/-- shaving certificate: `slices` cover `x` (every point of x is in some slice), each slice is
    contracted by a sound contractor, and `out` contains every contracted slice. -/
theorem shaving_sound {c : Box → Box} {S : Set Pt} (hc : Sound c S) {x out : Box} {slices : List Box}
    (hcover : ∀ p, Box.Mem p x → ∃ s ∈ slices, Box.Mem p s)
    (hout : ∀ s ∈ slices, ∀ p, Box.Mem p (c s) → Box.Mem p out) :
    ∀ p, Box.Mem p x → p ∈ S → Box.Mem p out := by
  intro p hp hs
  obtain ⟨s, hs1, hs2⟩ := hcover p hp
  exact hout s hs1 p (hc s p hs2 hs)

end Ibex.Ctc
