/-
  C19 — semantics of the combinator model over real points.

  `Mem p b`  : the real point `p` belongs to the box `b`.
  `BSub a b` : `a` is component-wise a sub-box of `b` (structural, implies inclusion of point sets).
  `CtcOK c S`: the contractor contract w.r.t. the set `S`:
      * the result is a sub-box of the input,
      * no point of `S` is removed,
      * the INACTIVE flag is raised only if nothing was removed.
  `OutOK x K I o`: the same three clauses for ONE call (input box `x`, output `o`), with the kept points `K` and the
      INACTIVE clause `I` as parameters: the form in which the loops with an accumulator or a stack are proved.
  `PdcOK t S`: a YES (NO) answer of the three-valued predicate on a box means all (none) of its points are in `S`.
  Each combinator is proved to meet the contract for arbitrary sub-contractors meeting it.
  `Mem` is `Box.Mem` of SetAlg under the name the statements of C19 use; the facts about it come from there.
-/
import IbexModel
import IbexProofs.Basic
import IbexProofs.Arith
import IbexProofs.Arith2
import IbexProofs.SetAlg
import Mathlib.Data.List.Forall2
import Mathlib.Data.Set.Basic

namespace Ibex.C19
open Ibex Ibex.Comb

abbrev Pt := List ℝ

def Mem (p : Pt) (b : Box) : Prop := List.Forall₂ (fun (v : ℝ) (I : Itv) => v ∈ I) p b

def BSub (a b : Box) : Prop := List.Forall₂ (fun I J => Itv.subset I J = true) a b

/-! ### lists -/

theorem sublist_forall₂ {α β : Type} {R : α → β → Prop} {as : List α} {bs : List β}
    (h : List.Forall₂ R as bs) : ∀ {subb : List β}, subb.Sublist bs →
      ∃ suba, suba.Sublist as ∧ List.Forall₂ R suba subb := by
  induction h with
  | nil => intro subb hs; cases hs; exact ⟨[], List.Sublist.slnil, List.Forall₂.nil⟩
  | @cons a b as bs hab _ ih =>
    intro subb hs
    cases hs with
    | cons _ hs' =>
      obtain ⟨suba, h1, h2⟩ := ih hs'
      exact ⟨suba, List.Sublist.cons a h1, h2⟩
    | cons_cons _ hs' =>
      obtain ⟨suba, h1, h2⟩ := ih hs'
      exact ⟨a :: suba, List.Sublist.cons_cons a h1, List.Forall₂.cons hab h2⟩

theorem forall₂_mem_left {α β : Type} {R : α → β → Prop} {as : List α} {bs : List β}
    (h : List.Forall₂ R as bs) : ∀ a ∈ as, ∃ b ∈ bs, R a b := by
  induction h with
  | nil => intro a ha; simp at ha
  | @cons a b as bs hab _ ih =>
    intro a' ha'
    rcases List.mem_cons.1 ha' with rfl | h'
    · exact ⟨b, List.mem_cons_self .., hab⟩
    · obtain ⟨b', hb', hr⟩ := ih a' h'
      exact ⟨b', List.mem_cons_of_mem _ hb', hr⟩

theorem forall₂_zipWith_left {α : Type} {R : α → α → Prop} {f : α → α → α} (hf : ∀ I J, R (f I J) I) :
    ∀ {x y : List α}, x.length = y.length → List.Forall₂ R (List.zipWith f x y) x
  | [], [], _ => List.Forall₂.nil
  | [], _ :: _, h => by simp at h
  | _ :: _, [], h => by simp at h
  | I :: x, J :: y, h => List.Forall₂.cons (hf I J) (forall₂_zipWith_left hf (by simpa using h))

theorem forall₂_zipWith_right {α : Type} {R : α → α → Prop} {f : α → α → α} (hf : ∀ I J, R (f I J) J) :
    ∀ {x y : List α}, x.length = y.length → List.Forall₂ R (List.zipWith f x y) y
  | [], [], _ => List.Forall₂.nil
  | [], _ :: _, h => by simp at h
  | _ :: _, [], h => by simp at h
  | I :: x, J :: y, h => List.Forall₂.cons (hf I J) (forall₂_zipWith_right hf (by simpa using h))

/-! ### intervals -/

theorem Itv.empty_subset (J : Itv) : Itv.subset .empty J = true := rfl

/-! ### boxes -/

theorem Mem.length_eq {p : Pt} {b : Box} (h : Mem p b) : p.length = b.length := List.Forall₂.length_eq h
theorem BSub.length_eq {a b : Box} (h : BSub a b) : a.length = b.length := List.Forall₂.length_eq h

theorem BSub.refl (a : Box) : BSub a a := List.forall₂_same.2 fun I _ => Itv.subset_refl I

theorem BSub.trans {a b c : Box} (h1 : BSub a b) (h2 : BSub b c) : BSub a c :=
  forall₂_comp h1 h2 fun _ _ _ => Itv.subset_trans

theorem BSub.mem {a b : Box} (h : BSub a b) {p : Pt} (hp : Mem p a) : Mem p b :=
  forall₂_comp hp h fun _ _ _ hv hI => Itv.mem_of_subset hI hv

theorem not_mem_of_isEmpty {b : Box} (h : Box.isEmpty b = true) (p : Pt) : ¬ Mem p b :=
  Box.not_mem_of_isEmpty h

theorem emptyLike_length (x : Box) : (emptyLike x).length = x.length := by simp [emptyLike]

theorem BSub_emptyLike_of_length {x y : Box} (h : x.length = y.length) : BSub (emptyLike x) y := by
  induction x generalizing y with
  | nil => cases y with
    | nil => exact List.Forall₂.nil
    | cons _ _ => simp at h
  | cons I x ih =>
    cases y with
    | nil => simp at h
    | cons J y => exact List.Forall₂.cons rfl (ih (by simpa using h))

theorem BSub_emptyLike (x : Box) : BSub (emptyLike x) x := BSub_emptyLike_of_length rfl

theorem norm_length (x : Box) : (norm x).length = x.length := by
  unfold norm; split <;> simp [emptyLike]

theorem BSub_norm (x : Box) : BSub (norm x) x := by
  unfold norm; split
  · exact BSub_emptyLike x
  · exact BSub.refl x

theorem mem_norm {p : Pt} {x : Box} (h : Mem p x) : Mem p (norm x) := by
  unfold norm; split
  · rename_i he; exact absurd h (not_mem_of_isEmpty he p)
  · exact h

theorem binter_length (x y : Box) : (binter x y).length = x.length := by
  unfold binter; split
  · rename_i h; rw [norm_length]; simp [Box.inter, h]
  · exact emptyLike_length x

theorem BSub_binter_left (x y : Box) : BSub (binter x y) x := by
  unfold binter; split
  · rename_i h; exact (BSub_norm _).trans (forall₂_zipWith_left Itv.inter_subset_left h)
  · exact BSub_emptyLike x

theorem BSub_binter_right {x y : Box} (h : x.length = y.length) : BSub (binter x y) y := by
  unfold binter; rw [if_pos h]
  exact (BSub_norm _).trans (forall₂_zipWith_right Itv.inter_subset_right h)

theorem mem_binter {p : Pt} {x y : Box} (hx : Mem p x) (hy : Mem p y) : Mem p (binter x y) := by
  have hl := hx.length_eq.symm.trans hy.length_eq
  unfold binter
  rw [if_pos hl]
  exact mem_norm ((Box.mem_inter hl).2 ⟨hx, hy⟩)

theorem mem_hull_left {p : Pt} {a b : Box} (ha : Mem p a) (hl : a.length = b.length) : Mem p (Box.hull a b) := by
  unfold Box.hull
  split
  · rename_i he; exact absurd ha (not_mem_of_isEmpty he p)
  · split
    · exact ha
    · exact Box.mem_zipWith_left (fun _ _ _ => Itv.mem_hull_left) ha hl

theorem mem_hull_right {p : Pt} {a b : Box} (hb : Mem p b) (hl : a.length = b.length) : Mem p (Box.hull a b) := by
  unfold Box.hull
  split
  · exact hb
  · split
    · rename_i he; exact absurd hb (not_mem_of_isEmpty he p)
    · exact Box.mem_zipWith_right (fun _ _ _ => Itv.mem_hull_right) hb hl

theorem hull_length {a b : Box} (h : a.length = b.length) : (Box.hull a b).length = a.length := by
  unfold Box.hull; split
  · exact h.symm
  · split
    · rfl
    · simp [h]

theorem BSub_zipWith_hull {a b x : Box} (ha : BSub a x) (hb : BSub b x) : BSub (List.zipWith Itv.hull a b) x := by
  induction ha generalizing b with
  | nil => cases hb; exact List.Forall₂.nil
  | cons hI _ ih =>
    cases hb with
    | cons hJ hb' => exact List.Forall₂.cons (Itv.hull_least hI hJ) (ih hb')

theorem BSub_hull {a b x : Box} (ha : BSub a x) (hb : BSub b x) : BSub (Box.hull a b) x := by
  unfold Box.hull
  split
  · exact hb
  · split
    · exact ha
    · exact BSub_zipWith_hull ha hb

theorem mem_of_subset {p : Pt} {x b : Box} (h : Box.subset x b = true) (hp : Mem p x) : Mem p b :=
  Box.subset_sound h hp

theorem not_mem_of_isDisjoint {p : Pt} {x b : Box} (h : Box.isDisjoint x b = true) (hx : Mem p x) : ¬ Mem p b := by
  intro hb
  simp [Box.isDisjoint, Box.intersects_of_common_point hx hb] at h

theorem boxEq_mem_iff {a b : Box} (h : boxEq a b = true) (p : Pt) : Mem p a ↔ Mem p b := by
  simp only [boxEq, Bool.or_eq_true, Bool.and_eq_true] at h
  rcases h with h | h
  · exact iff_of_false (not_mem_of_isEmpty h.1 p) (not_mem_of_isEmpty h.2 p)
  · rw [eq_of_beq h]

/-! ### the contractor contract -/

structure CtcOK (c : CtcFn) (S : Set Pt) : Prop where
  /-- the result is a sub-box of the input (whatever the impact) -/
  sub : ∀ x imp, BSub (c x imp).box x
  /-- no point of the set is lost -/
  sound : ∀ x imp p, Mem p x → p ∈ S → Mem p (c x imp).box
  /-- INACTIVE is reported only if nothing is removed -/
  inact : ∀ x imp, (c x imp).fl.inact = true → ∀ p, Mem p x → Mem p (c x imp).box

theorem CtcOK.mono {c : CtcFn} {S T : Set Pt} (h : CtcOK c S) (hTS : T ⊆ S) : CtcOK c T :=
  ⟨h.sub, fun x imp p hp hT => h.sound x imp p hp (hTS hT), h.inact⟩

theorem CtcOK.contracting {c : CtcFn} {S : Set Pt} (h : CtcOK c S) (x : Box) (imp : Imp) (p : Pt)
    (hp : Mem p (c x imp).box) : Mem p x := (h.sub x imp).mem hp

/-- the contract on one call: the output `o` for the input box `x` is a sub-box, keeps the points of `x` satisfying
    `K`, and raises INACTIVE only if `I` holds of the result (`Full x`: nothing was removed) -/
structure OutOK (x : Box) (K : Pt → Prop) (I : Box → Prop) (o : Out) : Prop where
  sub : BSub o.box x
  keep : ∀ p, Mem p x → K p → Mem p o.box
  inact : o.fl.inact = true → I o.box

def Full (x b : Box) : Prop := ∀ p, Mem p x → Mem p b

theorem OutOK.imp_keep {x : Box} {K K' : Pt → Prop} {I : Box → Prop} {o : Out} (h : OutOK x K' I o)
    (hK : ∀ p, K p → K' p) : OutOK x K I o :=
  ⟨h.sub, fun p hp hk => h.keep p hp (hK p hk), h.inact⟩

theorem CtcOK.out {c : CtcFn} {S : Set Pt} (h : CtcOK c S) (x : Box) (imp : Imp) :
    OutOK x (· ∈ S) (Full x) (c x imp) := ⟨h.sub x imp, h.sound x imp, h.inact x imp⟩

theorem CtcOK.of_out {c : CtcFn} {S : Set Pt} (h : ∀ x imp, OutOK x (· ∈ S) (Full x) (c x imp)) : CtcOK c S :=
  ⟨fun x imp => (h x imp).sub, fun x imp => (h x imp).keep, fun x imp => (h x imp).inact⟩

/-! ### synthetic leaves -/

def unionSet (U : List Box) : Set Pt := {p | ∃ b ∈ U, Mem p b}

theorem BSub_foldl_hull {α : Type} (x : Box) (f : α → Box) (hf : ∀ a, BSub (f a) x) :
    ∀ (l : List α) (acc : Box), BSub acc x → BSub (l.foldl (fun acc a => Box.hull acc (f a)) acc) x
  | [], _, h => h
  | a :: l, acc, h => BSub_foldl_hull x f hf l _ (BSub_hull h (hf a))

theorem mem_foldl_hull {α : Type} (x : Box) (f : α → Box) (hf : ∀ a, BSub (f a) x) {p : Pt} :
    ∀ (l : List α) (acc : Box), BSub acc x → (Mem p acc ∨ ∃ a ∈ l, Mem p (f a)) →
      Mem p (l.foldl (fun acc a => Box.hull acc (f a)) acc)
  | [], acc, _, h => by
    rcases h with h | ⟨a, ha, _⟩
    · exact h
    · simp at ha
  | a :: l, acc, hacc, h => by
    have hl : acc.length = (f a).length := hacc.length_eq.trans (hf a).length_eq.symm
    apply mem_foldl_hull x f hf l _ (BSub_hull hacc (hf a))
    rcases h with h | ⟨a', ha', hp'⟩
    · exact Or.inl (mem_hull_left h hl)
    · rcases List.mem_cons.1 ha' with rfl | ha''
      · exact Or.inl (mem_hull_right hp' hl)
      · exact Or.inr ⟨a', ha'', hp'⟩

theorem BSub_ctcU_aux (x : Box) (U : List Box) (acc : Box) (h : BSub acc x) :
    BSub (U.foldl (fun acc b => Box.hull acc (binter x b)) acc) x :=
  BSub_foldl_hull x (binter x) (BSub_binter_left x) U acc h

theorem mem_ctcU_aux (x : Box) (p : Pt) (hx : Mem p x) (U : List Box) (acc : Box) (hacc : BSub acc x)
    (h : Mem p acc ∨ ∃ b ∈ U, Mem p b) : Mem p (U.foldl (fun acc b => Box.hull acc (binter x b)) acc) :=
  mem_foldl_hull x (binter x) (BSub_binter_left x) U acc hacc
    (h.imp_right fun ⟨b, hb, hp⟩ => ⟨b, hb, mem_binter hx hp⟩)

theorem leaf_ok (L : LeafCfg) : CtcOK (leafF L) (unionSet L.boxes) where
  sub x _ := BSub_ctcU_aux x L.boxes _ (BSub_emptyLike x)
  sound x _ p hp hS := mem_ctcU_aux x p hp L.boxes _ (BSub_emptyLike x) (Or.inr hS)
  inact x _ h p hp := by
    simp only [leafF, Bool.and_eq_true, List.any_eq_true] at h
    obtain ⟨_, b, hb, hsub⟩ := h
    exact mem_ctcU_aux x p hp L.boxes _ (BSub_emptyLike x) (Or.inr ⟨b, hb, mem_of_subset hsub hp⟩)

/-! ### CtcIdentity, CtcEmpty -/

theorem id_ok : CtcOK idF Set.univ where
  sub x _ := BSub.refl x
  sound _ _ _ hp _ := hp
  inact _ _ _ _ hp := hp

theorem empty_ok : CtcOK emptyF (∅ : Set Pt) where
  sub x _ := BSub_emptyLike x
  sound _ _ _ _ hS := absurd hS (Set.notMem_empty _)
  inact _ _ h := by simp [emptyF] at h

/-! ### the intersection and the union of a list of sets -/

def interSets (Ss : List (Set Pt)) : Set Pt := {p | ∀ S ∈ Ss, p ∈ S}
def unionSets (Ss : List (Set Pt)) : Set Pt := {p | ∃ S ∈ Ss, p ∈ S}

theorem interSets_nil : interSets [] = Set.univ := Set.ext fun _ => iff_of_true (fun _ h => nomatch h) trivial
theorem interSets_cons (S : Set Pt) (Ss : List (Set Pt)) : interSets (S :: Ss) = S ∩ interSets Ss :=
  Set.ext fun _ => List.forall_mem_cons
theorem unionSets_nil : unionSets [] = ∅ := Set.ext fun _ => iff_of_false (fun ⟨_, h, _⟩ => nomatch h) id
theorem unionSets_cons (S : Set Pt) (Ss : List (Set Pt)) : unionSets (S :: Ss) = S ∪ unionSets Ss :=
  Set.ext fun q => List.exists_mem_cons_iff (q ∈ ·) S Ss

/-! ### CtcCompo: keeps every point kept by all the components -/

/-- the accumulator `inactive` of `compoGo` is the conjunction of the INACTIVE flags seen so far: a final INACTIVE
    means that it was set at the start and that no component removed anything -/
theorem compoGo_ok {cs : List CtcFn} {Ss : List (Set Pt)} (h : List.Forall₂ CtcOK cs Ss) (impIn : Imp) :
    ∀ (box : Box) (ci : Imp) (inactive : Bool) (lf : Flags) (gu : Bool),
      OutOK box (· ∈ interSets Ss) (fun b => inactive = true ∧ Full box b)
        (compoGo impIn cs box ci inactive lf gu) := by
  induction h with
  | nil =>
    intro box ci inactive lf gu
    refine ⟨BSub.refl box, fun p hp _ => hp, fun hi => ⟨?_, fun p hp => hp⟩⟩
    cases inactive with
    | true => rfl
    | false => exact nomatch hi
  | @cons c S cs Ss hc _ ih =>
    intro box ci inactive lf gu
    simp only [compoGo]
    refine ite_cases (fun he => ⟨BSub_emptyLike box, fun p hp hS => ?_, fun hi => nomatch hi⟩) fun _ => ?_
    · exact absurd (hc.sound box ci p hp (hS S (List.mem_cons_self ..))) (not_mem_of_isEmpty he p)
    · have i := ih (c box ci).box (c box ci).imp (inactive && (c box ci).fl.inact) (c box ci).fl (gu || (c box ci).fl.gaveUp)
      refine ⟨i.sub.trans (hc.sub box ci), fun p hp hS => i.keep p (hc.sound box ci p hp (hS S (List.mem_cons_self ..)))
        fun T hT => hS T (List.mem_cons_of_mem _ hT), fun hi => ?_⟩
      obtain ⟨hia, hk⟩ := i.inact hi
      rw [Bool.and_eq_true] at hia
      exact ⟨hia.1, fun p hp => hk p (hc.inact box ci hia.2 p hp)⟩

theorem compo_ok {cs : List CtcFn} {Ss : List (Set Pt)} (h : List.Forall₂ CtcOK cs Ss) :
    CtcOK (compoF cs) (interSets Ss) :=
  .of_out fun x imp =>
    let i := compoGo_ok h imp x (allImp x) true {} false
    ⟨i.sub, i.keep, fun hi => (i.inact hi).2⟩

/-! ### CtcUnion: keeps every point kept by at least one component -/

theorem unionGo_ok {cs : List CtcFn} {Ss : List (Set Pt)} (h : List.Forall₂ CtcOK cs Ss) (x : Box) (imp : Imp) :
    ∀ (res : Box) (gu : Bool), BSub res x →
      OutOK x (fun p => Mem p res ∨ p ∈ unionSets Ss) (Full x) (unionGo x imp cs res gu) := by
  induction h with
  | nil =>
    intro res gu hres
    exact ⟨hres, fun p _ hp => hp.elim id fun ⟨_, hS, _⟩ => (List.not_mem_nil hS).elim, fun hi => nomatch hi⟩
  | @cons c S cs Ss hc _ ih =>
    intro res gu hres
    have hsub := hc.sub x imp
    have hl : res.length = (c x imp).box.length := hres.length_eq.trans hsub.length_eq.symm
    have hres' : BSub (Box.hull res (c x imp).box) x := BSub_hull hres hsub
    simp only [unionGo]
    refine ite_cases (fun hi => ?_) fun _ => ?_
    · have hfull : Full x (Box.hull res (c x imp).box) := fun p hp => mem_hull_right (hc.inact x imp hi p hp) hl
      exact ⟨hres', fun p hp _ => hfull p hp, fun _ => hfull⟩
    · have i := ih (Box.hull res (c x imp).box) (gu || (c x imp).fl.gaveUp) hres'
      refine ⟨i.sub, fun p hp hS => i.keep p hp ?_, i.inact⟩
      rcases hS with hS | ⟨T, hT, hpT⟩
      · exact Or.inl (mem_hull_left hS hl)
      · rcases List.mem_cons.1 hT with rfl | hT'
        · exact Or.inl (mem_hull_right (hc.sound x imp p hp hpT) hl)
        · exact Or.inr ⟨T, hT', hpT⟩

theorem union_ok {cs : List CtcFn} {Ss : List (Set Pt)} (h : List.Forall₂ CtcOK cs Ss) :
    CtcOK (unionF cs) (unionSets Ss) :=
  .of_out fun x imp =>
    let i := unionGo_ok h x imp (emptyLike x) false (BSub_emptyLike x)
    ⟨i.sub, fun p hp hS => i.keep p hp (Or.inr hS), i.inact⟩

/-! ### CtcFixPoint: any number of iterations, any ratio -/

/-- `fixGo` reports INACTIVE only together with `boxEq init o.box`: that is the INACTIVE clause here, and it gives
    `Full` once `init` is the input box (`fix_ok`) -/
theorem fixGo_ok {c : CtcFn} {S : Set Pt} (hc : CtcOK c S) (ratio : Ext) (init : Box) :
    ∀ (n : Nat) (box : Box) (ci : Imp) (gu : Bool),
      OutOK box (· ∈ S) (fun b => boxEq init b = true) (fixGo c ratio init n box ci gu) := by
  intro n
  induction n with
  | zero => intro box ci gu; exact ⟨BSub.refl box, fun p hp _ => hp, fun hi => nomatch hi⟩
  | succ n ih =>
    intro box ci gu
    have o := hc.out box ci
    simp only [fixGo]
    refine ite_cases (fun he => ?_) fun _ => ite_cases (fun _ => ?_) fun _ => ?_
    · exact ⟨BSub_emptyLike box, fun p hp hS => absurd (o.keep p hp hS) (not_mem_of_isEmpty he p),
        fun hi => (Bool.and_eq_true_iff.1 hi).2⟩
    · have i := ih (c box ci).box (List.zipWith (fun a b => a != b) (c box ci).box box) (gu || (c box ci).fl.gaveUp)
      exact ⟨i.sub.trans o.sub, fun p hp hS => i.keep p (o.keep p hp hS) hS, i.inact⟩
    · exact ⟨o.sub, o.keep, fun hi => (Bool.and_eq_true_iff.1 hi).2⟩

theorem fix_ok {c : CtcFn} {S : Set Pt} (hc : CtcOK c S) (fuel : Nat) (ratio : Ext) :
    CtcOK (fixF fuel c ratio) S :=
  .of_out fun x imp =>
    let i := fixGo_ok hc ratio x fuel x imp false
    ⟨i.sub, i.keep, fun hi p hp => (boxEq_mem_iff (i.inact hi) p).1 hp⟩

/-! ### CtcInteger: keeps the points whose masked components are integers -/

def intSet (mask : List Bool) : Set Pt :=
  {p | List.Forall₂ (fun (b : Bool) (v : ℝ) => b = true → ∃ n : ℤ, v = n) mask p}

theorem BSub_integerGo (mask : List Bool) (imp : Imp) (x : Box) : BSub (integerGo mask imp x) x := by
  induction x generalizing mask imp with
  | nil => cases mask <;> cases imp <;> simp [integerGo] <;> exact List.Forall₂.nil
  | cons I xs ih =>
    cases mask with
    | nil => simp only [integerGo]; exact BSub.refl _
    | cons m ms =>
      cases imp with
      | nil => simp only [integerGo]; exact BSub.refl _
      | cons i is =>
        simp only [integerGo]
        refine List.Forall₂.cons ?_ (ih ms is)
        split
        · exact Itv.inter_subset_left _ _
        · exact Itv.subset_refl _

theorem mem_integerGo {p : Pt} {x : Box} (hp : Mem p x) :
    ∀ (mask : List Bool) (imp : Imp), p ∈ intSet mask → Mem p (integerGo mask imp x) := by
  induction hp with
  | nil => intro mask imp _; cases mask <;> cases imp <;> simp [integerGo] <;> exact List.Forall₂.nil
  | @cons v I p' x' hv hp' ih =>
    intro mask imp hS
    cases mask with
    | nil => simp only [integerGo]; exact List.Forall₂.cons hv hp'
    | cons m ms =>
      cases imp with
      | nil => simp only [integerGo]; exact List.Forall₂.cons hv hp'
      | cons i is =>
        cases hS with
        | cons hm hS' =>
          simp only [integerGo]
          refine List.Forall₂.cons ?_ (ih ms is hS')
          split
          · rename_i hmi
            simp only [Bool.and_eq_true] at hmi
            exact Itv.mem_inter.2 ⟨hv, Itv.integer_encl hv (hm hmi.1)⟩
          · exact hv

theorem integer_ok (mask : List Bool) : CtcOK (integerF mask) (intSet mask) :=
  .of_out fun x imp => by
    have hkeep : ∀ p, Mem p x → p ∈ intSet mask → Mem p (integerGo mask imp x) := fun p hp => mem_integerGo hp mask imp
    simp only [integerF]
    exact ite_cases
      (fun he => ⟨BSub_emptyLike x, fun p hp hS => absurd (hkeep p hp hS) (not_mem_of_isEmpty he p), fun hi => nomatch hi⟩)
      fun _ => ⟨BSub_integerGo mask imp x, hkeep, fun hi => nomatch hi⟩

/-! ### q-intersection: keeps every point that belongs to at least `q` of the sets -/

/-- the points that belong to at least `q` of the sets (a sub-list of `q` sets all containing the point) -/
def atLeast (q : Nat) (Ss : List (Set Pt)) : Set Pt :=
  {p | ∃ sub : List (Set Pt), sub.Sublist Ss ∧ sub.length = q ∧ ∀ S ∈ sub, p ∈ S}

theorem mem_choose {α : Type} {l sub : List α} (h : sub.Sublist l) : ∀ q, sub.length = q → sub ∈ choose q l := by
  induction h with
  | slnil => intro q hq; subst hq; simp [choose]
  | @cons sub l a _ ih =>
    intro q hq
    cases q with
    | zero =>
      have : sub = [] := List.length_eq_zero_iff.1 hq
      subst this; simp [choose]
    | succ k =>
      simp only [choose, List.mem_append]
      exact Or.inr (ih (k + 1) hq)
  | @cons_cons sub l a _ ih =>
    intro q hq
    cases q with
    | zero => simp at hq
    | succ k =>
      simp only [choose, List.mem_append, List.mem_map]
      exact Or.inl ⟨sub, ih k (by simpa using hq), rfl⟩

theorem BSub_interAll (x : Box) : ∀ (l : List Box) (acc : Box), BSub acc x → BSub (l.foldl binter acc) x
  | [], _, h => h
  | b :: l, acc, h => BSub_interAll x l _ ((BSub_binter_left acc b).trans h)

theorem mem_interAll {p : Pt} : ∀ (l : List Box) (acc : Box), Mem p acc → (∀ b ∈ l, Mem p b) →
    Mem p (l.foldl binter acc)
  | [], _, h, _ => h
  | b :: l, acc, h, hl =>
    mem_interAll l _ (mem_binter h (hl b (List.mem_cons_self ..))) (fun b' hb' => hl b' (List.mem_cons_of_mem _ hb'))

theorem BSub_qinterSpec (x : Box) (boxes : List Box) (q : Nat) : BSub (qinterSpec x boxes q) x :=
  BSub_foldl_hull x (interAll x) (fun sub => BSub_interAll x sub x (BSub.refl x)) _ _ (BSub_emptyLike x)

theorem mem_qinterSpec {x : Box} {boxes sub : List Box} {q : Nat} {p : Pt} (hx : Mem p x)
    (hs : sub.Sublist boxes) (hq : sub.length = q) (hp : ∀ b ∈ sub, Mem p b) : Mem p (qinterSpec x boxes q) :=
  mem_foldl_hull x (interAll x) (fun sub => BSub_interAll x sub x (BSub.refl x)) _ _ (BSub_emptyLike x)
    (Or.inr ⟨sub, mem_choose hs q hq, mem_interAll sub x hx hp⟩)

/-- boxes that keep, inside `x`, the points of their sets: the q-intersection keeps the points of `q` of the sets -/
theorem mem_qinterSpec_of_atLeast {x : Box} {boxes : List Box} {Ts : List (Set Pt)} {q : Nat} {p : Pt}
    (hrel : List.Forall₂ (fun (b : Box) (T : Set Pt) => ∀ p, Mem p x → p ∈ T → Mem p b) boxes Ts)
    (hp : Mem p x) (hS : p ∈ atLeast q Ts) : Mem p (qinterSpec x boxes q) := by
  obtain ⟨subS, hsub, hlen, hall⟩ := hS
  obtain ⟨subB, hsB, hr⟩ := sublist_forall₂ hrel hsub
  refine mem_qinterSpec hp hsB (hr.length_eq.trans hlen) ?_
  intro b hb
  obtain ⟨T, hT, hbT⟩ := forall₂_mem_left hr b hb
  exact hbT p hp (hall T hT)

theorem qinter_boxes_keep {cs : List CtcFn} {Ss : List (Set Pt)} (h : List.Forall₂ CtcOK cs Ss) (x : Box) (imp : Imp) :
    List.Forall₂ (fun (b : Box) (S : Set Pt) => ∀ p, Mem p x → p ∈ S → Mem p b)
      ((cs.map fun c => c x imp).map (·.box)) Ss := by
  induction h with
  | nil => exact List.Forall₂.nil
  | cons hc _ ih => exact List.Forall₂.cons (fun p hp hS => hc.sound x imp p hp hS) ih

theorem qinter_ok {cs : List CtcFn} {Ss : List (Set Pt)} (h : List.Forall₂ CtcOK cs Ss) (q : Nat) :
    CtcOK (qinterF cs q) (atLeast q Ss) where
  sub x imp := BSub_qinterSpec x _ q
  sound x imp p hp hS := mem_qinterSpec_of_atLeast (qinter_boxes_keep h x imp) hp hS
  inact x imp hi := by simp [qinterF] at hi

/-! ### predicates (three-valued) and `CtcEmpty(pdc)` -/

/-- what an answer claims about the points of `x` w.r.t. the set `S` -/
def PdcVal (r : BoolItv) (x : Box) (S : Set Pt) : Prop :=
  (r = .yes → ∀ q, Mem q x → q ∈ S) ∧ (r = .no → ∀ q, Mem q x → q ∉ S)

def PdcOK (t : PdcFn) (S : Set Pt) : Prop := ∀ x, PdcVal (t x) x S

theorem BoolItv.and_eq_yes {r t : BoolItv} (h : BoolItv.and r t = .yes) : r = .yes ∧ t = .yes := by
  cases r <;> cases t <;> simp [BoolItv.and] at h ⊢
theorem BoolItv.and_eq_no {r t : BoolItv} (h : BoolItv.and r t = .no) : r = .no ∨ t = .no := by
  cases r <;> cases t <;> simp [BoolItv.and] at h ⊢
theorem BoolItv.or_eq_yes {r t : BoolItv} (h : BoolItv.or r t = .yes) : r = .yes ∨ t = .yes := by
  cases r <;> cases t <;> simp [BoolItv.or] at h ⊢
theorem BoolItv.or_eq_no {r t : BoolItv} (h : BoolItv.or r t = .no) : r = .no ∧ t = .no := by
  cases r <;> cases t <;> simp [BoolItv.or] at h ⊢
theorem BoolItv.not_eq_yes {r : BoolItv} (h : BoolItv.not r = .yes) : r = .no := by
  cases r <;> simp [BoolItv.not] at h ⊢
theorem BoolItv.not_eq_no {r : BoolItv} (h : BoolItv.not r = .no) : r = .yes := by
  cases r <;> simp [BoolItv.not] at h ⊢

theorem PdcVal.and {r t : BoolItv} {x : Box} {A B : Set Pt} (h1 : PdcVal r x A) (h2 : PdcVal t x B) :
    PdcVal (BoolItv.and r t) x (A ∩ B) := by
  constructor
  · intro h q hq
    obtain ⟨hr, ht⟩ := BoolItv.and_eq_yes h
    exact ⟨h1.1 hr q hq, h2.1 ht q hq⟩
  · intro h q hq hAB
    rcases BoolItv.and_eq_no h with hr | ht
    · exact h1.2 hr q hq hAB.1
    · exact h2.2 ht q hq hAB.2

theorem PdcVal.or {r t : BoolItv} {x : Box} {A B : Set Pt} (h1 : PdcVal r x A) (h2 : PdcVal t x B) :
    PdcVal (BoolItv.or r t) x (A ∪ B) := by
  constructor
  · intro h q hq
    rcases BoolItv.or_eq_yes h with hr | ht
    · exact Or.inl (h1.1 hr q hq)
    · exact Or.inr (h2.1 ht q hq)
  · intro h q hq hAB
    obtain ⟨hr, ht⟩ := BoolItv.or_eq_no h
    exact hAB.elim (h1.2 hr q hq) (h2.2 ht q hq)

theorem PdcVal.not {r : BoolItv} {x : Box} {A : Set Pt} (h : PdcVal r x A) : PdcVal (BoolItv.not r) x Aᶜ :=
  ⟨fun hn q hq => h.2 (BoolItv.not_eq_yes hn) q hq, fun hn q hq hA => hA (h.1 (BoolItv.not_eq_no hn) q hq)⟩

/-- an accepted implementation answer (equal to the logical answer, or MAYBE) claims nothing false -/
theorem PdcVal.of_okFor {spec impl : BoolItv} {x : Box} {S : Set Pt} (h : BoolItv.okFor spec impl = true)
    (hs : PdcVal spec x S) : PdcVal impl x S := by
  simp only [BoolItv.okFor, Bool.or_eq_true, beq_iff_eq] at h
  rcases h with h | h
  · exact h ▸ hs
  · subst h; exact ⟨(fun h => nomatch h), (fun h => nomatch h)⟩

theorem pdcAnd_fold {ps : List PdcFn} {Ss : List (Set Pt)} (h : List.Forall₂ PdcOK ps Ss) (x : Box) :
    ∀ (r : BoolItv) (A : Set Pt), PdcVal r x A →
      PdcVal (ps.foldl (fun r p' => BoolItv.and r (p' x)) r) x (A ∩ interSets Ss) := by
  induction h with
  | nil => intro r A hr; rwa [interSets_nil, Set.inter_univ]
  | @cons p S ps Ss hp _ ih =>
    intro r A hr
    rw [interSets_cons, ← Set.inter_assoc]
    exact ih (BoolItv.and r (p x)) (A ∩ S) (hr.and (hp x))

theorem pdcAnd_ok {ps : List PdcFn} {Ss : List (Set Pt)} (h : List.Forall₂ PdcOK ps Ss) :
    PdcOK (pdcAndF ps) (interSets Ss) := by
  intro x
  cases h with
  | nil => exact ⟨fun _ q _ S hS => (List.not_mem_nil hS).elim, fun h => nomatch h⟩
  | @cons p S ps Ss hp hps => rw [interSets_cons]; exact pdcAnd_fold hps x (p x) S (hp x)

theorem pdcOr_fold {ps : List PdcFn} {Ss : List (Set Pt)} (h : List.Forall₂ PdcOK ps Ss) (x : Box) :
    ∀ (r : BoolItv) (A : Set Pt), PdcVal r x A →
      PdcVal (ps.foldl (fun r p' => BoolItv.or r (p' x)) r) x (A ∪ unionSets Ss) := by
  induction h with
  | nil => intro r A hr; rwa [unionSets_nil, Set.union_empty]
  | @cons p S ps Ss hp _ ih =>
    intro r A hr
    rw [unionSets_cons, ← Set.union_assoc]
    exact ih (BoolItv.or r (p x)) (A ∪ S) (hr.or (hp x))

theorem pdcOr_ok {ps : List PdcFn} {Ss : List (Set Pt)} (h : List.Forall₂ PdcOK ps Ss) :
    PdcOK (pdcOrF ps) (unionSets Ss) := by
  intro x
  cases h with
  | nil => exact ⟨(nomatch ·), fun _ q _ ⟨_, hS, _⟩ => nomatch hS⟩
  | @cons p S ps Ss hp hps => rw [unionSets_cons]; exact pdcOr_fold hps x (p x) S (hp x)

theorem pdcNot_ok {t : PdcFn} {S : Set Pt} (h : PdcOK t S) : PdcOK (pdcNotF t) Sᶜ := fun x => (h x).not

theorem all2_length {f : Itv → Itv → Bool} {x b : Box} (h : Box.all2 f x b = true) : x.length = b.length :=
  (Box.all2_iff.1 h).length_eq

/-- synthetic predicate leaf `(U,V)` in dimension `n` (the boxes of `V` have dimension `n`, and `U`,`V`
    cover the `n`-dimensional space): sound for the complement of `⋃V` -/
theorem pdcLeaf_ok (n : Nat) (U V : List Box) (hV : ∀ b ∈ V, b.length = n)
    (hcov : ∀ p : Pt, p.length = n → p ∈ unionSet U ∨ p ∈ unionSet V) :
    PdcOK (pdcLeafF U V) (unionSet V)ᶜ := by
  intro x
  unfold pdcLeafF
  split
  · rename_i hv
    refine ⟨fun _ q hq => ?_, (fun h => nomatch h)⟩
    rintro ⟨b, hb, hqb⟩
    exact not_mem_of_isDisjoint (List.all_eq_true.1 hv b hb) hq hqb
  · split
    · rename_i hv hu
      refine ⟨(fun h => nomatch h), fun _ q hq hS => ?_⟩
      -- some box of V meets x, hence x has dimension n
      have hx : x.length = n := by
        by_contra hne
        apply hv
        rw [List.all_eq_true]
        intro b hb
        cases hd : Box.isDisjoint x b with
        | true => rfl
        | false =>
          exfalso
          have hi : Box.intersects x b = true := by simpa [Box.isDisjoint] using hd
          simp only [Box.intersects, Bool.and_eq_true] at hi
          exact hne ((all2_length hi.2).trans (hV b hb))
      rcases hcov q (hq.length_eq.trans hx) with ⟨b, hb, hqb⟩ | hqV
      · exact not_mem_of_isDisjoint (List.all_eq_true.1 hu b hb) hq hqb
      · exact hS hqV
    · exact ⟨(fun h => nomatch h), (fun h => nomatch h)⟩

/-- `CtcEmpty(pdc)`: the points outside the set of the predicate are kept -/
theorem ofPdc_ok {t : PdcFn} {S : Set Pt} (h : PdcOK t S) : CtcOK (ofPdcF t) Sᶜ :=
  .of_out fun x imp => by
    simp only [ofPdcF]
    exact ite_cases (fun hy => ⟨BSub_emptyLike x, fun p hp hS => absurd ((h x).1 hy p hp) hS, fun hi => nomatch hi⟩)
      fun _ => ⟨BSub.refl x, fun p hp _ => hp, fun hi => nomatch hi⟩

/-! ### CtcInverse, CtcNotIn (abstract forward / backward operators) -/

/-- inverse image: `fwd` encloses the image, `bwd` keeps the points whose image is in `y` -/
theorem inverse_ok {c : CtcFn} {S : Set Pt} (hc : CtcOK c S) (f : Pt → Pt) (fwd : Box → Box) (bwd : Box → Box → Box)
    (hfwd : ∀ x p, Mem p x → Mem (f p) (fwd x))
    (hbwd : ∀ y x p, Mem p x → Mem (f p) y → Mem p (bwd y x))
    (hsub : ∀ y x, BSub (bwd y x) x) :
    CtcOK (inverseF c fwd bwd) {p | f p ∈ S} :=
  .of_out fun x imp => by
    have o := hc.out (fwd x) (allImp (fwd x))
    have hy : ∀ p, Mem p x → f p ∈ S → Mem (f p) (c (fwd x) (allImp (fwd x))).box :=
      fun p hp hS => o.keep (f p) (hfwd x p hp) hS
    simp only [inverseF]
    refine ite_cases (fun he => ?_) fun _ => ite_cases (fun _ => ?_) fun _ => ?_
    · exact ⟨BSub_emptyLike x, fun p hp hS => absurd (hy p hp hS) (not_mem_of_isEmpty he _), fun hi => nomatch hi⟩
    · exact ⟨BSub.refl x, fun p hp _ => hp, fun _ p hp => hp⟩
    · exact ⟨hsub _ x, fun p hp hS => hbwd _ x p hp (hy p hp hS), fun hi => nomatch hi⟩

/-- not-in: the pieces cover the complement of `Y` -/
theorem notIn_ok {cs : List CtcFn} {Ss : List (Set Pt)} (h : List.Forall₂ CtcOK cs Ss) (Y : Set Pt)
    (hcover : ∀ p, p ∉ Y → p ∈ unionSets Ss) : CtcOK (notInF cs) Yᶜ := by
  have hu := (union_ok h).mono (T := Yᶜ) (fun p hp => hcover p hp)
  -- `notInF` is `emptyF` for no piece, the piece itself for one piece, the union otherwise
  cases h with
  | nil =>
    refine empty_ok.mono ?_
    intro p hp
    obtain ⟨S, hS, _⟩ := hcover p hp
    simp at hS
  | @cons c S cs Ss hc hcs =>
    cases hcs with
    | nil =>
      refine hc.mono ?_
      intro p hp
      obtain ⟨T, hT, hpT⟩ := hcover p hp
      simp only [List.mem_singleton] at hT
      exact hT ▸ hpT
    | cons _ _ => exact hu

end Ibex.C19
