/-
  The binary64 operators of `IbexModel.Itv` that have a rounding-generic form are that form at
  `Rnd.dbl`, so their enclosure theorems are instances of those of `ArithG.lean`.
-/
import IbexProofs.ArithG

namespace Ibex
open Ibex

theorem Itv.addLo_eq : Itv.addLo = Itv.addLoG Rnd.dbl := by rfl

theorem Itv.addHi_eq : Itv.addHi = Itv.addHiG Rnd.dbl := by rfl

theorem Itv.add_eq : Itv.add = Itv.addG Rnd.dbl := by rfl

theorem Itv.sub_eq : Itv.sub = Itv.subG Rnd.dbl := by rfl

theorem Itv.mul_eq : Itv.mul = Itv.mulG Rnd.dbl := by rfl

theorem Itv.divPos_eq : Itv.divPos = Itv.divPosG Rnd.dbl := by rfl

theorem Itv.div_eq : Itv.div = Itv.divG Rnd.dbl := by rfl

theorem Itv.sqr_eq : Itv.sqr = Itv.sqrG Rnd.dbl := by rfl

theorem Itv.powNat_eq : Itv.powNat = Itv.powNatG Rnd.dbl := by rfl

theorem addLo_le (a c : Ext) (x y : ℝ) (hx : a.toE ≤ x) (hy : c.toE ≤ y) :
    (Itv.addLo a c).toE ≤ ((x + y : ℝ) : EReal) :=
  Itv.addLo_eq ▸ addLoG_le Rnd.dbl_sound a c x y hx hy

theorem le_addHi (b d : Ext) (x y : ℝ) (hx : (x : EReal) ≤ b.toE) (hy : (y : EReal) ≤ d.toE) :
    ((x + y : ℝ) : EReal) ≤ (Itv.addHi b d).toE :=
  Itv.addHi_eq ▸ le_addHiG Rnd.dbl_sound b d x y hx hy

theorem Itv.add_encl {X Y : Itv} {x y : ℝ} (hx : x ∈ X) (hy : y ∈ Y) : x + y ∈ Itv.add X Y :=
  Itv.add_eq ▸ Itv.addG_encl Rnd.dbl_sound hx hy

theorem Itv.sub_encl {X Y : Itv} {x y : ℝ} (hx : x ∈ X) (hy : y ∈ Y) : x - y ∈ Itv.sub X Y :=
  Itv.sub_eq ▸ Itv.subG_encl Rnd.dbl_sound hx hy

theorem Itv.mul_encl {X Y : Itv} {x y : ℝ} (hx : x ∈ X) (hy : y ∈ Y) : x * y ∈ Itv.mul X Y :=
  Itv.mul_eq ▸ Itv.mulG_encl Rnd.dbl_sound hx hy

theorem Itv.divPos_encl {a b c d : Ext} {x y : ℝ} (hx : x ∈ Itv.mk a b) (hy : y ∈ Itv.mk c d)
    (hc : 0 < c.toE) : x / y ∈ Itv.divPos a b c d :=
  Itv.divPosG_encl Rnd.dbl_sound hx hy hc

theorem Itv.div_encl {X Y : Itv} {x y : ℝ} (hx : x ∈ X) (hy : y ∈ Y) (hy0 : y ≠ 0) :
    x / y ∈ Itv.div X Y :=
  Itv.div_eq ▸ Itv.divG_encl Rnd.dbl_sound hx hy hy0

theorem Itv.sqr_encl {X : Itv} {x : ℝ} (hx : x ∈ X) : x * x ∈ Itv.sqr X :=
  Itv.sqr_eq ▸ Itv.sqrG_encl Rnd.dbl_sound hx

theorem Itv.powNat_encl {X : Itv} {x : ℝ} (n : ℕ) (hx : x ∈ X) : x ^ n ∈ Itv.powNat X n :=
  Itv.powNat_eq ▸ Itv.powNatG_encl Rnd.dbl_sound n hx

end Ibex
