/-
  Soundness of the interval forward-mode differentiation (`Alg.idualG r`, `Alg.idual`), of the interval
  evaluation `Alg.itvG r` and of the uniqueness certificate of `IbexModel/Newton.lean`, for EVERY sound
  rounding pair `r` (`Rnd.Sound r`; in particular `Rnd.exact` — exact rational interval arithmetic — and
  `Rnd.dbl`, whose operators are those of `IbexModel/Itv.lean` by unfolding).

  Every operator of `Alg.idualG r n` encloses the value AND the gradient of the real operator (relation
  `IRel n p` between an `IDual` and a function germ at the point `p`), hence (naturality of the evaluator,
  `EvalNat.lean`) so does the evaluation of every DAG: `jacobianG_encl`.  `Alg.idual n` is
  `Alg.idualG Rnd.dbl n` except for the integer powers (`Itv.powInt` rounds once, `Itv.powIntG` twice).
  Linear algebra: a strictly diagonally dominant interval matrix contains only regular matrices, and the
  interval product encloses the real product, hence `regular_of_certG`.

  Thick interval constants: `Alg.idual` accepts them, the point semantics `Alg.real` does not.  All
  statements are therefore proved for `Alg.realWith ch` where `ch` is ANY selection of a member of
  every non-empty interval constant (`Sel ch`); `Alg.real` is the restriction of each of them
  (`AlgRel.of_ofItv`, `Eval.root_of_ofItv` in `EvalNat.lean`).
-/
import IbexProofs.DualCorrect
import IbexProofs.Bwd
import IbexProofs.SetAlg
import IbexProofs.ArithG
import Mathlib.LinearAlgebra.Matrix.Gershgorin
import Mathlib.Data.List.GetD

namespace Ibex
open Ibex List Filter Topology

noncomputable section

/-! ## real gradients as linear maps -/

/-- the linear map `v ↦ Σ_k g_k · v_k` -/
def gradR (n : ℕ) (g : List ℝ) : (Fin n → ℝ) →L[ℝ] ℝ :=
  ∑ k : Fin n, g.getD k 0 • ContinuousLinearMap.proj k

theorem gradR_apply (n : ℕ) (g : List ℝ) (v : Fin n → ℝ) :
    gradR n g v = ∑ k : Fin n, g.getD k 0 * v k := by
  simp [gradR]

theorem gradR_single {n : ℕ} (g : List ℝ) (j : Fin n) : gradR n g (Pi.single j 1) = g.getD j 0 := by
  rw [gradR_apply, Finset.sum_eq_single j]
  · simp
  · intro k _ hkj
    simp [hkj]
  · intro h; exact absurd (Finset.mem_univ j) h

theorem getD_zipWith_lin {α β : ℝ} {ga gb : List ℝ} {n : ℕ} (ha : ga.length = n) (hb : gb.length = n) {k : ℕ}
    (hk : k < n) :
    (List.zipWith (fun u v => α * u + β * v) ga gb).getD k 0 = α * ga.getD k 0 + β * gb.getD k 0 := by
  rw [List.getD_eq_getElem?_getD, List.getD_eq_getElem?_getD, List.getD_eq_getElem?_getD,
    List.getElem?_zipWith, List.getElem?_eq_getElem (by omega : k < ga.length),
    List.getElem?_eq_getElem (by omega : k < gb.length)]
  simp

theorem gradR_lin {n : ℕ} {α β : ℝ} {ga gb : List ℝ} (ha : ga.length = n) (hb : gb.length = n) :
    gradR n (List.zipWith (fun u v => α * u + β * v) ga gb) = α • gradR n ga + β • gradR n gb := by
  ext v
  simp only [gradR_apply, _root_.add_apply, _root_.smul_apply, smul_eq_mul,
    Finset.mul_sum, ← Finset.sum_add_distrib]
  refine Finset.sum_congr rfl fun k _ => ?_
  rw [getD_zipWith_lin ha hb k.2]
  ring

theorem gradR_scale {n : ℕ} {α : ℝ} {g : List ℝ} : gradR n (g.map (α * ·)) = α • gradR n g := by
  ext v
  simp only [gradR_apply, _root_.smul_apply, smul_eq_mul, Finset.mul_sum]
  refine Finset.sum_congr rfl fun k _ => ?_
  rw [List.getD_eq_getElem?_getD, List.getD_eq_getElem?_getD, List.getElem?_map]
  cases g[(k : ℕ)]? <;> simp [mul_assoc]

theorem gradR_zero (n : ℕ) : gradR n (List.replicate n 0) = 0 := by
  ext v
  simp only [gradR_apply, _root_.zero_apply]
  refine Finset.sum_eq_zero fun k _ => ?_
  simp [List.getD_eq_getElem?_getD]

theorem gradR_unit {n : ℕ} (k : Fin n) :
    gradR n ((List.range n).map fun j => if j == k.1 then (1 : ℝ) else 0) = ContinuousLinearMap.proj k := by
  ext v
  rw [gradR_apply, ContinuousLinearMap.proj_apply, Finset.sum_eq_single k]
  · simp [List.getD_eq_getElem?_getD]
  · intro j _ hjk
    have : ¬ (j.1 = k.1) := fun e => hjk (Fin.ext e)
    simp [List.getD_eq_getElem?_getD, this]
  · intro h; exact absurd (Finset.mem_univ k) h

/-! ## the relation between an interval dual number and a function germ -/

/-- `D` encloses the value and the gradient at `p` of the function `φ` -/
def IRel (n : ℕ) (p : Fin n → ℝ) (D : IDual) (φ : (Fin n → ℝ) → ℝ) : Prop :=
  φ p ∈ D.v ∧ ∃ g : List ℝ, g.length = n ∧ Forall₂ RMem g D.g ∧ HasFDerivAt φ (gradR n g) p

variable {n : ℕ} {p : Fin n → ℝ}

theorem IRel.cont {D : IDual} {φ : (Fin n → ℝ) → ℝ} (h : IRel n p D φ) : ContinuousAt φ p := by
  obtain ⟨_, g, _, _, hd⟩ := h
  exact hd.continuousAt

theorem IRel.length {D : IDual} {φ : (Fin n → ℝ) → ℝ} (h : IRel n p D φ) : D.g.length = n := by
  obtain ⟨_, g, hl, hg, _⟩ := h
  rw [← hg.length_eq, hl]

theorem IRel.congr {D : IDual} {φ φ' : (Fin n → ℝ) → ℝ} (h : IRel n p D φ) (e : φ' =ᶠ[𝓝 p] φ) :
    IRel n p D φ' := by
  obtain ⟨hv, g, hl, hg, hd⟩ := h
  exact ⟨by rw [e.eq_of_nhds]; exact hv, g, hl, hg, hd.congr_of_eventuallyEq e⟩

theorem IRel.of_eventually {z : ℝ} {o : (Fin n → ℝ) → Option ℝ} {ψ : (Fin n → ℝ) → ℝ} {D : IDual}
    (hev : ∀ᶠ x in 𝓝 p, o x = some (ψ x)) (h : IRel n p D ψ) :
    ∃ ψ', evOpt (𝓝 p) z o = some ψ' ∧ IRel n p D ψ' := by
  obtain ⟨ψ', h1, h2⟩ := evOpt_of_eventually (z := z) hev
  exact ⟨ψ', h1, h.congr h2⟩

theorem IDual.ok_some {d x : IDual} (h : IDual.ok d = some x) : x = d := by
  unfold IDual.ok at h
  split at h
  · exact absurd h (by simp)
  · simp only [Option.some.injEq] at h
    exact h.symm

variable {r : Rnd}

theorem IRel.linG (hr : r.Sound) {a b : IDual} {φ ψ χ : (Fin n → ℝ) → ℝ} {A B V : Itv} {α β : ℝ}
    (ha : IRel n p a φ) (hb : IRel n p b ψ) (hα : α ∈ A) (hβ : β ∈ B) (hv : χ p ∈ V)
    (hd : ∀ La Lb : (Fin n → ℝ) →L[ℝ] ℝ, HasFDerivAt φ La p → HasFDerivAt ψ Lb p →
      HasFDerivAt χ (α • La + β • Lb) p) :
    IRel n p ⟨V, IDual.linG r A a B b⟩ χ := by
  obtain ⟨_, ga, hla, hga, hda⟩ := ha
  obtain ⟨_, gb, hlb, hgb, hdb⟩ := hb
  refine ⟨hv, List.zipWith (fun u v => α * u + β * v) ga gb, by simp [hla, hlb], ?_, ?_⟩
  · exact forall₂_zipWith (R := RMem) (S := RMem) (T := RMem)
      (fun u U v V hu hv => Itv.addG_encl hr (Itv.mulG_encl hr hα hu) (Itv.mulG_encl hr hβ hv)) hga hgb
  · rw [gradR_lin hla hlb]
    exact hd _ _ hda hdb

theorem IRel.scaleG (hr : r.Sound) {a : IDual} {φ χ : (Fin n → ℝ) → ℝ} {A V : Itv} {α : ℝ}
    (ha : IRel n p a φ) (hα : α ∈ A) (hv : χ p ∈ V)
    (hd : ∀ La : (Fin n → ℝ) →L[ℝ] ℝ, HasFDerivAt φ La p → HasFDerivAt χ (α • La) p) :
    IRel n p ⟨V, IDual.scaleG r A a⟩ χ := by
  obtain ⟨_, ga, hla, hga, hda⟩ := ha
  refine ⟨hv, ga.map (α * ·), by simp [hla], ?_, ?_⟩
  · unfold IDual.scaleG
    rw [forall₂_map_left_iff, forall₂_map_right_iff]
    exact hga.imp fun u U hu => Itv.mulG_encl hr hα hu
  · rw [gradR_scale]
    exact hd _ hda

theorem IRel.const (n : ℕ) (p : Fin n → ℝ) {c : ℝ} {I : Itv} (hc : c ∈ I) :
    IRel n p (IDual.const n I) (fun _ => c) := by
  refine ⟨hc, List.replicate n 0, by simp, ?_, ?_⟩
  · unfold IDual.const IDual.zeroG
    simp only
    rw [List.forall₂_iff_get]
    refine ⟨by simp, fun i h1 h2 => ?_⟩
    simp only [List.get_eq_getElem, List.getElem_replicate]
    have := mem_point_cast 0
    simpa using this
  · rw [gradR_zero]
    exact hasFDerivAt_const _ _

/-! ## selections of thick constants -/

/-- `ch` selects a member of every non-empty interval constant -/
def Sel (ch : Itv → Option ℝ) : Prop := ∀ I : Itv, (∃ x : ℝ, x ∈ I) → ∃ x, ch I = some x ∧ x ∈ I

/-! ## integer powers, interval evaluation -/

theorem not_mem_zero_of_containsExt {I : Itv} (h : ¬ Itv.containsExt I (.fin 0) = true) : ¬ (0 : ℝ) ∈ I := by
  intro h0
  apply h
  rw [Itv.containsExt_fin]
  simpa using h0

theorem Itv.powIntG_encl (hr : r.Sound) {X : Itv} {x : ℝ} (n : ℤ) (hx : x ∈ X) (h0 : n < 0 → x ≠ 0) :
    x ^ n ∈ Itv.powIntG r X n := by
  unfold Itv.powIntG
  by_cases hn : n ≥ 0
  · rw [if_pos hn]
    have e : x ^ n = x ^ n.toNat := by
      conv_lhs => rw [← Int.toNat_of_nonneg hn]
      exact zpow_natCast x _
    rw [e]
    exact Itv.powNatG_encl hr n.toNat hx
  · rw [if_neg hn]
    have hx0 : x ≠ 0 := h0 (not_le.1 hn)
    have e : x ^ n = 1 / x ^ (-n).toNat := by
      have h1 : n = -(((-n).toNat : ℕ) : ℤ) := by
        rw [Int.toNat_of_nonneg (by omega)]; ring
      conv_lhs => rw [h1]
      rw [zpow_neg, zpow_natCast, one_div]
    rw [e]
    refine Itv.divG_encl hr ?_ (Itv.powNatG_encl hr _ hx) (pow_ne_zero _ hx0)
    simpa using mem_point_cast 1

/-- **Operator-level enclosure** for the interval operators generic in the rounding pair: every
    operator of `Alg.itvG r` encloses the real operator, and is defined whenever the real operator is
    defined at a point of its arguments.  The constants may denote any member of their interval. -/
theorem Alg.realWith_itvG (hr : r.Sound) {ch : Itv → Option ℝ} (hch : ∀ I x, ch I = some x → x ∈ I) :
    AlgRel RMem (Alg.realWith ch) (Alg.itvG r) where
  ofItv := fun I a h => mem_itvNonEmpty (hch I a h)
  zero := (Alg.realWith_itv hch).zero
  add := .encl (Itv.addG_encl hr)
  sub := .encl (Itv.subG_encl hr)
  mul := .encl (Itv.mulG_encl hr)
  div := .of_undef fun _ _ _ _ hx hy hy0 => mem_itvNonEmpty (Itv.divG_encl hr hx hy hy0)
  max := .encl Itv.max_encl
  min := .encl Itv.min_encl
  un := by
    intro op f g hf hg
    simp only [Alg.itvG] at hg
    split at hg
    · exact .of_un hf Alg.real_un_minus hg rfl (.encl Itv.neg_encl)
    · exact .of_un hf Alg.real_un_sqr hg rfl (.encl (Itv.sqrG_encl hr))
    · exact .of_un hf Alg.real_un_abs hg rfl (.encl Itv.abs_encl)
    · exact .of_un hf Alg.real_un_sign hg rfl (.encl Itv.sign_encl)
    · exact .of_un hf Alg.real_un_floor hg rfl (.encl Itv.floor_encl)
    · exact .of_un hf Alg.real_un_ceil hg rfl (.encl Itv.ceil_encl)
    · cases hg
  pow := fun n => .of_undef fun _ _ hx h0 =>
    mem_itvNonEmpty (Itv.powIntG_encl hr n hx fun hn hx0 => h0 ⟨hn, hx0⟩)
  chi := (Alg.realWith_itv hch).chi

theorem Alg.real_itvG (hr : r.Sound) : AlgRel RMem Alg.real (Alg.itvG r) :=
  Alg.realWith_itvG hr fun _ _ => realOfItv_mem

/-- the exact interval algebra of `IbexModel/Expr.lean` is the instance `Rnd.exact` -/
theorem Alg.itvX_eq : Alg.itvX = Alg.itvG Rnd.exact := by
  unfold Alg.itvX Alg.itvG
  congr 1
  funext a n
  unfold Itv.powIntG
  split <;> rfl

theorem Alg.real_itvX : AlgRel RMem Alg.real Alg.itvX :=
  Alg.itvX_eq ▸ Alg.real_itvG Rnd.exact_sound


/-! ## the interval dual numbers -/

theorem Alg.realWith_div (ch : Itv → Option ℝ) (a b : ℝ) :
    (Alg.realWith ch).div a b = if b = 0 then none else some (a / b) := rfl

theorem Alg.realWith_pow (ch : Itv → Option ℝ) (a : ℝ) (k : ℤ) :
    (Alg.realWith ch).pow a k = if k < 0 ∧ a = 0 then none else some (a ^ k) := rfl

theorem Alg.ev_realWith_un {T : Type} (ch : Itv → Option ℝ) (F : Filter T) (op : String) :
    (Alg.ev F (Alg.realWith ch)).un op =
      (Alg.real.un op).map fun f φ => evOpt F (0 : ℝ) fun t => f (φ t) := rfl

theorem idualG_ev_un (ch : Itv → Option ℝ) (F : Filter (Fin n → ℝ)) (op : String)
    (h : (Alg.ev F (Alg.realWith ch)).un op = none) : (Alg.idualG r n).un op = none := by
  rw [Alg.ev_realWith_un, Option.map_eq_none_iff] at h
  simp only [Alg.idualG]
  split
  · rw [Alg.real_un_minus] at h; cases h
  · rw [Alg.real_un_sqr] at h; cases h
  · rfl

theorem Alg.idualG_ev_supp (ch : Itv → Option ℝ) (F : Filter (Fin n → ℝ)) (nd : Node) :
    Eval.Supp (Alg.idualG r n) (Alg.ev F (Alg.realWith ch)) nd :=
  fun op _ _ _ h => idualG_ev_un ch F op h

/-- the integer power of the interval dual numbers, for any enclosure `P` of the integer powers:
    `d(φ^k) = k φ^(k−1) dφ`, where `φ p ≠ 0` or `k ≥ 1` -/
theorem IRel.pow_ev (hr : r.Sound) {P : Itv → ℤ → Itv}
    (hP : ∀ {X : Itv} {x : ℝ} (k : ℤ), x ∈ X → (k < 0 → x ≠ 0) → x ^ k ∈ P X k)
    (ch : Itv → Option ℝ) (k : ℤ) {a x : IDual} {φ : (Fin n → ℝ) → ℝ} (ha : IRel n p a φ)
    (h : (if k = 0 then IDual.ok ⟨Itv.point 1, IDual.scaleG r (Itv.point 0) a⟩
      else if k = 1 then some a
      else if k > 0 then
        IDual.ok ⟨P a.v k, IDual.scaleG r (Itv.mulG r (Itv.point (k : ℚ)) (P a.v (k - 1))) a⟩
      else if Itv.containsExt a.v (.fin 0) then none
      else IDual.ok ⟨P a.v k, IDual.scaleG r (Itv.mulG r (Itv.point (k : ℚ)) (P a.v (k - 1))) a⟩) = some x) :
    ∃ ψ', (Alg.ev (𝓝 p) (Alg.realWith ch)).pow φ k = some ψ' ∧ IRel n p x ψ' := by
  have main : φ p ≠ 0 ∨ 1 ≤ k →
      IDual.ok ⟨P a.v k, IDual.scaleG r (Itv.mulG r (Itv.point (k : ℚ)) (P a.v (k - 1))) a⟩ = some x →
      ∃ ψ', (Alg.ev (𝓝 p) (Alg.realWith ch)).pow φ k = some ψ' ∧ IRel n p x ψ' := by
    intro hk h
    have := IDual.ok_some h; subst this
    refine IRel.of_eventually (ψ := fun x => φ x ^ k) ?_ ?_
    · rcases hk with h0 | hk
      · filter_upwards [ha.cont.eventually_ne h0] with x hx
        rw [Alg.realWith_pow, if_neg fun h => hx h.2]
      · exact Eventually.of_forall fun x => by
          rw [Alg.realWith_pow, if_neg fun h => absurd h.1 (by omega)]
    · refine IRel.scaleG hr ha (α := (k : ℝ) * φ p ^ (k - 1)) ?_ ?_ fun La hLa => ?_
      · exact Itv.mulG_encl hr (mem_point_of_cast (Rat.cast_intCast k))
          (hP (k - 1) ha.1 fun h1 => hk.resolve_right (by omega))
      · exact hP k ha.1 fun h1 => hk.resolve_right (by omega)
      · exact fderiv_lin_zpow hk hLa
  split at h
  · rename_i hk
    subst hk
    have := IDual.ok_some h; subst this
    refine IRel.of_eventually (ψ := fun _ => (1 : ℝ)) (Eventually.of_forall fun x => by
      rw [Alg.realWith_pow, if_neg fun h => absurd h.1 (by decide), zpow_zero]) ?_
    refine IRel.scaleG hr ha (α := 0) (mem_point_of_cast Rat.cast_zero)
      (mem_point_of_cast Rat.cast_one) fun La _ => fderiv_lin_const 1 La
  · split at h
    · rename_i hk
      subst hk
      simp only [Option.some.injEq] at h
      subst h
      exact IRel.of_eventually (ψ := φ) (Eventually.of_forall fun x => by
        rw [Alg.realWith_pow, if_neg fun h => absurd h.1 (by decide), zpow_one]) ha
    · split at h
      · exact main (Or.inr (by omega)) h
      · split at h
        · exact absurd h (by simp)
        · rename_i ha0
          exact main (Or.inl fun e => not_mem_zero_of_containsExt ha0 (by have := ha.1; rwa [e] at this)) h

/-- **Operator-level enclosure of the interval dual numbers, generic rounding** (see `Alg.idual_ev`). -/
theorem Alg.idualG_ev (hr : r.Sound) {ch : Itv → Option ℝ} (hch : Sel ch) (n : ℕ) (p : Fin n → ℝ) :
    AlgRel (IRel n p) (Alg.idualG r n) (Alg.ev (𝓝 p) (Alg.realWith ch)) where
  ofItv := by
    intro I a h
    simp only [Alg.idualG] at h
    split at h
    · exact absurd h (by simp)
    · rename_i hne
      simp only [Option.some.injEq] at h
      subst h
      simp only [Bool.or_eq_true, Bool.not_eq_true', not_or, Bool.not_eq_false] at hne
      obtain ⟨c, hc, hcI⟩ := hch I (Itv.exists_mem_of_WF hne.2 (fun e => by simp [e, Itv.isEmpty] at hne))
      refine ⟨fun _ => c, ?_, IRel.const n p hcI⟩
      show (ch I).map _ = _
      rw [hc]; rfl
  zero := by
    show IRel n p (IDual.const n (Itv.point 0)) (fun _ => (0 : ℝ))
    exact IRel.const n p (mem_point_of_cast Rat.cast_zero)
  add := by
    intro a φ b ψ x ha hb h
    have := IDual.ok_some h; subst this
    refine IRel.of_eventually (ψ := fun x => φ x + ψ x) (Eventually.of_forall fun x => rfl) ?_
    refine IRel.linG hr ha hb (α := 1) (β := 1) (mem_point_of_cast Rat.cast_one)
      (mem_point_of_cast Rat.cast_one) (Itv.addG_encl hr ha.1 hb.1) fun _ _ => fderiv_lin_add
  sub := by
    intro a φ b ψ x ha hb h
    have := IDual.ok_some h; subst this
    refine IRel.of_eventually (ψ := fun x => φ x - ψ x) (Eventually.of_forall fun x => rfl) ?_
    refine IRel.linG hr ha hb (α := 1) (β := -1) (mem_point_of_cast Rat.cast_one)
      (mem_point_of_cast (by norm_num)) (Itv.subG_encl hr ha.1 hb.1) fun _ _ => fderiv_lin_sub
  mul := by
    intro a φ b ψ x ha hb h
    have := IDual.ok_some h; subst this
    refine IRel.of_eventually (ψ := fun x => φ x * ψ x) (Eventually.of_forall fun x => rfl) ?_
    exact IRel.linG hr ha hb (α := ψ p) (β := φ p) hb.1 ha.1 (Itv.mulG_encl hr ha.1 hb.1)
      fun _ _ => fderiv_lin_mul
  div := by
    intro a φ b ψ x ha hb h
    simp only [Alg.idualG] at h
    split at h
    · exact absurd h (by simp)
    · rename_i hb0
      have := IDual.ok_some h; subst this
      have h0 : ψ p ≠ 0 := fun e => not_mem_zero_of_containsExt hb0 (by have := hb.1; rwa [e] at this)
      have hne : ∀ᶠ x in 𝓝 p, ψ x ≠ 0 := hb.cont.eventually_ne h0
      refine IRel.of_eventually (ψ := fun x => φ x * (ψ x)⁻¹) ?_ ?_
      · filter_upwards [hne] with x hx
        rw [Alg.realWith_div, if_neg hx, div_eq_mul_inv]
      · have hsq : ψ p * ψ p ≠ 0 := mul_ne_zero h0 h0
        refine IRel.linG hr ha hb (α := 1 / ψ p) (β := -(φ p / (ψ p * ψ p)))
          (Itv.divG_encl hr (mem_point_of_cast Rat.cast_one) hb.1 h0)
          (Itv.neg_encl (Itv.divG_encl hr ha.1 (Itv.sqrG_encl hr hb.1) hsq)) ?_ fun _ _ => fderiv_lin_div h0
        show φ p * (ψ p)⁻¹ ∈ _
        rw [← div_eq_mul_inv]
        exact Itv.divG_encl hr ha.1 hb.1 h0
  max := by
    intro a φ b ψ x _ _ h
    cases h
  min := by
    intro a φ b ψ x _ _ h
    cases h
  un := by
    intro op f g hf hg a φ x ha hx
    simp only [Alg.idualG] at hf
    split at hf
    · -- minus
      rw [Alg.ev_realWith_un, Alg.real_un_minus] at hg
      cases hf; cases hg
      have := IDual.ok_some hx; subst this
      refine IRel.of_eventually (ψ := fun x => -φ x) (Eventually.of_forall fun x => rfl) ?_
      exact IRel.scaleG hr ha (α := -1) (mem_point_of_cast (by norm_num)) (Itv.neg_encl ha.1)
        fun _ => fderiv_lin_neg
    · -- sqr
      rw [Alg.ev_realWith_un, Alg.real_un_sqr] at hg
      cases hf; cases hg
      have := IDual.ok_some hx; subst this
      refine IRel.of_eventually (ψ := fun x => φ x * φ x) (Eventually.of_forall fun x => rfl) ?_
      refine IRel.scaleG hr ha (α := 2 * φ p) (Itv.mulG_encl hr (mem_point_of_cast (Rat.cast_ofNat 2)) ha.1)
        (Itv.sqrG_encl hr ha.1) fun _ => fderiv_lin_sqr
    · cases hf
  pow := fun k _ _ _ ha h => IRel.pow_ev hr (Itv.powIntG_encl hr) ch k ha h
  chi := by
    intro a φa b φb c φc x _ _ _ h
    cases h

theorem Alg.idual_ev_supp (ch : Itv → Option ℝ) (F : Filter (Fin n → ℝ)) (nd : Node) :
    Eval.Supp (Alg.idual n) (Alg.ev F (Alg.realWith ch)) nd :=
  Alg.idualG_ev_supp (r := Rnd.dbl) ch F nd

/-- The binary64 operators of `Alg.idual n` are those of `Alg.idualG Rnd.dbl n` by unfolding, except
    `Itv.powInt`.  That is what lets the structure update below go through: each of the ten fields
    taken over is stated for `Alg.idualG Rnd.dbl n` and accepted for `Alg.idual n` up to unfolding. -/
theorem Alg.idual_ev {ch : Itv → Option ℝ} (hch : Sel ch) (n : ℕ) (p : Fin n → ℝ) :
    AlgRel (IRel n p) (Alg.idual n) (Alg.ev (𝓝 p) (Alg.realWith ch)) :=
  { Alg.idualG_ev Rnd.dbl_sound hch n p with
    pow := fun k _ _ _ ha h => IRel.pow_ev Rnd.dbl_sound Itv.powInt_encl ch k ha h }

/-! ## every DAG: the interval Jacobian encloses the Jacobian of the real denotation -/

/-- the real value (thick constants selected by `ch`) at the flattened point `x` of the DAG `q.2`,
    with applied functions `q.1`; the suffix `W` of `rootW`, `valW`, `ZeroW` is that of `Alg.realWith` -/
def rootW (ch : Itv → Option ℝ) (q : List Dag × Dag) (x : List ℝ) : Option (Mat ℝ) :=
  Eval.root (Alg.realWith ch) x (Eval.buildCalls (Alg.realWith ch) q.1) q.2

/-- first entry of the value, as a total function (junk `0` where undefined) -/
def valW (ch : Itv → Option ℝ) (q : List Dag × Dag) {n : ℕ} (x : Fin n → ℝ) : ℝ :=
  ((rootW ch q (List.ofFn x)).bind (·.d[0]?)).getD 0

theorem iseed_rel {h : Box} (p : Fin h.length → ℝ) (hp : Box.Mem (List.ofFn p) h) :
    Forall₂ (IRel h.length p)
      (h.zipIdx.map fun (q : Itv × Nat) =>
        (⟨q.1, (List.range h.length).map fun j => if j == q.2 then Itv.point 1 else Itv.point 0⟩ : IDual))
      (coordFns h.length) := by
  rw [List.forall₂_iff_get]
  refine ⟨by simp [coordFns], fun i h1 h2 => ?_⟩
  have hi : i < h.length := by simpa using h1
  simp only [coordFns, List.get_eq_getElem, List.getElem_map, List.getElem_zipIdx,
    List.getElem_ofFn, Nat.zero_add]
  refine ⟨?_, (List.range h.length).map (fun j => if j == i then (1 : ℝ) else 0), by simp, ?_, ?_⟩
  · have := (forall₂_getElem hp (i := i) (by simpa using hi)).2
    simpa using this
  · rw [forall₂_map_left_iff, forall₂_map_right_iff]
    refine List.forall₂_same.2 fun j _ => ?_
    by_cases hj : (j == i) = true
    · simp only [hj, if_true]
      simpa using mem_point_cast 1
    · simp only [hj]
      simpa using mem_point_cast 0
  · rw [gradR_unit ⟨i, hi⟩]
    exact hasFDerivAt_apply (𝕜 := ℝ) (⟨i, hi⟩ : Fin h.length) p

/-- the interval row `row` encloses the gradient of the function `q` on the box `h`: at every real
    point `p` of `h` the real evaluation of `q` is defined (scalar value `valW ch q p`), `valW ch q` is
    Fréchet-differentiable at `p` and its gradient `g` is a member of the row (`g_k ∈ row_k`) -/
def RowEncl (ch : Itv → Option ℝ) (h : Box) (q : List Dag × Dag) (row : List Itv) : Prop :=
  row.length = h.length ∧ ∀ p : Fin h.length → ℝ, Box.Mem (List.ofFn p) h →
    (∃ m, rootW ch q (List.ofFn p) = some m ∧ m.d = [valW ch q p]) ∧
    ∃ g : List ℝ, g.length = h.length ∧ Forall₂ RMem g row ∧
      HasFDerivAt (valW ch q) (gradR h.length g) p

/-- one row of `Newton.jacobian` / `Newton.jacobianG`, for any algebra `A` of interval dual numbers
    whose operators enclose values and gradients -/
theorem rowEncl_of_root {ch : Itv → Option ℝ} {h : Box} {A : Alg IDual}
    (hA : ∀ p : Fin h.length → ℝ, AlgRel (IRel h.length p) A (Alg.ev (𝓝 p) (Alg.realWith ch)))
    (hS : ∀ (F : Filter (Fin h.length → ℝ)) (nd : Node), Eval.Supp A (Alg.ev F (Alg.realWith ch)) nd)
    {q : List Dag × Dag} {row : List Itv}
    (hq : (match Eval.root A
        (h.zipIdx.map fun (q : Itv × Nat) =>
          (⟨q.1, (List.range h.length).map fun j => if j == q.2 then Itv.point 1 else Itv.point 0⟩ : IDual))
        (Eval.buildCalls A q.1) q.2 with
      | some m => (match m.d with | [d] => if d.g.length == h.length then some d.g else none | _ => none)
      | none => none) = some row) : RowEncl ch h q row := by
  split at hq
  · rename_i m hroot
    split at hq
    · rename_i d hmd
      split at hq
      · rename_i hlen
        simp only [Option.some.injEq] at hq
        subst hq
        have hlen' : d.g.length = h.length := by simpa using hlen
        refine ⟨hlen', fun p hp => ?_⟩
        obtain ⟨fv, hfv, hrr, hc, hd⟩ := Eval.root_rel_total (hA p) (iseed_rel p hp)
          (Eval.buildCalls_rel_total (hA p) q.1 fun _ _ nd _ => hS _ nd) (fun nd _ => hS _ nd) hroot
        rw [hmd] at hd
        obtain ⟨φ, l, hdφ, hl, hfd⟩ := List.forall₂_cons_left_iff.1 hd
        have hl' : l = [] := by simpa using hl
        subst hl'
        have hev : ∀ᶠ x in 𝓝 p, rootW ch q (List.ofFn x) = some (fv.at x) := by
          filter_upwards [Eval.root_ev (Eval.buildCalls_ev q.1) hfv] with x hx
          rw [coordFns_at] at hx
          exact hx
        have hval : valW ch q =ᶠ[𝓝 p] φ := by
          filter_upwards [hev] with x hx
          simp [valW, hx, Mat.at, Mat.map, hfd]
        refine ⟨⟨fv.at p, hev.self_of_nhds, ?_⟩, ?_⟩
        · simp [Mat.at, Mat.map, hfd, hval.eq_of_nhds]
        · obtain ⟨_, g, hg1, hg2, hg3⟩ := hdφ.congr hval
          exact ⟨g, hg1, hg2, hg3⟩
      · exact absurd hq (by simp)
    · exact absurd hq (by simp)
  · exact absurd hq (by simp)

/-- **The interval Jacobian (generic rounding) encloses the Jacobian.** -/
theorem jacobianG_encl (hr : r.Sound) {ch : Itv → Option ℝ} (hch : Sel ch) {progs : List (List Dag × Dag)}
    {h : Box} {J : List (List Itv)} (hJ : Newton.jacobianG r progs h = some J) :
    Forall₂ (RowEncl ch h) progs J :=
  (mapM_eq_some_iff.1 hJ).imp fun _ _ hq =>
    rowEncl_of_root (Alg.idualG_ev hr hch _) (fun _ => Alg.idualG_ev_supp ch _) hq

/-- **The interval Jacobian encloses the Jacobian.**  If `Newton.jacobian progs h = some J` then
    `J` has one row per function, each of length `n = h.length`, and for every function `q` and every
    real point `p` of the box: the real evaluation of `q` at `p` is defined (scalar value
    `valW ch q p`), `valW ch q` is Fréchet-differentiable at `p` and its gradient `g` is a member of
    the row (`g_k ∈ J_q,k` for all `k`). -/
theorem jacobian_encl {ch : Itv → Option ℝ} (hch : Sel ch) {progs : List (List Dag × Dag)} {h : Box}
    {J : List (List Itv)} (hJ : Newton.jacobian progs h = some J) :
    Forall₂ (fun q row => row.length = h.length ∧ ∀ p : Fin h.length → ℝ, Box.Mem (List.ofFn p) h →
      (∃ m, rootW ch q (List.ofFn p) = some m ∧ m.d = [valW ch q p]) ∧
      ∃ g : List ℝ, g.length = h.length ∧ Forall₂ RMem g row ∧
        HasFDerivAt (valW ch q) (gradR h.length g) p) progs J :=
  (mapM_eq_some_iff.1 hJ).imp fun _ _ hq =>
    rowEncl_of_root (Alg.idual_ev hch _) (fun _ => Alg.idual_ev_supp ch _) hq

/-- `jac` computes interval matrices that enclose the Jacobian -/
def JacSound (jac : List (List Dag × Dag) → Box → Option (List (List Itv))) : Prop :=
  ∀ {ch : Itv → Option ℝ}, Sel ch → ∀ {progs : List (List Dag × Dag)} {h : Box} {J : List (List Itv)},
    jac progs h = some J → Forall₂ (RowEncl ch h) progs J

theorem jacobian_sound : JacSound Newton.jacobian := fun hch _ _ _ hJ => jacobian_encl hch hJ

theorem jacobianG_sound (hr : r.Sound) : JacSound (Newton.jacobianG r) :=
  fun hch _ _ _ hJ => jacobianG_encl hr hch hJ

/-! ## linear algebra: strict diagonal dominance, preconditioning -/

theorem ratAbs_cast (q : ℚ) : ((Newton.ratAbs q : ℚ) : ℝ) = |(q : ℝ)| := by
  unfold Newton.ratAbs
  split
  · rename_i h
    have : (q : ℝ) < 0 := by exact_mod_cast h
    rw [abs_of_neg this]
    push_cast
    rfl
  · rename_i h
    have : (0 : ℝ) ≤ q := by exact_mod_cast not_lt.1 h
    rw [abs_of_nonneg this]

theorem magQ_sound {I : Itv} {q : ℚ} (h : Newton.magQ I = some q) {x : ℝ} (hx : x ∈ I) : |x| ≤ (q : ℝ) := by
  unfold Newton.magQ at h
  split at h
  · rename_i a b
    simp only [Option.some.injEq] at h
    subst h
    rw [mem_fin_iff] at hx
    have := abs_le_max_abs_abs hx.1 hx.2
    split
    · rw [ratAbs_cast]
      exact le_trans this (max_le (le_refl _) (by
        rename_i hgt
        have : ((Newton.ratAbs b : ℚ) : ℝ) < ((Newton.ratAbs a : ℚ) : ℝ) := by exact_mod_cast hgt
        rw [ratAbs_cast, ratAbs_cast] at this
        exact this.le))
    · rw [ratAbs_cast]
      exact le_trans this (max_le (by
        rename_i hgt
        have : ((Newton.ratAbs a : ℚ) : ℝ) ≤ ((Newton.ratAbs b : ℚ) : ℝ) := by exact_mod_cast not_lt.1 hgt
        rw [ratAbs_cast, ratAbs_cast] at this
        exact this) (le_refl _))
  · exact absurd h (by simp)

theorem magQ_nonneg {I : Itv} {q : ℚ} (h : Newton.magQ I = some q) : (0 : ℝ) ≤ (q : ℝ) := by
  unfold Newton.magQ at h
  split at h
  · rename_i a b
    simp only [Option.some.injEq] at h
    subst h
    split <;> (rw [ratAbs_cast]; exact abs_nonneg _)
  · exact absurd h (by simp)

theorem migQ_sound {I : Itv} {d : ℚ} (h : Newton.migQ I = some d) {x : ℝ} (hx : x ∈ I) : (d : ℝ) ≤ |x| := by
  unfold Newton.migQ at h
  split at h
  · rename_i a b
    simp only [Option.some.injEq] at h
    subst h
    rw [mem_fin_iff] at hx
    split
    · rename_i ha
      have : (0 : ℝ) < a := by exact_mod_cast ha
      exact le_trans hx.1 (le_abs_self x)
    · split
      · rename_i hb
        have : (b : ℝ) < 0 := by exact_mod_cast hb
        push_cast
        exact le_trans (neg_le_neg hx.2) (neg_le_abs x)
      · simp
  · exact absurd h (by simp)

theorem offdiag_sum_le (i : ℕ) (a : ℕ → ℝ) :
    ∀ (row : List Itv) (k : ℕ) (offs : List ℚ),
      ((row.zipIdx k).filter fun (e : Itv × Nat) => e.2 != i).mapM (fun e => Newton.magQ e.1) = some offs →
      (∀ j (hj : j < row.length), k + j ≠ i → a (k + j) ∈ row[j]) →
      ∑ j ∈ Finset.range row.length, (if k + j ≠ i then |a (k + j)| else 0) ≤ ((offs.sum : ℚ) : ℝ) := by
  intro row
  induction row with
  | nil =>
    intro k offs h _
    simp at h
    subst h
    simp
  | cons I row ih =>
    intro k offs h ha
    rw [List.zipIdx_cons] at h
    have hrest : ∀ j (hj : j < row.length), k + 1 + j ≠ i → a (k + 1 + j) ∈ row[j] := by
      intro j hj hne
      have := ha (j + 1) (by simp; omega) (by omega)
      simpa [show k + (j + 1) = k + 1 + j by omega] using this
    have hsum : ∑ j ∈ Finset.range (I :: row).length, (if k + j ≠ i then |a (k + j)| else 0) =
        ∑ j ∈ Finset.range row.length, (if k + 1 + j ≠ i then |a (k + 1 + j)| else 0) +
          (if k ≠ i then |a k| else 0) := by
      rw [List.length_cons, Finset.sum_range_succ']
      simp only [Nat.add_zero]
      congr 1
      refine Finset.sum_congr rfl fun j _ => ?_
      rw [show k + (j + 1) = k + 1 + j by omega]
    rw [hsum]
    by_cases hk : k = i
    · rw [List.filter_cons_of_neg (by simp [hk])] at h
      have := ih (k + 1) offs h hrest
      simpa [hk] using this
    · rw [List.filter_cons_of_pos (by simpa using hk)] at h
      simp only [List.mapM_cons, Bind.bind, Pure.pure, Option.bind_eq_some_iff] at h
      obtain ⟨q, hq, offs', hoffs', h⟩ := h
      simp only [Option.some.injEq] at h
      subst h
      have h1 := ih (k + 1) offs' hoffs' hrest
      have h2 : |a k| ≤ (q : ℝ) := by
        have := ha 0 (by simp) (by simpa using hk)
        exact magQ_sound hq (by simpa using this)
      rw [if_pos hk, List.sum_cons, Rat.cast_add]
      linarith

theorem diagDominant_row {M : List (List Itv)} (hM : Newton.diagDominant M = true) {i : ℕ}
    (hi : i < M.length) :
    ∃ (d : ℚ) (offs : List ℚ), Newton.migQ (M[i].getD i .empty) = some d ∧
      ((M[i].zipIdx.filter fun (e : Itv × Nat) => e.2 != i).mapM fun e => Newton.magQ e.1) = some offs ∧
      offs.sum < d := by
  unfold Newton.diagDominant at hM
  rw [List.all_eq_true] at hM
  have := hM (M[i], i) (List.mk_mem_zipIdx_iff_getElem?.2 (List.getElem?_eq_getElem hi))
  simp only at this
  split at this
  · exact absurd this (by simp)
  · rename_i d hd
    split at this
    · exact absurd this (by simp)
    · rename_i offs hoffs
      refine ⟨d, offs, hd, hoffs, ?_⟩
      rw [List.sum_eq_foldl]
      simpa using this

/-- **A strictly diagonally dominant interval matrix contains only regular matrices.** -/
theorem diagDominant_regular {M : List (List Itv)} (hM : Newton.diagDominant M = true) {m : ℕ}
    (hm : M.length = m) (hrow : ∀ row ∈ M, row.length = m) (A : Fin m → Fin m → ℝ)
    (hA : ∀ i j : Fin m, A i j ∈ (M.getD i []).getD j .empty) (x : Fin m → ℝ)
    (hx : ∀ i, ∑ j, A i j * x j = 0) : x = 0 := by
  -- every row of `A` is strictly dominated by its diagonal entry (Gershgorin)
  refine Matrix.eq_zero_of_mulVec_eq_zero (M := Matrix.of A) (det_ne_zero_of_sum_row_lt_diag fun i => ?_)
    (funext hx)
  have hiM : (i : ℕ) < M.length := hm ▸ i.2
  obtain ⟨d, offs, hd, hoffs, hlt⟩ := diagDominant_row hM hiM
  have hMi : M.getD i [] = M[(i : ℕ)] := List.getD_eq_getElem _ _ hiM
  have hlen : M[(i : ℕ)].length = m := hrow _ (List.getElem_mem hiM)
  have hA' : ∀ j : Fin m, A i j ∈ M[(i : ℕ)][(j : ℕ)]'(by rw [hlen]; exact j.2) := by
    intro j
    have := hA i j
    rw [hMi, List.getD_eq_getElem?_getD, List.getElem?_eq_getElem (by rw [hlen]; exact j.2)] at this
    exact this
  have hdiag : (d : ℝ) ≤ |A i i| := by
    refine migQ_sound hd ?_
    have := hA i i
    rwa [hMi] at this
  let a : ℕ → ℝ := fun j => if h : j < m then A i ⟨j, h⟩ else 0
  have hoff := offdiag_sum_le i a M[(i : ℕ)] 0 offs hoffs (by
    intro j hj _
    have hjm : j < m := hlen ▸ hj
    simp only [Nat.zero_add, a, dif_pos hjm]
    exact hA' ⟨j, hjm⟩)
  have hoff' : ∑ j ∈ Finset.univ.erase i, |A i j| ≤ ((offs.sum : ℚ) : ℝ) := by
    refine le_trans (le_of_eq ?_) hoff
    rw [hlen, ← Finset.filter_ne' Finset.univ i, Finset.sum_filter,
      ← Fin.sum_univ_eq_sum_range (fun j => if 0 + j ≠ (i : ℕ) then |a (0 + j)| else 0) m]
    refine Finset.sum_congr rfl fun j _ => ?_
    simp only [Nat.zero_add, a, dif_pos j.2, Fin.eta]
    by_cases hji : j = i
    · simp [hji]
    · have : (j : ℕ) ≠ i := fun e => hji (Fin.ext e)
      simp [hji, this]
  have h3 : ((offs.sum : ℚ) : ℝ) < (d : ℝ) := by exact_mod_cast hlt
  simp only [Matrix.of_apply, Real.norm_eq_abs]
  exact lt_of_le_of_lt hoff' (lt_of_lt_of_le h3 hdiag)

theorem forall₂_ofFn_getD {xs : List Itv} {m : ℕ} (hx : xs.length = m) {a : Fin m → ℝ}
    (ha : ∀ k : Fin m, a k ∈ xs.getD k .empty) : Forall₂ (· ∈ ·) (List.ofFn a) xs := by
  rw [forall₂_iff_get]
  refine ⟨by rw [List.length_ofFn, hx], fun i h1 h2 => ?_⟩
  have := ha ⟨i, hx ▸ h2⟩
  rw [List.getD_eq_getElem _ _ h2] at this
  simpa using this

/-- the product-sum over the common prefix is the sum over `Fin m` with the missing factors read as `0` -/
theorem sum_zip_ofFn : ∀ (c : List ℝ) {m : ℕ} (a : Fin m → ℝ),
    ((List.zip c (List.ofFn a)).map fun q => q.1 * q.2).sum = ∑ k : Fin m, c.getD k 0 * a k
  | [], m, a => by simp
  | c0 :: cs, 0, a => by simp
  | c0 :: cs, m + 1, a => by
    rw [List.ofFn_succ, List.zip_cons_cons, List.map_cons, List.sum_cons, sum_zip_ofFn cs,
      Fin.sum_univ_succ]
    rfl

theorem dotQG_encl (hr : r.Sound) {crow : List ℚ} {xs : List Itv} {m : ℕ} (hx : xs.length = m) (a : Fin m → ℝ)
    (ha : ∀ k : Fin m, a k ∈ xs.getD k .empty) :
    ∑ k : Fin m, ((crow.getD k 0 : ℚ) : ℝ) * a k ∈ Newton.dotQG r crow xs := by
  have := Itv.dot_encl hr (Itv.forall₂_mem_point crow) (forall₂_ofFn_getD hx ha)
  have e : ∀ k : ℕ, (crow.map fun q : ℚ => (q : ℝ)).getD k 0 = ((crow.getD k 0 : ℚ) : ℝ) := fun k => by
    rw [List.getD_eq_getElem?_getD, List.getD_eq_getElem?_getD, List.getElem?_map]
    cases crow[k]? with
    | none => exact Rat.cast_zero.symm
    | some q => rfl
  rw [sum_zip_ofFn] at this
  simpa only [e, Newton.dotQG, List.zip_map_left, List.foldl_map, Prod.map_fst, Prod.map_snd, id_eq] using this

theorem precondG_getD {c : List (List ℚ)} {j : List (List Itv)} {i col : ℕ} (hi : i < c.length)
    (hcol : col < j.length) :
    ((Newton.precondG r c j).getD i []).getD col .empty =
      Newton.dotQG r (c.getD i []) (j.map (·.getD col .empty)) := by
  unfold Newton.precondG Newton.dotQG
  simp only [List.getD_eq_getElem?_getD, List.getElem?_map, List.getElem?_eq_getElem hi, Option.map_some,
    Option.getD_some, List.getElem?_range hcol, List.zip_map_right, List.foldl_map, Prod.map_fst,
    Prod.map_snd, id]

/-- **`precondG` encloses the product**: `(C·A)_{i,col} ∈ (precondG r C J)_{i,col}` for every `A ∈ J` -/
theorem precondG_encl (hr : r.Sound) {c : List (List ℚ)} {j : List (List Itv)} {m : ℕ} (hj : j.length = m)
    (A : Fin m → Fin m → ℝ) (hA : ∀ i k : Fin m, A i k ∈ (j.getD i []).getD k .empty)
    (i col : Fin m) (hi : (i : ℕ) < c.length) :
    ∑ k : Fin m, (((c.getD i []).getD k 0 : ℚ) : ℝ) * A k col ∈
      ((Newton.precondG r c j).getD i []).getD col .empty := by
  rw [precondG_getD hi (hj ▸ col.2)]
  refine dotQG_encl hr (by rw [List.length_map, hj]) (fun k => A k col) fun k => ?_
  have hk : (k : ℕ) < j.length := hj ▸ k.2
  have := hA k col
  simp only [List.getD_eq_getElem?_getD, List.getElem?_map, List.getElem?_eq_getElem hk, Option.map_some,
    Option.getD_some] at this ⊢
  exact this

theorem pivotStep_length {rows rows' : List (List ℚ)} {k : ℕ} (h : Newton.pivotStep rows k = some rows') :
    rows'.length = rows.length := by
  unfold Newton.pivotStep at h
  simp only at h
  split at h
  · exact absurd h (by simp)
  · split at h
    · exact absurd h (by simp)
    · simp only [Option.some.injEq] at h
      subst h
      simp

theorem foldlM_pivotStep_length : ∀ (l : List ℕ) {rows rows' : List (List ℚ)},
    l.foldlM (fun rows k => Newton.pivotStep rows k) rows = some rows' → rows'.length = rows.length := by
  intro l
  induction l with
  | nil => intro rows rows' h; simp at h; subst h; rfl
  | cons k l ih =>
    intro rows rows' h
    simp only [List.foldlM_cons, Bind.bind, Option.bind_eq_some_iff] at h
    obtain ⟨r1, h1, h2⟩ := h
    rw [ih h2, pivotStep_length h1]

theorem inverse_length {m c : List (List ℚ)} (h : Newton.inverse m = some c) : c.length = m.length := by
  unfold Newton.inverse at h
  simp only [Option.map_eq_some_iff] at h
  obtain ⟨rows, hrows, rfl⟩ := h
  rw [List.length_map, foldlM_pivotStep_length _ hrows]
  simp

/-- **Regularity from the preconditioned certificate** (generic rounding). -/
theorem regular_of_certG (hr : r.Sound) {c : List (List ℚ)} {j : List (List Itv)} {m : ℕ} (hj : j.length = m)
    (hc : c.length = m) (hdd : Newton.diagDominant (Newton.precondG r c j) = true)
    (A : Fin m → Fin m → ℝ) (hA : ∀ i k : Fin m, A i k ∈ (j.getD i []).getD k .empty)
    (x : Fin m → ℝ) (hx : ∀ i, ∑ k, A i k * x k = 0) : x = 0 := by
  refine diagDominant_regular hdd (m := m) (by simp [Newton.precondG, hc]) ?_
    (fun i col => ∑ k : Fin m, (((c.getD i []).getD k 0 : ℚ) : ℝ) * A k col)
    (fun i col => precondG_encl hr hj A hA i col (hc ▸ i.2)) x fun i => ?_
  · intro row hrow
    simp only [Newton.precondG, List.mem_map] at hrow
    obtain ⟨crow, _, rfl⟩ := hrow
    simp [hj]
  · calc ∑ col, (∑ k : Fin m, (((c.getD i []).getD k 0 : ℚ) : ℝ) * A k col) * x col
        = ∑ col, ∑ k : Fin m, (((c.getD i []).getD k 0 : ℚ) : ℝ) * (A k col * x col) := by
          refine Finset.sum_congr rfl fun col _ => ?_
          rw [Finset.sum_mul]
          exact Finset.sum_congr rfl fun k _ => by ring
      _ = ∑ k : Fin m, (((c.getD i []).getD k 0 : ℚ) : ℝ) * ∑ col, A k col * x col := by
          rw [Finset.sum_comm]
          exact Finset.sum_congr rfl fun k _ => by rw [Finset.mul_sum]
      _ = 0 := by simp [hx]

end

end Ibex
