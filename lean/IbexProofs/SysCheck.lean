/-
  C13 — building blocks of the soundness of the checkers run on the dumps of the real derived
  systems (`matchAll` of `IbexModel/Sys.lean`: lists of (normal form, operator) equal up to a
  permutation have the same solutions), and the round trip of `write_ext_box` / `read_ext_box`.
  The checkers themselves are proved sound in `IbexProofs/SysT.lean`.
-/
import IbexProofs.SysSem
import IbexProofs.RatFun

namespace Ibex
namespace Sys
open Ibex Ibex.Eval List

theorem optAnd_true {a b : Option Bool} (h : optAnd a b = some true) : a = some true ∧ b = some true := by
  cases a with
  | none => cases b with
    | none => simp [optAnd] at h
    | some y => cases y <;> simp [optAnd] at h
  | some x => cases x with
    | false => simp [optAnd] at h
    | true => cases b with
      | none => simp [optAnd] at h
      | some y => cases y <;> simp [optAnd] at h ⊢

/-! ### `f_ctrs` / `ops[]` against the constraints -/

/-- a real value with its operator is represented by a normal form with the same operator -/
def RelNF (ρ : ℕ → ℝ) (p : ℝ × Cmp) (e : RF × Cmp) : Prop := RF.Rep ρ p.1 e.1 ∧ p.2 = e.2

def AllHold (L : List (ℝ × Cmp)) : Prop := ∀ p ∈ L, Cmp.holds p.2 p.1

theorem allHold_cons (p : ℝ × Cmp) (L : List (ℝ × Cmp)) :
    AllHold (p :: L) ↔ Cmp.holds p.2 p.1 ∧ AllHold L := List.forall_mem_cons

theorem allHold_append (L₁ L₂ : List (ℝ × Cmp)) : AllHold (L₁ ++ L₂) ↔ AllHold L₁ ∧ AllHold L₂ :=
  List.forall_mem_append

theorem removeMatch_cons {B : ℕ} {a b : RF × Cmp} {bs rest : List (RF × Cmp)}
    (h : removeMatch B a (b :: bs) = some (some rest)) :
    (a.2 = b.2 ∧ RF.eqv B a.1 b.1 = some true ∧ rest = bs) ∨
      ∃ r, removeMatch B a bs = some (some r) ∧ rest = b :: r := by
  rw [removeMatch] at h
  split_ifs at h with hop
  · split at h
    · rename_i he
      exact .inl ⟨hop, he, by cases h; rfl⟩
    · split at h
      · rename_i r hr
        exact .inr ⟨r, hr, by cases h; rfl⟩
      · split_ifs at h
        exact absurd h (by simp)
      · exact absurd h (by simp)
  · split at h
    · rename_i r hr
      exact .inr ⟨r, hr, by cases h; rfl⟩
    · rename_i hne
      exact absurd h (hne rest)

theorem removeMatch_sound {B : ℕ} {ρ : ℕ → ℝ} {a : RF × Cmp} {x : ℝ} (hx : RF.Rep ρ x a.1) :
    ∀ {bs rest : List (RF × Cmp)} {ys : List (ℝ × Cmp)}, removeMatch B a bs = some (some rest) →
      Forall₂ (RelNF ρ) ys bs →
      ∃ ys', Forall₂ (RelNF ρ) ys' rest ∧ (AllHold ys ↔ (Cmp.holds a.2 x ∧ AllHold ys'))
  | [], _, _, h, _ => by simp [removeMatch] at h
  | b :: bs, rest, ys, h, hys => by
    rw [forall₂_cons_right_iff] at hys
    obtain ⟨y, ys₀, hyb, hys₀, rfl⟩ := hys
    rcases removeMatch_cons h with ⟨hop, he, rfl⟩ | ⟨r, hr, rfl⟩
    · have hxy : x = y.1 := RF.eqv_sound he hx hyb.1
      exact ⟨ys₀, hys₀, by rw [allHold_cons, hyb.2, ← hop, ← hxy]⟩
    · obtain ⟨ys', hys', hiff⟩ := removeMatch_sound hx hr hys₀
      exact ⟨y :: ys', Forall₂.cons hyb hys', by rw [allHold_cons, allHold_cons, hiff, and_left_comm]⟩

theorem matchAll_sound {B : ℕ} {ρ : ℕ → ℝ} :
    ∀ {as bs : List (RF × Cmp)} {xs ys : List (ℝ × Cmp)}, matchAll B as bs = some true →
      Forall₂ (RelNF ρ) xs as → Forall₂ (RelNF ρ) ys bs → (AllHold xs ↔ AllHold ys)
  | [], [], _, _, _, hx, hy => by
    rw [forall₂_nil_right_iff] at hx hy
    rw [hx, hy]
  | [], _ :: _, _, _, h, _, _ => by simp [matchAll] at h
  | a :: as, bs, xs, ys, h, hx, hy => by
    rw [forall₂_cons_right_iff] at hx
    obtain ⟨x, xs₀, hxa, hxs₀, rfl⟩ := hx
    simp only [matchAll] at h
    split at h
    · exact absurd h (by simp)
    · exact absurd h (by simp)
    · rename_i rest hr
      obtain ⟨ys', hys', hiff⟩ := removeMatch_sound hxa.1 hr hy
      rw [allHold_cons, hiff, hxa.2, matchAll_sound h hxs₀ hys']

theorem forall₂_zip_ops {ρ : ℕ → ℝ} {ws : List ℝ} {Fs : List RF} (h : Forall₂ (RF.Rep ρ) ws Fs) :
    ∀ {ops : List Cmp}, Fs.length = ops.length →
      Forall₂ (RelNF ρ) (zip ws ops) (zip Fs ops) ∧
      (AllHold (zip ws ops) ↔ Forall₂ (fun x op => Cmp.holds op x) ws ops) := by
  induction h with
  | nil =>
    intro ops hl
    obtain rfl := List.length_eq_zero_iff.1 hl.symm
    exact ⟨Forall₂.nil, by simp [AllHold]⟩
  | cons h1 _ ih =>
    intro ops hl
    cases ops with
    | nil => simp at hl
    | cons op ops =>
      obtain ⟨ih1, ih2⟩ := ih (by simpa using hl)
      refine ⟨?_, ?_⟩
      · simp only [zip_cons_cons]
        exact Forall₂.cons ⟨h1, rfl⟩ ih1
      · simp only [zip_cons_cons, allHold_cons, forall₂_cons, ih2]

theorem readExt_writeExt {α : Type} (gv : ℕ) (box ext : List α) (hg : gv ≤ box.length)
    (he : gv < ext.length) : readExt gv (writeExt gv box ext) = box := by
  unfold readExt writeExt
  have ht : (box.take gv).length = gv := by rw [length_take]; omega
  obtain ⟨e, hx⟩ : ∃ e, (ext.drop gv).take 1 = [e] := by
    cases h : ext.drop gv with
    | nil =>
      have := congrArg length h
      rw [length_drop] at this
      simp at this
      omega
    | cons e l => exact ⟨e, by simp⟩
  rw [hx, append_assoc]
  have h1 : take gv (take gv box ++ ([e] ++ drop gv box)) = take gv box := by
    rw [take_append_of_le_length (by omega), take_take, min_self]
  have h2 : drop (gv + 1) (take gv box ++ ([e] ++ drop gv box)) = drop gv box := by
    rw [drop_append, ht, drop_eq_nil_of_le (by omega)]
    simp
  rw [h1, h2, take_append_drop]

end Sys
end Ibex
