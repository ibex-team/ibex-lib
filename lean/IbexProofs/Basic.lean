/-
  Real-number semantics of the executable model: `Ext` as extended reals,
  membership of a real in an `Itv`, soundness of directed rounding.
-/
import IbexModel
import Mathlib.Data.EReal.Basic
import Mathlib.Data.EReal.Operations
import Mathlib.Algebra.Order.Floor.Ring
import Mathlib.Data.Rat.Floor
import Mathlib.Tactic.Linarith
import Mathlib.Tactic.Positivity
import Mathlib.Tactic.Ring
import Mathlib.Tactic.NormNum

namespace Ibex
open Ibex

/-- extended-real value of a model bound -/
noncomputable def Ext.toE : Ext → EReal
  | .ninf => ⊥
  | .fin q => ((q : ℝ) : EReal)
  | .pinf => ⊤

@[simp] theorem Ext.toE_ninf : Ext.toE .ninf = ⊥ := rfl
@[simp] theorem Ext.toE_pinf : Ext.toE .pinf = ⊤ := rfl
@[simp] theorem Ext.toE_fin (q : Rat) : Ext.toE (.fin q) = ((q : ℝ) : EReal) := rfl

theorem Ext.le_iff (a b : Ext) : Ext.le a b = true ↔ a.toE ≤ b.toE := by
  cases a <;> cases b <;> simp [Ext.le]

theorem Ext.lt_iff (a b : Ext) : Ext.lt a b = true ↔ a.toE < b.toE := by
  unfold Ext.lt
  rw [Bool.not_eq_true', ← Bool.not_eq_true, Ext.le_iff]
  exact not_le

theorem Ext.toE_injective : Function.Injective Ext.toE := by
  intro a b h
  cases a <;> cases b <;> simp_all

theorem Ext.toE_min (a b : Ext) : (Ext.min a b).toE = Min.min a.toE b.toE := by
  unfold Ext.min
  by_cases h : Ext.le a b = true
  · simp [h, min_eq_left ((Ext.le_iff a b).1 h)]
  · have : ¬ a.toE ≤ b.toE := fun h' => h ((Ext.le_iff a b).2 h')
    simp [h, min_eq_right (le_of_lt (not_le.1 this))]

theorem Ext.toE_max (a b : Ext) : (Ext.max a b).toE = Max.max a.toE b.toE := by
  unfold Ext.max
  by_cases h : Ext.le a b = true
  · simp [h, max_eq_right ((Ext.le_iff a b).1 h)]
  · have : ¬ a.toE ≤ b.toE := fun h' => h ((Ext.le_iff a b).2 h')
    simp [h, max_eq_left (le_of_lt (not_le.1 this))]

theorem Ext.toE_neg (a : Ext) : (Ext.neg a).toE = - a.toE := by
  cases a <;> simp [Ext.neg]

def Itv.Mem (x : ℝ) : Itv → Prop
  | .empty => False
  | .mk lo hi => lo.toE ≤ (x : EReal) ∧ (x : EReal) ≤ hi.toE

instance : Membership ℝ Itv := ⟨fun I x => Itv.Mem x I⟩

theorem Itv.mem_mk (x : ℝ) (lo hi : Ext) : x ∈ Itv.mk lo hi ↔ lo.toE ≤ (x : EReal) ∧ (x : EReal) ≤ hi.toE := Iff.rfl
@[simp] theorem Itv.not_mem_empty (x : ℝ) : ¬ x ∈ Itv.empty := fun h => h

theorem Itv.mem_of_subset {x : ℝ} {I J : Itv} (h : Itv.subset I J = true) (hx : x ∈ I) : x ∈ J := by
  cases I with
  | empty => exact absurd hx (Itv.not_mem_empty x)
  | mk a b =>
    cases J with
    | empty => simp [Itv.subset] at h
    | mk c d =>
      simp only [Itv.subset, Bool.and_eq_true, Ext.le_iff] at h
      exact ⟨le_trans h.1 hx.1, le_trans hx.2 h.2⟩

theorem Itv.lo_le_hi {x : ℝ} {a b : Ext} (hx : x ∈ Itv.mk a b) : a.toE ≤ b.toE := le_trans hx.1 hx.2

theorem Itv.ordConnected {Z : Itv} {u v w : ℝ} (hu : u ∈ Z) (hw : w ∈ Z) (huv : u ≤ v) (hvw : v ≤ w) : v ∈ Z := by
  cases Z with
  | empty => exact absurd hu (Itv.not_mem_empty u)
  | mk lo hi =>
    exact ⟨le_trans hu.1 (EReal.coe_le_coe_iff.2 huv), le_trans (EReal.coe_le_coe_iff.2 hvw) hw.2⟩

theorem Ext.toE_zero : (Ext.fin 0).toE = 0 := by simp

theorem Ext.eq_zero_of_toE {a : Ext} (h : a.toE = 0) : a = Ext.fin 0 := by
  apply Ext.toE_injective; simpa using h

theorem Itv.mem_all (x : ℝ) : x ∈ Itv.all := ⟨bot_le, le_top⟩

theorem Itv.mem_point {v : ℝ} {q : Rat} : v ∈ Itv.point q ↔ v = (q : ℝ) := by
  simp only [Itv.point, Itv.mem_mk, Ext.toE_fin, EReal.coe_le_coe_iff]
  exact ⟨fun h => le_antisymm h.2 h.1, fun h => ⟨le_of_eq h.symm, le_of_eq h⟩⟩

theorem Itv.mem_point_zero {v : ℝ} : v ∈ Itv.point 0 ↔ v = 0 := by
  rw [Itv.mem_point]; simp

theorem Itv.containsExt_fin {I : Itv} {q : Rat} : Itv.containsExt I (.fin q) = true ↔ (q : ℝ) ∈ I := by
  cases I with
  | empty => simp [Itv.containsExt]
  | mk a b =>
    simp only [Itv.containsExt, Bool.and_eq_true, Ext.le_iff, Ext.toE_fin]
    exact Iff.rfl

theorem Itv.subset_refl (I : Itv) : Itv.subset I I = true := by
  cases I with
  | empty => rfl
  | mk a b => simp [Itv.subset, Ext.le_iff]

theorem Itv.subset_trans {I J K : Itv} (h1 : Itv.subset I J = true) (h2 : Itv.subset J K = true) :
    Itv.subset I K = true := by
  cases I with
  | empty => rfl
  | mk a b =>
    cases J with
    | empty => simp [Itv.subset] at h1
    | mk c d =>
      cases K with
      | empty => simp [Itv.subset] at h2
      | mk e f =>
        simp only [Itv.subset, Bool.and_eq_true, Ext.le_iff] at *
        exact ⟨le_trans h2.1 h1.1, le_trans h1.2 h2.2⟩

theorem Itv.ofBounds_subset {lo hi : Ext} {J : Itv} (h : Itv.subset (.mk lo hi) J = true) :
    Itv.subset (Itv.ofBounds lo hi) J = true := by
  unfold Itv.ofBounds; split
  · exact h
  · rfl

theorem Itv.inter_subset_left (I J : Itv) : Itv.subset (Itv.inter I J) I = true := by
  cases I with
  | empty => rfl
  | mk a b =>
    cases J with
    | empty => rfl
    | mk c d =>
      apply Itv.ofBounds_subset
      simp only [Itv.subset, Bool.and_eq_true, Ext.le_iff, Ext.toE_max, Ext.toE_min]
      exact ⟨le_max_left _ _, min_le_left _ _⟩

theorem Itv.inter_subset_right (I J : Itv) : Itv.subset (Itv.inter I J) J = true := by
  cases I with
  | empty => rfl
  | mk a b =>
    cases J with
    | empty => rfl
    | mk c d =>
      apply Itv.ofBounds_subset
      simp only [Itv.subset, Bool.and_eq_true, Ext.le_iff, Ext.toE_max, Ext.toE_min]
      exact ⟨le_max_right _ _, min_le_right _ _⟩

/-! ### negation -/

theorem Ext.neg_le_coe_neg {b : Ext} {x : ℝ} : (Ext.neg b).toE ≤ ((-x : ℝ) : EReal) ↔ (x : EReal) ≤ b.toE := by
  rw [Ext.toE_neg, EReal.coe_neg, EReal.neg_le_neg_iff]

theorem Ext.coe_neg_le_neg {a : Ext} {x : ℝ} : ((-x : ℝ) : EReal) ≤ (Ext.neg a).toE ↔ a.toE ≤ x := by
  rw [Ext.toE_neg, EReal.coe_neg, EReal.neg_le_neg_iff]

theorem Ext.neg_nonpos {b : Ext} : (Ext.neg b).toE ≤ 0 ↔ 0 ≤ b.toE := by
  simpa using Ext.neg_le_coe_neg (b := b) (x := 0)

theorem Ext.neg_nonneg {a : Ext} : 0 ≤ (Ext.neg a).toE ↔ a.toE ≤ 0 := by
  simpa using Ext.coe_neg_le_neg (a := a) (x := 0)

theorem Itv.mem_neg {v : ℝ} {I : Itv} : v ∈ Itv.neg I ↔ -v ∈ I := by
  cases I with
  | empty => exact Iff.rfl
  | mk a b =>
    have e : (v : EReal) = ((-(-v) : ℝ) : EReal) := by rw [neg_neg]
    show (Ext.neg b).toE ≤ (v : EReal) ∧ (v : EReal) ≤ (Ext.neg a).toE ↔ _
    rw [e, Ext.neg_le_coe_neg, Ext.coe_neg_le_neg, and_comm]
    exact Iff.rfl

theorem Itv.neg_encl {X : Itv} {x : ℝ} (hx : x ∈ X) : -x ∈ Itv.neg X :=
  Itv.mem_neg.2 (by rwa [neg_neg])

/-! ### from a comparison of bounds and a membership half to an order between reals -/

theorem Ext.fin_lt_real {q : ℚ} {lo : Ext} {v : ℝ} (h : Ext.lt (.fin q) lo = true) (hlo : lo.toE ≤ (v : EReal)) :
    (q : ℝ) < v := by
  simpa using lt_of_lt_of_le ((Ext.lt_iff _ _).1 h) hlo

theorem Ext.fin_le_real {q : ℚ} {lo : Ext} {v : ℝ} (h : Ext.le (.fin q) lo = true) (hlo : lo.toE ≤ (v : EReal)) :
    (q : ℝ) ≤ v := by
  simpa using le_trans ((Ext.le_iff _ _).1 h) hlo

theorem Ext.real_lt_fin {q : ℚ} {hi : Ext} {v : ℝ} (h : Ext.lt hi (.fin q) = true) (hhi : (v : EReal) ≤ hi.toE) :
    v < (q : ℝ) := by
  simpa using lt_of_le_of_lt hhi ((Ext.lt_iff _ _).1 h)

theorem Ext.real_le_fin {q : ℚ} {hi : Ext} {v : ℝ} (h : Ext.le hi (.fin q) = true) (hhi : (v : EReal) ≤ hi.toE) :
    v ≤ (q : ℝ) := by
  simpa using le_trans hhi ((Ext.le_iff _ _).1 h)

/-! ### directed rounding is sound -/

theorem pow2_pos (e : Int) : 0 < pow2 e := by
  unfold pow2
  split
  · exact_mod_cast Nat.pos_of_ne_zero (by positivity)
  · apply div_pos one_pos
    exact_mod_cast Nat.pos_of_ne_zero (by positivity)

theorem gridDown_le (u q : Rat) (hu : 0 < u) : gridDown u q ≤ q := by
  unfold gridDown
  have h : ((q / u).floor : Rat) ≤ q / u := Rat.floor_le _
  calc ((q / u).floor : Rat) * u ≤ (q / u) * u := by
        exact mul_le_mul_of_nonneg_right h (le_of_lt hu)
    _ = q := by field_simp

theorem le_gridUp (u q : Rat) (hu : 0 < u) : q ≤ gridUp u q := by
  unfold gridUp
  have h : q / u ≤ ((q / u).ceil : Rat) := Rat.le_ceil
  calc q = (q / u) * u := by field_simp
    _ ≤ ((q / u).ceil : Rat) * u := mul_le_mul_of_nonneg_right h (le_of_lt hu)

theorem rd_le (q : Rat) : (rd q).toE ≤ ((q : ℝ) : EReal) := by
  unfold rd
  split
  · rename_i h
    simp only [Ext.toE_fin, EReal.coe_le_coe_iff]
    exact_mod_cast le_of_lt h
  · split
    · simp
    · simp only [Ext.toE_fin, EReal.coe_le_coe_iff]
      exact_mod_cast gridDown_le _ q (pow2_pos _)

theorem le_ru (q : Rat) : ((q : ℝ) : EReal) ≤ (ru q).toE := by
  unfold ru
  split
  · rename_i h
    simp only [Ext.toE_fin, EReal.coe_le_coe_iff]
    exact_mod_cast le_of_lt h
  · split
    · simp
    · simp only [Ext.toE_fin, EReal.coe_le_coe_iff]
      exact_mod_cast le_gridUp _ q (pow2_pos _)

theorem mem_fin_iff {a b : ℚ} {x : ℝ} : x ∈ Itv.mk (.fin a) (.fin b) ↔ (a : ℝ) ≤ x ∧ x ≤ (b : ℝ) := by
  simp only [Itv.mem_mk, Ext.toE_fin, EReal.coe_le_coe_iff]

theorem mem_point_cast (q : ℚ) : ((q : ℚ) : ℝ) ∈ Itv.point q := Itv.mem_point.2 rfl

theorem mem_point_of_cast {q : ℚ} {x : ℝ} (h : ((q : ℚ) : ℝ) = x) : x ∈ Itv.point q := h ▸ mem_point_cast q

end Ibex
