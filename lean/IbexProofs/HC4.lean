/-
  The contractor contract of the HC4Revise model `IbexModel.HC4` (forward evaluation, meet of the
  root with the right-hand side, backward sweep with sequential in-place updates), over the reals,
  for every scalar DAG of the supported fragment (any size, any sharing / aliasing of arguments),
  every box and every right-hand side:

  * `revise_sub`   : the contracted box is inside the input box (no hypothesis at all: not even
                     distinct variable offsets, every write of `readBox` is a part of the box
                     component it replaces);
  * `revise_keeps` : a point of the box whose node values (`Sem`) put the root in `rhs` is never
                     lost: the result is not `empty`, and a returned box contains the point.

  Operators covered (all those of the model): var const add sub mul div max min minus sqr sqrt abs
  sign pow 1 pow 2.  `Sem` is a relation "vals[i] is the value of node i": arguments precede the
  node, denominators are non-zero, square roots take non-negative arguments, a (possibly thick)
  constant takes any of its members; nodes outside the fragment are unconstrained (the model then
  answers `unsupported`, about which nothing is claimed).

  Structure of the proofs: invariant `Inv v d` ("every node value is in its domain") established
  by the forward pass (`fwd_keeps`, from the enclosure lemmas of Arith/Arith2), kept by the meet
  with `rhs` and by every single in-place update of every backward step (`bwdNode_keeps`: the
  membership of the new domain is always derived from the CURRENT array, so aliased arguments
  need no special care), read back by `readBox_keeps`.  Contraction: every update is a part of
  the domain it replaces (`bwdNode_shrinks`), and variable nodes start from the box (`fwd_varDoms`).
-/
import IbexProofs.Arith2
import IbexProofs.Bwd

namespace Ibex.HC4
open Ibex

/-! ## interval facts -/

theorem r_sound : Rnd.Sound r := Rnd.dbl_sound

theorem mem_nonneg {v : ℝ} : v ∈ nonneg ↔ 0 ≤ v := Bwd.mem_nonneg

theorem divRel_eq : divRel = Bwd.divRelG r := by rfl

theorem divRel_cover {y x : Itv} {v w : ℝ} (hw : w ∈ x) (hvw : v * w ∈ y) :
    ∃ p ∈ divRel y x, v ∈ p :=
  divRel_eq ▸ Bwd.divRelG_cover r_sound hw hvw

theorem mem_divRelInter {y dd x : Itv} {v w : ℝ} (hv : v ∈ x) (hw : w ∈ dd) (hvw : v * w ∈ y) :
    v ∈ divRelInter y dd x := by
  obtain ⟨p, hp, hvp⟩ := divRel_cover hw hvw
  exact Bwd.mem_hullL (List.mem_map.2 ⟨p, hp, rfl⟩) (Bwd.mem_meetPiece hv hvp hvw)

theorem mem_sqrBwd {y x : Itv} {v : ℝ} (hv : v ∈ x) (h : v ^ 2 ∈ y) :
    v ∈ Itv.hull (Itv.inter x (Itv.sqrt (Itv.inter y nonneg)))
      (Itv.inter x (Itv.neg (Itv.sqrt (Itv.inter y nonneg)))) := by
  have hyp : v ^ 2 ∈ Itv.inter y nonneg := Itv.mem_inter.2 ⟨h, mem_nonneg.2 (sq_nonneg v)⟩
  have hs : |v| ∈ Itv.sqrt (Itv.inter y nonneg) := by
    have := Itv.sqrt_encl hyp (sq_nonneg v)
    rwa [Real.sqrt_sq_eq_abs] at this
  rcases le_total 0 v with h0 | h0
  · rw [abs_of_nonneg h0] at hs
    exact Itv.mem_hull_left (Itv.mem_inter.2 ⟨hv, hs⟩)
  · rw [abs_of_nonpos h0] at hs
    exact Itv.mem_hull_right (Itv.mem_inter.2 ⟨hv, Itv.mem_neg.2 hs⟩)

theorem mem_sqrtBwd {y x : Itv} {v : ℝ} (hv : v ∈ x) (h0 : 0 ≤ v) (h : Real.sqrt v ∈ y) :
    v ∈ Itv.inter x (Itv.sqr (Itv.inter y nonneg)) := by
  refine Itv.mem_inter.2 ⟨hv, ?_⟩
  have hs : Real.sqrt v ∈ Itv.inter y nonneg :=
    Itv.mem_inter.2 ⟨h, mem_nonneg.2 (Real.sqrt_nonneg v)⟩
  have := Itv.sqr_encl hs
  rwa [Real.mul_self_sqrt h0] at this

/-! ### the projections shrink their argument -/

theorem subset_foldl_hull {Z : Itv} : ∀ (l : List Itv) (acc : Itv), Itv.subset acc Z = true →
    (∀ q ∈ l, Itv.subset q Z = true) → Itv.subset (l.foldl Itv.hull acc) Z = true
  | [], _, h, _ => h
  | q :: l, acc, h, hl => by
    rw [List.foldl_cons]
    exact subset_foldl_hull l _ (Itv.hull_least h (hl q (List.mem_cons_self ..)))
      (fun q' hq' => hl q' (List.mem_cons_of_mem _ hq'))

theorem hullL_subset {Z : Itv} {l : List Itv} (hl : ∀ q ∈ l, Itv.subset q Z = true) :
    Itv.subset (Bwd.hullL l) Z = true :=
  subset_foldl_hull l _ rfl hl

theorem meetPiece_subset (y x p : Itv) : Itv.subset (Bwd.meetPiece y x p) x = true := by
  unfold Bwd.meetPiece
  dsimp only
  split
  · rfl
  · exact Itv.inter_subset_left x p

theorem divRelInter_subset (y dd x : Itv) : Itv.subset (divRelInter y dd x) x = true := by
  apply hullL_subset
  intro q hq
  obtain ⟨p, -, rfl⟩ := List.mem_map.1 hq
  exact meetPiece_subset y x p

theorem projMax1_subset (y x1 x2 : Itv) : Itv.subset (Bwd.projMax1 y x1 x2) x1 = true := by
  unfold Bwd.projMax1
  split
  · rfl
  · dsimp only
    split
    · rfl
    · split
      · exact Itv.inter_subset_left _ _
      · exact Itv.inter_subset_left _ _

theorem mem_of_mem_projMax1 {y x1 x2 : Itv} {t : ℝ} (h : t ∈ Bwd.projMax1 y x1 x2) : t ∈ x1 :=
  Itv.mem_of_subset (projMax1_subset y x1 x2) h

theorem mem_of_mem_projMin1 {y x1 x2 : Itv} {t : ℝ} (h : t ∈ Bwd.projMin1 y x1 x2) : t ∈ x1 := by
  unfold Bwd.projMin1 at h
  rw [Itv.mem_neg] at h
  have := mem_of_mem_projMax1 h
  rwa [Itv.mem_neg, neg_neg] at this

theorem projSign_subset (y x : Itv) : Itv.subset (Bwd.projSign y x) x = true := by
  cases x with
  | empty => rfl
  | mk a b =>
    simp only [Bwd.projSign]
    apply Itv.hull_least
    · split
      · simp only [Itv.subset, Bool.and_eq_true, Ext.le_iff, Ext.toE_max]
        exact ⟨le_max_left _ _, le_refl _⟩
      · rfl
    · apply Itv.hull_least
      · split
        · exact Itv.inter_subset_left _ _
        · rfl
      · split
        · simp only [Itv.subset, Bool.and_eq_true, Ext.le_iff, Ext.toE_min]
          exact ⟨le_refl _, min_le_left _ _⟩
        · rfl

theorem mem_of_mem_hull {X Y Z : Itv} {t : ℝ} (hX : Itv.subset X Z = true)
    (hY : Itv.subset Y Z = true) (h : t ∈ Itv.hull X Y) : t ∈ Z :=
  Itv.mem_of_subset (Itv.hull_least hX hY) h

/-! ## node domains: `get`, `upd` -/

theorem get_push_lt {d : Array Itv} {x : Itv} {j : Nat} (h : j < d.size) :
    get (d.push x) j = get d j := by
  simp [get, Array.getElem?_push, Nat.ne_of_lt h]

theorem get_push_eq (d : Array Itv) (x : Itv) : get (d.push x) d.size = x := by
  simp [get]

theorem get_set_eq {d : Array Itv} {a : Nat} (x : Itv) (h : a < d.size) :
    get (d.setIfInBounds a x) a = x := by
  simp [get, h]

theorem get_set_ne {d : Array Itv} {a j : Nat} (x : Itv) (h : a ≠ j) :
    get (d.setIfInBounds a x) j = get d j := by
  simp [get, h]

theorem get_set_oob {d : Array Itv} {a : Nat} (x : Itv) (h : ¬ a < d.size) (j : Nat) :
    get (d.setIfInBounds a x) j = get d j := by
  by_cases e : a = j
  · subst e
    have : d[a]? = none := by simp [Nat.le_of_not_lt h]
    simp [get, h]
  · exact get_set_ne x e

theorem upd_eq_some {d d' : Array Itv} {a : Nat} {x : Itv} (h : upd d a x = some d') :
    d' = d.setIfInBounds a x := by
  unfold upd at h
  split at h
  · cases h
  · exact (Option.some.inj h).symm

def Inv (v : Nat → ℝ) (d : Array Itv) : Prop := ∀ j, j < d.size → v j ∈ get d j

def Shrinks (d d' : Array Itv) : Prop := d'.size = d.size ∧ ∀ j (t : ℝ), t ∈ get d' j → t ∈ get d j

theorem Shrinks.refl (d : Array Itv) : Shrinks d d := ⟨rfl, fun _ _ h => h⟩

theorem Shrinks.trans {d d' d'' : Array Itv} (h : Shrinks d d') (h' : Shrinks d' d'') : Shrinks d d'' :=
  ⟨h'.1.trans h.1, fun j t ht => h.2 j t (h'.2 j t ht)⟩

theorem upd_shrinks {d0 d d' : Array Itv} {a : Nat} {x : Itv} (h0 : Shrinks d0 d)
    (hx : ∀ t : ℝ, t ∈ x → t ∈ get d0 a) (h : upd d a x = some d') : Shrinks d0 d' := by
  rw [upd_eq_some h]
  refine ⟨by simpa using h0.1, fun j t ht => ?_⟩
  by_cases hb : a < d.size
  · by_cases e : a = j
    · subst e
      rw [get_set_eq x hb] at ht
      exact hx t ht
    · rw [get_set_ne x e] at ht
      exact h0.2 j t ht
  · rw [get_set_oob x hb] at ht
    exact h0.2 j t ht

/-! ## real semantics of a scalar DAG -/

/-- node `i` has the value prescribed by its operator on the values of its arguments
    (`v j` = value of node `j`); arguments come before the node.  Constants may be thick: any
    member.  Nodes outside the supported fragment are unconstrained (`revise` is then
    `unsupported` and nothing is claimed). -/
def NodeSem (p : List ℝ) (v : Nat → ℝ) (i : Nat) (n : Node) : Prop :=
  match n.k with
  | .var off => p[off]? = some (v i)
  | .const [c] => v i ∈ c
  | .bin "add" a b => a < i ∧ b < i ∧ v i = v a + v b
  | .bin "sub" a b => a < i ∧ b < i ∧ v i = v a - v b
  | .bin "mul" a b => a < i ∧ b < i ∧ v i = v a * v b
  | .bin "div" a b => a < i ∧ b < i ∧ v b ≠ 0 ∧ v i = v a / v b
  | .bin "max" a b => a < i ∧ b < i ∧ v i = Max.max (v a) (v b)
  | .bin "min" a b => a < i ∧ b < i ∧ v i = Min.min (v a) (v b)
  | .un "minus" a => a < i ∧ v i = - v a
  | .un "sqr" a => a < i ∧ v i = v a ^ 2
  | .un "sqrt" a => a < i ∧ 0 ≤ v a ∧ v i = Real.sqrt (v a)
  | .un "abs" a => a < i ∧ v i = |v a|
  | .un "sign" a => a < i ∧ v i = (SignType.sign (v a) : ℝ)
  | .pow a 1 => a < i ∧ v i = v a
  | .pow a 2 => a < i ∧ v i = v a ^ 2
  | _ => True

/-- `vals` are the real values of the nodes of `dag` at the point `p` -/
def Sem (dag : Dag) (p : List ℝ) (vals : Array ℝ) : Prop :=
  vals.size = dag.size ∧ ∀ i (h : i < dag.size), NodeSem p (fun j => vals.getD j 0) i dag[i]

/-! ## forward pass -/

/-- outcome of a forward step on a node of value `t`: unsupported, or a domain containing `t` -/
def FwdOk (t : ℝ) (o : Option (Option Itv)) : Prop := o = none ∨ ∃ x, o = some (some x) ∧ t ∈ x

theorem ne_keeps {X : Itv} {t : ℝ} (h : t ∈ X) : FwdOk t (some (if X.isEmpty = true then none else some X)) :=
  Or.inr ⟨X, by simp [Itv.isEmpty_eq_false_of_mem h], h⟩

theorem fwdNode_keeps {p : List ℝ} {box : List Itv} {v : Nat → ℝ} {d : Array Itv} {i : Nat} {n : Node}
    (hp : Box.Mem p box) (hI : Inv v d) (hsz : d.size = i) (hs : NodeSem p v i n) :
    FwdOk (v i) (fwdNode box d n) := by
  have arg : ∀ {a}, a < i → v a ∈ get d a := fun h => hI _ (hsz ▸ h)
  unfold fwdNode
  split
  · exact Or.inl rfl
  · dsimp only
    -- one goal per alternative of `fwdNode`, in its order; the last is the catch-all `| _`
    split
    rotate_right
    · exact Or.inl rfl
    all_goals (rename_i heq; rw [NodeSem, heq] at hs)
    · -- var
      rename_i off
      obtain ⟨hl, hm⟩ := Box.mem_iff.1 hp
      have hlt : off < box.length := by
        rw [← hl]; exact (List.getElem?_eq_some_iff.1 hs).1
      have hb : box[off]? = some box[off] := List.getElem?_eq_getElem hlt
      have hv : v i ∈ box[off] := hm off _ _ hs hb
      exact Or.inr ⟨box[off], by simp [hb, Itv.isEmpty_eq_false_of_mem hv], hv⟩
    · exact ne_keeps hs
    · obtain ⟨ha, hb, e⟩ := hs
      rw [e]; exact ne_keeps (Itv.add_encl (arg ha) (arg hb))
    · obtain ⟨ha, hb, e⟩ := hs
      rw [e]; exact ne_keeps (Itv.sub_encl (arg ha) (arg hb))
    · obtain ⟨ha, hb, e⟩ := hs
      rw [e]; exact ne_keeps (Itv.mul_encl (arg ha) (arg hb))
    · obtain ⟨ha, hb, h0, e⟩ := hs
      rw [e]; exact ne_keeps (Itv.div_encl (arg ha) (arg hb) h0)
    · obtain ⟨ha, hb, e⟩ := hs
      rw [e]; exact ne_keeps (Itv.max_encl (arg ha) (arg hb))
    · obtain ⟨ha, hb, e⟩ := hs
      rw [e]; exact ne_keeps (Itv.min_encl (arg ha) (arg hb))
    · obtain ⟨ha, e⟩ := hs
      rw [e]; exact ne_keeps (Itv.neg_encl (arg ha))
    · obtain ⟨ha, e⟩ := hs
      rw [e, pow_two]; exact ne_keeps (Itv.sqr_encl (arg ha))
    · obtain ⟨ha, h0, e⟩ := hs
      rw [e]; exact ne_keeps (Itv.sqrt_encl (arg ha) h0)
    · obtain ⟨ha, e⟩ := hs
      rw [e]; exact ne_keeps (Itv.abs_encl (arg ha))
    · obtain ⟨ha, e⟩ := hs
      rw [e]; exact ne_keeps (Itv.sign_encl (arg ha))
    · obtain ⟨ha, e⟩ := hs
      rw [e]; exact ne_keeps (arg ha)
    · obtain ⟨ha, e⟩ := hs
      rw [e, pow_two]; exact ne_keeps (Itv.sqr_encl (arg ha))

def fwdStep (box : List Itv) (acc : Option (Array Itv)) (n : Node) : Option (Option (Array Itv)) :=
  match acc with
  | none => some none
  | some d => (fwdNode box d n).map fun v => v.map d.push

theorem fwd_eq (dag : Dag) (box : List Itv) :
    fwd dag box = dag.toList.foldlM (fwdStep box) (some #[]) := by
  unfold fwd
  rw [Array.foldlM_toList]
  rfl

def FwdPost (Q : Array Itv → Prop) (E : Prop) (n : Nat) : Option (Option (Array Itv)) → Prop
  | none => True
  | some none => E
  | some (some d) => Q d ∧ d.size = n

/-- induction principle of the forward pass: `Q` holds of the growing array of domains, `E` holds
    if the pass stops on an empty node -/
theorem fwd_ind {box : List Itv} {dag : Dag} {Q : Array Itv → Prop} {E : Prop} (h0 : Q #[])
    (hE : ∀ d n, dag[d.size]? = some n → Q d → fwdNode box d n = some none → E)
    (hQ : ∀ d n x, dag[d.size]? = some n → Q d → fwdNode box d n = some (some x) → Q (d.push x)) :
    FwdPost Q E dag.size (fwd dag box) := by
  have key : ∀ (l pre : List Node) (acc : Option (Array Itv)), dag.toList = pre ++ l →
      FwdPost Q E pre.length (some acc) →
      FwdPost Q E dag.size (l.foldlM (fwdStep box) acc) := by
    intro l
    induction l with
    | nil =>
      intro pre acc hl hacc
      have : pre.length = dag.size := by
        have := congrArg List.length hl
        simpa using this.symm
      rw [this] at hacc
      exact hacc
    | cons n l ih =>
      intro pre acc hl hacc
      rw [List.foldlM_cons]
      have hl' : dag.toList = (pre ++ [n]) ++ l := by rw [hl]; simp
      have hn : dag[pre.length]? = some n := by
        rw [← Array.getElem?_toList, hl]; simp
      cases acc with
      | none =>
        have : fwdStep box none n = some none := rfl
        rw [this]
        exact ih (pre ++ [n]) none hl' hacc
      | some d =>
        obtain ⟨hq, hsz⟩ := hacc
        rw [← hsz] at hn
        have e : fwdStep box (some d) n = (fwdNode box d n).map fun v => v.map d.push := rfl
        rw [e]
        cases hf : fwdNode box d n with
        | none => exact trivial
        | some r =>
          cases r with
          | none => exact ih (pre ++ [n]) none hl' (hE d n hn hq hf)
          | some x =>
            refine ih (pre ++ [n]) (some (d.push x)) hl' ⟨hQ d n x hn hq hf, ?_⟩
            simp [hsz]
  rw [fwd_eq]
  exact key dag.toList [] (some #[]) (by simp) ⟨h0, rfl⟩

theorem fwd_keeps {dag : Dag} {p : List ℝ} {box : List Itv} {v : Nat → ℝ} (hp : Box.Mem p box)
    (hs : ∀ i (h : i < dag.size), NodeSem p v i dag[i]) :
    FwdPost (Inv v) False dag.size (fwd dag box) := by
  have sem : ∀ (d : Array Itv) n, dag[d.size]? = some n → NodeSem p v d.size n := by
    intro d n hn
    obtain ⟨h, e⟩ := Array.getElem?_eq_some_iff.1 hn
    exact e ▸ hs d.size h
  refine fwd_ind (fun j hj => absurd hj (by simp)) ?_ ?_
  · intro d n hn hI hf
    rcases fwdNode_keeps hp hI rfl (sem d n hn) with h | ⟨x, h, -⟩ <;> rw [h] at hf <;> cases hf
  · intro d n x hn hI hf j hj
    rcases fwdNode_keeps hp hI rfl (sem d n hn) with h | ⟨x', h, hx⟩
    · rw [h] at hf; cases hf
    · rw [h] at hf
      cases hf
      rw [Array.size_push] at hj
      rcases Nat.lt_succ_iff_lt_or_eq.1 hj with hlt | rfl
      · rw [get_push_lt hlt]; exact hI j hlt
      · rw [get_push_eq]; exact hx

/-! ## backward sweep: no consistent value is lost -/

def Keeps (v : Nat → ℝ) (s : Nat) (o : Option (Array Itv)) : Prop :=
  ∃ d', o = some d' ∧ Inv v d' ∧ d'.size = s

theorem Keeps.bind {v : Nat → ℝ} {s : Nat} {o : Option (Array Itv)} {f : Array Itv → Option (Array Itv)}
    (h : Keeps v s o) (hf : ∀ d1, Inv v d1 → d1.size = s → Keeps v s (f d1)) : Keeps v s (o >>= f) := by
  obtain ⟨d1, rfl, hI1, hs1⟩ := h
  exact hf d1 hI1 hs1

theorem upd_keeps {v : Nat → ℝ} {d : Array Itv} {a s : Nat} {x : Itv} (hI : Inv v d) (hsz : d.size = s)
    (hx : v a ∈ x) : Keeps v s (upd d a x) := by
  refine ⟨d.setIfInBounds a x, ?_, ?_, by simp [hsz]⟩
  · simp [upd, Itv.isEmpty_eq_false_of_mem hx]
  · intro j hj
    rw [Array.size_setIfInBounds] at hj
    by_cases e : a = j
    · subst e
      rw [get_set_eq x hj]
      exact hx
    · rw [get_set_ne x e]
      exact hI j hj

theorem bwdNode_keeps {p : List ℝ} {v : Nat → ℝ} {d : Array Itv} {i : Nat} {n : Node}
    (hI : Inv v d) (hi : i < d.size) (hs : NodeSem p v i n) :
    Keeps v d.size (bwdNode d i n) := by
  have hy : v i ∈ get d i := hI i hi
  have arg : ∀ {d1 : Array Itv} {a}, Inv v d1 → d1.size = d.size → a < i → v a ∈ get d1 a :=
    fun h1 h2 h3 => h1 _ (by omega)
  unfold bwdNode
  dsimp only
  -- one goal per alternative of `bwdNode`, in its order; the last is the catch-all `| _`
  split
  rotate_right
  · exact ⟨d, rfl, hI, rfl⟩
  all_goals (rename_i heq; rw [NodeSem, heq] at hs)
  · exact ⟨d, rfl, hI, rfl⟩
  · exact ⟨d, rfl, hI, rfl⟩
  · -- add
    obtain ⟨ha, hb, e⟩ := hs
    refine Keeps.bind (upd_keeps hI rfl (Itv.mem_inter.2 ⟨arg hI rfl ha, ?_⟩)) fun d1 hI1 hs1 =>
      upd_keeps hI1 hs1 (Itv.mem_inter.2 ⟨arg hI1 hs1 hb, ?_⟩)
    · have := Itv.sub_encl hy (arg hI rfl hb)
      rwa [e, add_sub_cancel_right] at this
    · have := Itv.sub_encl hy (arg hI1 hs1 ha)
      rwa [e, add_sub_cancel_left] at this
  · -- sub
    obtain ⟨ha, hb, e⟩ := hs
    refine Keeps.bind (upd_keeps hI rfl (Itv.mem_inter.2 ⟨arg hI rfl ha, ?_⟩)) fun d1 hI1 hs1 =>
      upd_keeps hI1 hs1 (Itv.mem_inter.2 ⟨arg hI1 hs1 hb, ?_⟩)
    · have := Itv.add_encl hy (arg hI rfl hb)
      rwa [e, sub_add_cancel] at this
    · have := Itv.sub_encl (arg hI1 hs1 ha) hy
      rwa [e, sub_sub_cancel] at this
  · -- mul
    obtain ⟨ha, hb, e⟩ := hs
    rw [e] at hy
    refine Keeps.bind (upd_keeps hI rfl (mem_divRelInter (arg hI rfl ha) (arg hI rfl hb) hy))
      fun d1 hI1 hs1 => upd_keeps hI1 hs1 (mem_divRelInter (arg hI1 hs1 hb) (arg hI1 hs1 ha) ?_)
    rwa [mul_comm]
  · -- div
    rename_i a b
    obtain ⟨ha, hb, h0, e⟩ := hs
    refine Keeps.bind (upd_keeps hI rfl (Itv.mem_inter.2 ⟨arg hI rfl ha, ?_⟩)) fun d1 hI1 hs1 => ?_
    · have := Itv.mul_encl hy (arg hI rfl hb)
      rwa [e, div_mul_cancel₀ _ h0] at this
    · have hprod : v i * v b ∈ get d1 a := by
        rw [e, div_mul_cancel₀ _ h0]; exact arg hI1 hs1 ha
      have htmp : v i ∈ divRelInter (get d1 a) (get d1 b) (get d i) :=
        mem_divRelInter hy (arg hI1 hs1 hb) hprod
      rw [if_neg (by simp [Itv.isEmpty_eq_false_of_mem htmp])]
      refine upd_keeps hI1 hs1 (mem_divRelInter (arg hI1 hs1 hb) htmp ?_)
      rwa [mul_comm]
  · -- max
    obtain ⟨ha, hb, e⟩ := hs
    rw [e] at hy
    refine Keeps.bind (upd_keeps hI rfl (Bwd.mem_projMax1 (arg hI rfl ha) (arg hI rfl hb) hy))
      fun d1 hI1 hs1 => upd_keeps hI1 hs1 (Bwd.mem_projMax1 (arg hI rfl hb) (arg hI rfl ha) ?_)
    rwa [max_comm]
  · -- min
    obtain ⟨ha, hb, e⟩ := hs
    rw [e] at hy
    refine Keeps.bind (upd_keeps hI rfl (Bwd.mem_projMin1 (arg hI rfl ha) (arg hI rfl hb) hy))
      fun d1 hI1 hs1 => upd_keeps hI1 hs1 (Bwd.mem_projMin1 (arg hI rfl hb) (arg hI rfl ha) ?_)
    rwa [min_comm]
  · -- minus
    obtain ⟨ha, e⟩ := hs
    refine upd_keeps hI rfl (Itv.mem_inter.2 ⟨arg hI rfl ha, ?_⟩)
    have := Itv.neg_encl hy
    rwa [e, neg_neg] at this
  · -- sqr
    obtain ⟨ha, e⟩ := hs
    rw [e] at hy
    exact upd_keeps hI rfl (mem_sqrBwd (arg hI rfl ha) hy)
  · -- pow 2
    obtain ⟨ha, e⟩ := hs
    rw [e] at hy
    exact upd_keeps hI rfl (mem_sqrBwd (arg hI rfl ha) hy)
  · -- pow 1
    obtain ⟨ha, e⟩ := hs
    rw [e] at hy
    exact upd_keeps hI rfl (Itv.mem_inter.2 ⟨arg hI rfl ha, hy⟩)
  · -- sqrt
    obtain ⟨ha, h0, e⟩ := hs
    rw [e] at hy
    exact upd_keeps hI rfl (mem_sqrtBwd (arg hI rfl ha) h0 hy)
  · -- abs
    obtain ⟨ha, e⟩ := hs
    rw [e] at hy
    exact upd_keeps hI rfl (Bwd.mem_projAbs (arg hI rfl ha) hy)
  · -- sign
    obtain ⟨ha, e⟩ := hs
    rw [e] at hy
    exact upd_keeps hI rfl (Bwd.mem_projSign (arg hI rfl ha) hy)

def StepsOf (dag : Dag) (l : List (Node × Nat)) : Prop := ∀ q ∈ l, dag[q.2]? = some q.1

theorem stepsOf_zipIdx (dag : Dag) : StepsOf dag dag.toList.zipIdx := by
  intro q hq
  rw [List.mem_zipIdx_iff_getElem?, Array.getElem?_toList] at hq
  exact hq

theorem stepsOf_reverse (dag : Dag) : StepsOf dag dag.toList.zipIdx.reverse :=
  fun q hq => stepsOf_zipIdx dag q (List.mem_reverse.1 hq)

theorem nodeSem_of_step {dag : Dag} {p : List ℝ} {v : Nat → ℝ}
    (hs : ∀ i (h : i < dag.size), NodeSem p v i dag[i]) {q : Node × Nat} (hq : dag[q.2]? = some q.1) :
    q.2 < dag.size ∧ NodeSem p v q.2 q.1 := by
  obtain ⟨h, e⟩ := Array.getElem?_eq_some_iff.1 hq
  exact ⟨h, e ▸ hs q.2 h⟩

theorem sweep_keeps {dag : Dag} {p : List ℝ} {v : Nat → ℝ}
    (hs : ∀ i (h : i < dag.size), NodeSem p v i dag[i]) :
    ∀ (l : List (Node × Nat)), StepsOf dag l → ∀ d, Inv v d → d.size = dag.size →
      Keeps v dag.size (l.foldlM (fun d (q : Node × Nat) => bwdNode d q.2 q.1) d)
  | [], _, d, hI, hsz => ⟨d, rfl, hI, hsz⟩
  | q :: l, hl, d, hI, hsz => by
    rw [List.foldlM_cons]
    obtain ⟨hlt, hsem⟩ := nodeSem_of_step hs (hl q (List.mem_cons_self ..))
    have := bwdNode_keeps hI (hsz ▸ hlt) hsem
    rw [hsz] at this
    exact this.bind fun d1 hI1 hs1 =>
      sweep_keeps hs l (fun q' hq' => hl q' (List.mem_cons_of_mem _ hq')) d1 hI1 hs1

theorem readBox_keeps {dag : Dag} {p : List ℝ} {v : Nat → ℝ} {d : Array Itv}
    (hs : ∀ i (h : i < dag.size), NodeSem p v i dag[i]) (hI : Inv v d) (hsz : d.size = dag.size)
    {box : List Itv} (hp : Box.Mem p box) : Box.Mem p (readBox dag box d) := by
  have key : ∀ (l : List (Node × Nat)), StepsOf dag l → ∀ b : List Itv, Box.Mem p b →
      Box.Mem p (l.foldl (fun b (q : Node × Nat) =>
        match q.1.k with
        | .var off => b.set off (get d q.2)
        | _ => b) b) := by
    intro l
    induction l with
    | nil => intro _ b hb; exact hb
    | cons q l ih =>
      intro hl b hb
      rw [List.foldl_cons]
      apply ih (fun q' hq' => hl q' (List.mem_cons_of_mem _ hq'))
      obtain ⟨hlt, hsem⟩ := nodeSem_of_step hs (hl q (List.mem_cons_self ..))
      split
      · rename_i off heq
        simp only [NodeSem, heq] at hsem
        exact Box.mem_set hb hsem (hI _ (hsz ▸ hlt))
      · exact hb
  exact key _ (stepsOf_zipIdx dag) box hp

/-- **No feasible point is lost.**  `p` is in the box, `vals` are the node values at `p`
    (`Sem`), the value `t` of the root (last node) is in `rhs`: HC4Revise does not answer `empty`,
    and a box it returns contains `p`.  (Nothing is claimed when it answers `unsupported`.) -/
theorem revise_keeps {dag : Dag} {rhs : Itv} {box : List Itv} {p : List ℝ} {vals : Array ℝ} {t : ℝ}
    (hp : Box.Mem p box) (hs : Sem dag p vals) (hroot : vals.back? = some t) (ht : t ∈ rhs) :
    revise dag rhs box ≠ .empty ∧ ∀ b, revise dag rhs box = .box b → Box.Mem p b := by
  obtain ⟨hvs, hsem⟩ := hs
  have hne : box.any Itv.isEmpty = false := Box.isEmpty_eq_false_of_mem hp
  have hfw := fwd_keeps hp hsem
  unfold revise
  rw [if_neg (by simp [hne])]
  cases hf : fwd dag box with
  | none => exact ⟨by simp, by simp⟩
  | some r =>
    rw [hf] at hfw
    cases r with
    | none => exact absurd hfw id
    | some d =>
      obtain ⟨hI, hsz⟩ := hfw
      -- the root is the last node: its value is `t`
      rw [Array.back?_eq_getElem?, hvs] at hroot
      obtain ⟨hlt, e⟩ := Array.getElem?_eq_some_iff.1 hroot
      have hv : vals.getD (dag.size - 1) 0 = t := by simp [Array.getD, hlt, e]
      have hpos : dag.size - 1 < d.size := by omega
      have hr : vals.getD (dag.size - 1) 0 ∈ Itv.inter (get d (dag.size - 1)) rhs :=
        Itv.mem_inter.2 ⟨hI _ hpos, hv ▸ ht⟩
      obtain ⟨d1, h1, hI1, hs1⟩ := upd_keeps (a := dag.size - 1) hI hsz hr
      obtain ⟨d2, h2, hI2, hs2⟩ := sweep_keeps hsem _ (stepsOf_reverse dag) d1 hI1 hs1
      simp only [h1, h2]
      refine ⟨by simp, fun b hb => ?_⟩
      cases hb
      exact readBox_keeps hsem hI2 hs2 hp

/-! ## contraction -/

theorem mem_inter_left {X Y : Itv} {t : ℝ} (h : t ∈ Itv.inter X Y) : t ∈ X := (Itv.mem_inter.1 h).1

theorem mem_of_mem_hull_inter {X S T : Itv} {t : ℝ}
    (h : t ∈ Itv.hull (Itv.inter X S) (Itv.inter X T)) : t ∈ X :=
  mem_of_mem_hull (Itv.inter_subset_left _ _) (Itv.inter_subset_left _ _) h

theorem mem_of_mem_divRelInter {y dd x : Itv} {t : ℝ} (h : t ∈ divRelInter y dd x) : t ∈ x :=
  Itv.mem_of_subset (divRelInter_subset y dd x) h

theorem bwdNode_shrinks {d d' : Array Itv} {i : Nat} {n : Node} (h : bwdNode d i n = some d') :
    Shrinks d d' := by
  have R := Shrinks.refl d
  unfold bwdNode at h
  dsimp only at h
  -- one goal per alternative of `bwdNode`, in its order; the last is the catch-all `| _`
  split at h
  rotate_right
  · cases h; exact R
  · cases h; exact R
  · cases h; exact R
  · -- add
    obtain ⟨d1, h1, h2⟩ := Option.bind_eq_some_iff.1 h
    have S1 := upd_shrinks R (fun t ht => mem_inter_left ht) h1
    exact upd_shrinks S1 (fun t ht => S1.2 _ t (mem_inter_left ht)) h2
  · -- sub
    obtain ⟨d1, h1, h2⟩ := Option.bind_eq_some_iff.1 h
    have S1 := upd_shrinks R (fun t ht => mem_inter_left ht) h1
    exact upd_shrinks S1 (fun t ht => S1.2 _ t (mem_inter_left ht)) h2
  · -- mul
    obtain ⟨d1, h1, h2⟩ := Option.bind_eq_some_iff.1 h
    have S1 := upd_shrinks R (fun t ht => mem_of_mem_divRelInter ht) h1
    exact upd_shrinks S1 (fun t ht => S1.2 _ t (mem_of_mem_divRelInter ht)) h2
  · -- div
    obtain ⟨d1, h1, h2⟩ := Option.bind_eq_some_iff.1 h
    have S1 := upd_shrinks R (fun t ht => mem_inter_left ht) h1
    split at h2
    · cases h2
    · exact upd_shrinks S1 (fun t ht => S1.2 _ t (mem_of_mem_divRelInter ht)) h2
  · -- max
    obtain ⟨d1, h1, h2⟩ := Option.bind_eq_some_iff.1 h
    have S1 := upd_shrinks R (fun t ht => mem_of_mem_projMax1 ht) h1
    exact upd_shrinks S1 (fun t ht => mem_of_mem_projMax1 ht) h2
  · -- min
    obtain ⟨d1, h1, h2⟩ := Option.bind_eq_some_iff.1 h
    have S1 := upd_shrinks R (fun t ht => mem_of_mem_projMin1 ht) h1
    exact upd_shrinks S1 (fun t ht => mem_of_mem_projMin1 ht) h2
  · exact upd_shrinks R (fun t ht => mem_inter_left ht) h
  · exact upd_shrinks R (fun t ht => mem_of_mem_hull_inter ht) h
  · exact upd_shrinks R (fun t ht => mem_of_mem_hull_inter ht) h
  · exact upd_shrinks R (fun t ht => mem_inter_left ht) h
  · exact upd_shrinks R (fun t ht => mem_inter_left ht) h
  · exact upd_shrinks R (fun t ht => mem_of_mem_hull_inter ht) h
  · exact upd_shrinks R (fun t ht => Itv.mem_of_subset (projSign_subset _ _) ht) h

theorem sweep_shrinks : ∀ (l : List (Node × Nat)) (d d' : Array Itv),
    l.foldlM (fun d (q : Node × Nat) => bwdNode d q.2 q.1) d = some d' → Shrinks d d'
  | [], d, d', h => by cases h; exact Shrinks.refl d
  | q :: l, d, d', h => by
    rw [List.foldlM_cons] at h
    obtain ⟨d1, h1, h2⟩ := Option.bind_eq_some_iff.1 h
    exact (bwdNode_shrinks h1).trans (sweep_shrinks l d1 d' h2)

theorem fwdNode_var {box : List Itv} {d : Array Itv} {n : Node} {x : Itv} {off : Nat}
    (hf : fwdNode box d n = some (some x)) (hk : n.k = .var off) : box[off]? = some x := by
  unfold fwdNode at hf
  split at hf
  · cases hf
  · simp only [hk] at hf
    cases hb : box[off]? with
    | none => rw [hb] at hf; cases hf
    | some I =>
      rw [hb] at hf
      simp only [Option.map_some, Option.some.injEq] at hf
      split at hf
      · cases hf
      · rw [Option.some.inj hf]

def VarDoms (dag : Dag) (box : List Itv) (d : Array Itv) : Prop :=
  ∀ j n off, j < d.size → dag[j]? = some n → n.k = .var off → box[off]? = some (get d j)

theorem fwd_varDoms (dag : Dag) (box : List Itv) :
    FwdPost (VarDoms dag box) True dag.size (fwd dag box) := by
  refine fwd_ind (fun j n off hj => absurd hj (by simp)) (fun _ _ _ _ _ => trivial) ?_
  intro d n x hn hQ hf j n' off hj hn' hk
  rw [Array.size_push] at hj
  rcases Nat.lt_succ_iff_lt_or_eq.1 hj with hlt | rfl
  · rw [get_push_lt hlt]; exact hQ j n' off hlt hn' hk
  · rw [get_push_eq]
    rw [hn] at hn'
    cases hn'
    exact fwdNode_var hf hk

def BoxSub (b box : List Itv) : Prop := List.Forall₂ (fun I J : Itv => ∀ t : ℝ, t ∈ I → t ∈ J) b box

theorem BoxSub.refl : ∀ (box : List Itv), BoxSub box box
  | [] => List.Forall₂.nil
  | _ :: l => List.Forall₂.cons (fun _ h => h) (BoxSub.refl l)

theorem BoxSub.mem {p : List ℝ} {b box : List Itv} (hm : Box.Mem p b) (hs : BoxSub b box) :
    Box.Mem p box := by
  induction hm generalizing box with
  | nil => cases hs; exact List.Forall₂.nil
  | cons h0 _ ih =>
    cases hs with
    | cons h1 h2 => exact List.Forall₂.cons (h1 _ h0) (ih h2)

theorem readBox_sub {dag : Dag} {box : List Itv} {d d' : Array Itv} (hv : VarDoms dag box d)
    (hsz : d.size = dag.size) (hS : Shrinks d d') : BoxSub (readBox dag box d') box := by
  have key : ∀ (l : List (Node × Nat)), StepsOf dag l → ∀ b : List Itv, BoxSub b box →
      BoxSub (l.foldl (fun b (q : Node × Nat) =>
        match q.1.k with
        | .var off => b.set off (get d' q.2)
        | _ => b) b) box := by
    intro l
    induction l with
    | nil => intro _ b hb; exact hb
    | cons q l ih =>
      intro hl b hb
      rw [List.foldl_cons]
      apply ih (fun q' hq' => hl q' (List.mem_cons_of_mem _ hq'))
      have hq := hl q (List.mem_cons_self ..)
      split
      · rename_i off heq
        have hlt : q.2 < d.size := hsz ▸ (Array.getElem?_eq_some_iff.1 hq).1
        exact forall₂_set_left hb (hv q.2 q.1 off hlt hq heq) (fun t ht => hS.2 _ t ht)
      · exact hb
  exact key _ (stepsOf_zipIdx dag) box (BoxSub.refl box)

/-- **Contraction.**  The box returned by HC4Revise is inside the input box. -/
theorem revise_sub {dag : Dag} {rhs : Itv} {box b : List Itv} (h : revise dag rhs box = .box b) :
    ∀ p, Box.Mem p b → Box.Mem p box := by
  intro p hp
  have hfw := fwd_varDoms dag box
  unfold revise at h
  split at h
  · cases h
  · split at h
    · cases h
    · cases h
    · rename_i d hf
      rw [hf] at hfw
      obtain ⟨hv, hsz⟩ := hfw
      dsimp only at h
      split at h
      · cases h
      · rename_i d1 h1
        split at h
        · cases h
        · rename_i d2 h2
          cases h
          have S1 : Shrinks d d1 := upd_shrinks (Shrinks.refl d) (fun t ht => mem_inter_left ht) h1
          have S2 : Shrinks d1 d2 := sweep_shrinks _ _ _ h2
          exact (readBox_sub hv hsz (S1.trans S2)).mem hp

end Ibex.HC4
