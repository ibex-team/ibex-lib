/-
  Soundness of the normal-form arithmetic of `IbexModel/RatFun.lean`: polynomials and formal quotients, evaluated
  at a valuation `ρ : ℕ → ℝ`, denote what their operations say, and the normal form of a DAG denotes its real value
  wherever both are defined (`nf_real`).  Canonical forms are only used in the direction
  "equal lists ⇒ equal values".
-/
import IbexModel.RatFun
import IbexProofs.EvalCert
import Mathlib.Analysis.Calculus.Deriv.Mul
import Mathlib.Analysis.Calculus.Deriv.Pow
import Mathlib.Analysis.Calculus.Deriv.Inv
import Mathlib.Analysis.Calculus.Deriv.Add

namespace Ibex
open List

/-! ## 1. polynomials -/

/-- value of a monomial (variable `k` ↦ `ρ k`) -/
noncomputable def Mono.ev : Mono → (ℕ → ℝ) → ℝ
  | [], _ => 1
  | e :: es, ρ => ρ 0 ^ e * Mono.ev es (fun i => ρ (i + 1))

noncomputable def Poly.ev (p : Poly) (ρ : ℕ → ℝ) : ℝ :=
  (p.map fun t => (t.2 : ℝ) * Mono.ev t.1 ρ).sum

namespace Mono

@[simp] theorem ev_nil (ρ : ℕ → ℝ) : Mono.ev [] ρ = 1 := rfl
@[simp] theorem ev_cons' (e : ℕ) (es : Mono) (ρ : ℕ → ℝ) :
    Mono.ev (e :: es) ρ = ρ 0 ^ e * Mono.ev es (fun i => ρ (i + 1)) := rfl

theorem cmp_eq : ∀ (m n : Mono), Mono.cmp m n = .eq → m = n
  | [], [] => fun _ => rfl
  | [], _ :: _ => fun h => by simp [Mono.cmp] at h
  | _ :: _, [] => fun h => by simp [Mono.cmp] at h
  | a :: as, b :: bs => fun h => by
    simp only [Mono.cmp] at h
    split_ifs at h with h1 h2
    have : a = b := by omega
    rw [this, cmp_eq as bs h]

theorem ev_mul : ∀ (a b : Mono) (ρ : ℕ → ℝ), Mono.ev (Mono.mul a b) ρ = Mono.ev a ρ * Mono.ev b ρ
  | [], b, ρ => by simp [Mono.mul]
  | a :: as, [], ρ => by simp [Mono.mul]
  | a :: as, b :: bs, ρ => by
    simp only [Mono.mul, ev_cons', ev_mul as bs]
    ring

theorem ev_var : ∀ (k : ℕ) (ρ : ℕ → ℝ), Mono.ev (Mono.var k) ρ = ρ k
  | 0, ρ => by simp [Mono.var]
  | k + 1, ρ => by
    have := ev_var k (fun i => ρ (i + 1))
    simp only [Mono.var] at this
    simp [Mono.var, List.replicate_succ, this]

theorem ev_cons (e : ℕ) (es : Mono) (ρ : ℕ → ℝ) : Mono.ev (Mono.cons e es) ρ = Mono.ev (e :: es) ρ := by
  unfold Mono.cons
  split <;> simp

end Mono

namespace Poly

@[simp] theorem ev_nil (ρ : ℕ → ℝ) : Poly.ev [] ρ = 0 := rfl
@[simp] theorem ev_cons (t : Mono × Rat) (p : Poly) (ρ : ℕ → ℝ) :
    Poly.ev (t :: p) ρ = (t.2 : ℝ) * Mono.ev t.1 ρ + Poly.ev p ρ := by
  simp [Poly.ev]
theorem ev_append (p q : Poly) (ρ : ℕ → ℝ) : Poly.ev (p ++ q) ρ = Poly.ev p ρ + Poly.ev q ρ := by
  simp [Poly.ev]

theorem ev_one (ρ : ℕ → ℝ) : Poly.ev Poly.one ρ = 1 := by simp [Poly.one]

theorem ev_const (q : Rat) (ρ : ℕ → ℝ) : Poly.ev (Poly.const q) ρ = (q : ℝ) := by
  unfold Poly.const
  split_ifs with h
  · simp [h]
  · simp

theorem ev_var (k : ℕ) (ρ : ℕ → ℝ) : Poly.ev (Poly.var k) ρ = ρ k := by
  simp [Poly.var, Mono.ev_var]

theorem ev_addF (ρ : ℕ → ℝ) : ∀ (f : ℕ) (p q : Poly),
    Poly.ev (Poly.addF f p q) ρ = Poly.ev p ρ + Poly.ev q ρ
  | 0, p, q => ev_append p q ρ
  | _ + 1, [], q => (zero_add _).symm
  | _ + 1, t :: p, [] => (add_zero _).symm
  | f + 1, (m, a) :: p, (n, b) :: q => by
    rw [Poly.addF]
    cases hc : Mono.cmp m n with
    | lt =>
      simp only [ev_cons, ev_addF ρ f]
      ring
    | gt =>
      simp only [ev_cons, ev_addF ρ f]
      ring
    | eq =>
      obtain rfl := Mono.cmp_eq m n hc
      -- the two terms add up to the term `(a + b)·m`, which is dropped when `a + b = 0`
      have hab : ((a + b : ℚ) : ℝ) * Mono.ev m ρ + (Poly.ev p ρ + Poly.ev q ρ) =
          Poly.ev ((m, a) :: p) ρ + Poly.ev ((m, b) :: q) ρ := by
        simp only [ev_cons, Rat.cast_add]
        ring
      rw [← hab]
      dsimp only
      split_ifs with h0
      · rw [ev_addF ρ f, h0, Rat.cast_zero, zero_mul, zero_add]
      · rw [ev_cons, ev_addF ρ f]
theorem ev_add (p q : Poly) (ρ : ℕ → ℝ) : Poly.ev (Poly.add p q) ρ = Poly.ev p ρ + Poly.ev q ρ :=
  ev_addF ρ _ p q

theorem ev_map (g : Mono × Rat → Mono × Rat) (c : ℝ) (ρ : ℕ → ℝ)
    (h : ∀ t, ((g t).2 : ℝ) * Mono.ev (g t).1 ρ = c * ((t.2 : ℝ) * Mono.ev t.1 ρ)) (p : Poly) :
    Poly.ev (p.map g) ρ = c * Poly.ev p ρ := by
  simp only [Poly.ev, List.map_map, Function.comp_def, h, List.sum_map_mul_left]

theorem ev_neg (p : Poly) (ρ : ℕ → ℝ) : Poly.ev (Poly.neg p) ρ = - Poly.ev p ρ :=
  (ev_map _ (-1) ρ (fun t => by push_cast; ring) p).trans (neg_one_mul _)

theorem ev_sub (p q : Poly) (ρ : ℕ → ℝ) : Poly.ev (Poly.sub p q) ρ = Poly.ev p ρ - Poly.ev q ρ := by
  simp [Poly.sub, ev_add, ev_neg, sub_eq_add_neg]

theorem ev_mulTerm (m : Mono) (a : Rat) (q : Poly) (ρ : ℕ → ℝ) :
    Poly.ev (Poly.mulTerm m a q) ρ = (a : ℝ) * Mono.ev m ρ * Poly.ev q ρ :=
  ev_map _ _ ρ (fun t => by rw [Mono.ev_mul]; push_cast; ring) q

theorem ev_mulAux (p q : Poly) (ρ : ℕ → ℝ) : Poly.ev (Poly.mulAux p q) ρ = Poly.ev p ρ * Poly.ev q ρ := by
  induction p with
  | nil => simp [Poly.mulAux]
  | cons t p ih =>
    simp only [Poly.mulAux, List.foldr_cons, ev_add, ev_mulTerm, ev_cons] at ih ⊢
    rw [ih]; ring

theorem ev_mul (p q : Poly) (ρ : ℕ → ℝ) : Poly.ev (Poly.mul p q) ρ = Poly.ev p ρ * Poly.ev q ρ := by
  unfold Poly.mul
  split_ifs
  · exact ev_mulAux p q ρ
  · rw [ev_mulAux, mul_comm]

theorem ev_pow (p : Poly) (n : ℕ) (ρ : ℕ → ℝ) : Poly.ev (Poly.pow p n) ρ = Poly.ev p ρ ^ n := by
  induction n with
  | zero => simp [Poly.pow, ev_one]
  | succ n ih => simp [Poly.pow, ev_mul, ih, pow_succ]

end Poly

/-! ### formal partial derivatives -/

theorem shift_update_zero (ρ : ℕ → ℝ) (t : ℝ) :
    (fun i => Function.update ρ 0 t (i + 1)) = fun i => ρ (i + 1) := by
  funext i
  simp

theorem shift_update_succ (ρ : ℕ → ℝ) (j : ℕ) (t : ℝ) :
    (fun i => Function.update ρ (j + 1) t (i + 1)) = Function.update (fun i => ρ (i + 1)) j t := by
  funext i
  simp [Function.update_apply]

/-- derivative of a monomial along coordinate `j` -/
noncomputable def Mono.dval (j : ℕ) (m : Mono) (ρ : ℕ → ℝ) : ℝ :=
  match Mono.dec j m with
  | none => 0
  | some (e, m') => (e : ℝ) * Mono.ev m' ρ

theorem Mono.hasDerivAt_ev : ∀ (m : Mono) (j : ℕ) (ρ : ℕ → ℝ) (x : ℝ),
    HasDerivAt (fun t => Mono.ev m (Function.update ρ j t)) (Mono.dval j m (Function.update ρ j x)) x
  | [], j, ρ, x => by
    simp only [Mono.ev_nil, Mono.dval, Mono.dec]
    exact hasDerivAt_const x 1
  | e :: es, 0, ρ, x => by
    simp only [Mono.ev_cons', shift_update_zero, Function.update_self, Mono.dval, Mono.dec]
    split_ifs with he
    · subst he
      simpa using hasDerivAt_const x (Mono.ev es fun i => ρ (i + 1))
    · simp only [Mono.ev_cons, Mono.ev_cons', shift_update_zero, Function.update_self]
      have h := (hasDerivAt_pow e x).mul_const (Mono.ev es fun i => ρ (i + 1))
      refine h.congr_deriv ?_
      ring
  | e :: es, j + 1, ρ, x => by
    have ih := Mono.hasDerivAt_ev es j (fun i => ρ (i + 1)) x
    simp only [Mono.ev_cons', shift_update_succ, Mono.dval, Mono.dec]
    have h0 : ∀ t, Function.update ρ (j + 1) t 0 = ρ 0 := fun t => by simp
    simp only [h0]
    have h := ih.const_mul (ρ 0 ^ e)
    refine h.congr_deriv ?_
    unfold Mono.dval
    cases hd : Mono.dec j es with
    | none => simp
    | some p =>
      obtain ⟨c, es'⟩ := p
      simp only [Option.map_some, Mono.ev_cons, Mono.ev_cons', shift_update_succ, h0]
      ring

theorem Poly.hasDerivAt_ev (j : ℕ) (ρ : ℕ → ℝ) (x : ℝ) : ∀ (p : Poly),
    HasDerivAt (fun t => Poly.ev p (Function.update ρ j t))
      (Poly.ev (Poly.deriv j p) (Function.update ρ j x)) x
  | [] => by
    simp only [Poly.ev_nil, Poly.deriv]
    exact hasDerivAt_const x 0
  | (m, a) :: p => by
    have ih := Poly.hasDerivAt_ev j ρ x p
    have hm := (Mono.hasDerivAt_ev m j ρ x).const_mul (a : ℝ)
    have h := hm.add ih
    simp only [Poly.ev_cons]
    refine h.congr_deriv ?_
    simp only [Poly.deriv, Mono.dval]
    cases hd : Mono.dec j m with
    | none => simp
    | some q =>
      obtain ⟨e, m'⟩ := q
      simp only [Poly.ev_cons]
      push_cast
      ring

/-! ## 2. formal quotients -/

namespace RF

/-- the real `x` is the value at `ρ` of the quotient `f`, whose denominator does not vanish at `ρ` -/
def Rep (ρ : ℕ → ℝ) (x : ℝ) (f : RF) : Prop :=
  Poly.ev f.den ρ ≠ 0 ∧ x = Poly.ev f.num ρ / Poly.ev f.den ρ

variable {ρ : ℕ → ℝ}

theorem Rep_const (q : Rat) : Rep ρ (q : ℝ) (RF.const q) := by
  simp [Rep, RF.const, Poly.ev_const, Poly.ev_one]

theorem Rep_var (k : ℕ) : Rep ρ (ρ k) (RF.var k) := by
  simp [Rep, RF.var, Poly.ev_var, Poly.ev_one]

theorem Rep_add {x y : ℝ} {a b : RF} (ha : Rep ρ x a) (hb : Rep ρ y b) : Rep ρ (x + y) (RF.add a b) := by
  obtain ⟨ha0, rfl⟩ := ha
  obtain ⟨hb0, rfl⟩ := hb
  unfold RF.add
  split_ifs with hd
  · exact ⟨ha0, by rw [Poly.ev_add, add_div, hd]⟩
  · simp only [Rep, Poly.ev_add, Poly.ev_mul]
    exact ⟨mul_ne_zero ha0 hb0, by rw [div_add_div _ _ ha0 hb0, mul_comm (Poly.ev a.den ρ) (Poly.ev b.num ρ)]⟩

theorem Rep_neg {x : ℝ} {a : RF} (ha : Rep ρ x a) : Rep ρ (-x) (RF.neg a) := by
  obtain ⟨ha0, rfl⟩ := ha
  refine ⟨ha0, ?_⟩
  simp only [RF.neg, Poly.ev_neg]
  ring

theorem Rep_sub {x y : ℝ} {a b : RF} (ha : Rep ρ x a) (hb : Rep ρ y b) : Rep ρ (x - y) (RF.sub a b) := by
  rw [sub_eq_add_neg]
  exact Rep_add ha (Rep_neg hb)

theorem Rep_mul {x y : ℝ} {a b : RF} (ha : Rep ρ x a) (hb : Rep ρ y b) : Rep ρ (x * y) (RF.mul a b) := by
  obtain ⟨ha0, rfl⟩ := ha
  obtain ⟨hb0, rfl⟩ := hb
  simp only [Rep, RF.mul, Poly.ev_mul]
  exact ⟨mul_ne_zero ha0 hb0, div_mul_div_comm _ _ _ _⟩

theorem Rep.num_ne {x : ℝ} {a : RF} (ha : Rep ρ x a) (hx : x ≠ 0) : Poly.ev a.num ρ ≠ 0 := by
  obtain ⟨_, rfl⟩ := ha
  intro h
  exact hx (by rw [h, zero_div])

theorem Rep_inv {x : ℝ} {a : RF} (ha : Rep ρ x a) (hx : x ≠ 0) : Rep ρ x⁻¹ (RF.inv a) := by
  have hn := ha.num_ne hx
  obtain ⟨ha0, rfl⟩ := ha
  refine ⟨hn, ?_⟩
  simp only [RF.inv]
  rw [inv_div]

theorem Rep_div {x y : ℝ} {a b : RF} (ha : Rep ρ x a) (hb : Rep ρ y b) (hy : y ≠ 0) :
    Rep ρ (x / y) (RF.div a b) := by
  have hn := hb.num_ne hy
  obtain ⟨ha0, rfl⟩ := ha
  obtain ⟨hb0, rfl⟩ := hb
  simp only [Rep, RF.div, Poly.ev_mul]
  exact ⟨mul_ne_zero ha0 hn, div_div_div_eq _ _ _ _⟩

theorem guard_eq {B : ℕ} {a b r f : RF} (h : RF.guard B a b r = some f) : f = r := by
  unfold RF.guard at h
  split_ifs at h
  simpa using h.symm

theorem Rep.guard {B : ℕ} {x : ℝ} {a b r f : RF} (hr : Rep ρ x r) (h : RF.guard B a b r = some f) :
    Rep ρ x f := guard_eq h ▸ hr

theorem Rep_powM {B : ℕ} {x : ℝ} {a : RF} (ha : Rep ρ x a) :
    ∀ (n : ℕ) (f : RF), RF.powM B a n = some f → Rep ρ (x ^ n) f
  | 0, f, h => by
    simp only [RF.powM, Option.some.injEq] at h
    subst h
    simpa using Rep_const (ρ := ρ) 1
  | n + 1, f, h => by
    simp only [RF.powM, Option.bind_eq_some_iff] at h
    obtain ⟨r, hr, h⟩ := h
    rw [guard_eq h, pow_succ]
    exact Rep_mul (Rep_powM ha n r hr) ha

theorem eqv_sound {B : ℕ} {a b : RF} (h : RF.eqv B a b = some true) {x y : ℝ}
    (ha : Rep ρ x a) (hb : Rep ρ y b) : x = y := by
  obtain ⟨ha0, rfl⟩ := ha
  obtain ⟨hb0, rfl⟩ := hb
  unfold RF.eqv at h
  split_ifs at h with h1 h2 h3
  · simp at h
  · simp only [Option.some.injEq, decide_eq_true_eq] at h
    rw [h, h2]
  · simp only [Option.some.injEq, decide_eq_true_eq] at h
    have := congrArg (fun p => Poly.ev p ρ) h
    simp only [Poly.ev_mul] at this
    rw [div_eq_div_iff ha0 hb0]
    exact this

/-- quotient rule -/
theorem hasDerivAt (f : RF) (j : ℕ) (ρ : ℕ → ℝ) (x : ℝ) (hd : Poly.ev f.den (Function.update ρ j x) ≠ 0) :
    HasDerivAt (fun t => Poly.ev f.num (Function.update ρ j t) / Poly.ev f.den (Function.update ρ j t))
      (Poly.ev (RF.deriv j f).num (Function.update ρ j x) /
        Poly.ev (RF.deriv j f).den (Function.update ρ j x)) x := by
  have h := (Poly.hasDerivAt_ev j ρ x f.num).div (Poly.hasDerivAt_ev j ρ x f.den) hd
  refine h.congr_deriv ?_
  simp only [RF.deriv, Poly.ev_sub, Poly.ev_mul, pow_two]

theorem deriv_den_ne (f : RF) (j : ℕ) {ρ : ℕ → ℝ} (hd : Poly.ev f.den ρ ≠ 0) :
    Poly.ev (RF.deriv j f).den ρ ≠ 0 := by
  simp only [RF.deriv, Poly.ev_mul]
  exact mul_ne_zero hd hd

end RF

/-! ## 3. naturality: from the real algebra to the totalised algebra of rational functions

Neither `Alg.real → Alg.rf B` nor `Alg.rf B → Alg.real` is an `AlgRel`: the size guards of `Alg.rf`
fail where the real operation is defined, and the real division is undefined (denominator zero at `ρ`)
where the formal one is defined.  So `Alg.rf B` is first made total (`Alg.totalize`: an undefined
result becomes the value `none`, for ANY algebra — `totalize_rel`, `totalize_supp`, `forall₂_rsome`
are general), and `nf_real` chains `rf → totalize rf` (total form of naturality: the totalised run is
defined) with `real → totalize rf` (weak form, relation `RepO`: "is the value at `ρ` of the rational
function, if there is one"). -/

/-- the same algebra on `Option α`, every operation being total (`some none` = no value) -/
def Alg.totalize {α : Type} (A : Alg α) : Alg (Option α) where
  ofItv I := some (A.ofItv I)
  zero := some A.zero
  add a b := some (a.bind fun a => b.bind fun b => A.add a b)
  sub a b := some (a.bind fun a => b.bind fun b => A.sub a b)
  mul a b := some (a.bind fun a => b.bind fun b => A.mul a b)
  div a b := some (a.bind fun a => b.bind fun b => A.div a b)
  max a b := some (a.bind fun a => b.bind fun b => A.max a b)
  min a b := some (a.bind fun a => b.bind fun b => A.min a b)
  un op := some fun a => some ((A.un op).bind fun f => a.bind f)
  pow a n := some (a.bind fun a => A.pow a n)
  chi a b c := some (a.bind fun a => b.bind fun b => c.bind fun c => A.chi a b c)

abbrev RSome {α : Type} : α → Option α → Prop := fun a o => o = some a

theorem rel2_rsome {α : Type} (op : α → α → Option α) :
    Rel2 RSome RSome op (fun a b => some (a.bind fun a => b.bind fun b => op a b)) :=
  .to_total fun | _, _, _, _, _, rfl, rfl, h => h

theorem Alg.totalize_rel {α : Type} (A : Alg α) : AlgRel RSome A A.totalize where
  ofItv := fun I a h => ⟨_, rfl, h⟩
  zero := rfl
  add := rel2_rsome _
  sub := rel2_rsome _
  mul := rel2_rsome _
  div := rel2_rsome _
  max := rel2_rsome _
  min := rel2_rsome _
  un := by
    rintro op f g hf hg a _ x rfl hx
    obtain rfl := Option.some.inj hg
    exact ⟨_, rfl, by rw [hf]; exact hx⟩
  pow := by
    rintro n a _ x rfl h
    exact ⟨_, rfl, h⟩
  chi := by
    rintro a _ b _ c _ x rfl rfl rfl h
    exact ⟨_, rfl, h⟩

theorem Alg.totalize_supp {α : Type} (A : Alg α) (n : Node) : Eval.Supp A A.totalize n :=
  fun _ _ _ _ h => absurd h (by simp [Alg.totalize])

def RepO (ρ : ℕ → ℝ) (x : ℝ) (o : Option RF) : Prop := ∀ f, o = some f → RF.Rep ρ x f

theorem rel1_totalize {ρ : ℕ → ℝ} {opR : ℝ → Option ℝ} {opF : RF → Option RF}
    (h : ∀ a x fa f, opR a = some x → RF.Rep ρ a fa → opF fa = some f → RF.Rep ρ x f) :
    Rel1 (RepO ρ) (RepO ρ) opR (fun a => some (a.bind opF)) :=
  .to_total fun _ _ _ ha hx f hf => by
    obtain ⟨fa, rfl, hf⟩ := Option.bind_eq_some_iff.1 hf
    exact h _ _ _ _ hx (ha _ rfl) hf

theorem rel2_totalize {ρ : ℕ → ℝ} {opR : ℝ → ℝ → Option ℝ} {opF : RF → RF → Option RF}
    (h : ∀ a b x fa fb f, opR a b = some x → RF.Rep ρ a fa → RF.Rep ρ b fb → opF fa fb = some f →
      RF.Rep ρ x f) :
    Rel2 (RepO ρ) (RepO ρ) opR (fun a b => some (a.bind fun a => b.bind fun b => opF a b)) :=
  .to_total fun _ _ _ _ _ ha hb hx f hf => by
    obtain ⟨fa, rfl, hf₁⟩ := Option.bind_eq_some_iff.1 hf
    obtain ⟨fb, rfl, hf₂⟩ := Option.bind_eq_some_iff.1 hf₁
    exact h _ _ _ _ _ _ hx (ha _ rfl) (hb _ rfl) hf₂

theorem Alg.rf_un {B : ℕ} {op : String} {g : RF → Option RF} (h : (Alg.rf B).un op = some g) :
    op = "minus" ∧ g = (fun a => some (RF.neg a)) ∨
      op = "sqr" ∧ g = fun a => RF.guard B a a (RF.mul a a) := by
  simp only [Alg.rf] at h
  split at h
  · exact .inl ⟨rfl, (Option.some.inj h).symm⟩
  · exact .inr ⟨rfl, (Option.some.inj h).symm⟩
  · exact absurd h (by simp)

/-- **Naturality**: on arguments that are values of rational functions at `ρ`, every operation
    of the real algebra that is defined yields the value of the rational function computed by
    `Alg.rf` (when the latter computes one). -/
theorem Alg.real_rfT (B : ℕ) (ρ : ℕ → ℝ) : AlgRel (RepO ρ) Alg.real (Alg.rf B).totalize where
  ofItv := by
    intro I x h
    refine ⟨_, rfl, fun f hf => ?_⟩
    obtain ⟨q, hq, rfl⟩ := Option.map_eq_some_iff.1 hf
    have h : realOfItv I = some x := h
    rw [realOfItv_eq_ratOfItv, hq] at h
    obtain rfl := Option.some.inj h
    exact RF.Rep_const q
  zero := fun f hf => by
    obtain rfl := Option.some.inj hf
    have := RF.Rep_const (ρ := ρ) 0
    rwa [Rat.cast_zero] at this
  add := rel2_totalize fun _ _ _ _ _ _ hx ha hb hf => Option.some.inj hx ▸ (RF.Rep_add ha hb).guard hf
  sub := rel2_totalize fun _ _ _ _ _ _ hx ha hb hf => Option.some.inj hx ▸ (RF.Rep_sub ha hb).guard hf
  mul := rel2_totalize fun _ _ _ _ _ _ hx ha hb hf => Option.some.inj hx ▸ (RF.Rep_mul ha hb).guard hf
  div := rel2_totalize fun a b x fa fb f hx ha hb hf => by
    obtain ⟨hb0, hx⟩ := Option.ite_none_left_eq_some.1 hx
    obtain ⟨_, hf⟩ := Option.ite_none_left_eq_some.1 hf
    exact Option.some.inj hx ▸ (RF.Rep_div ha hb hb0).guard hf
  max := rel2_totalize fun _ _ _ _ _ _ _ _ _ hf => nomatch hf
  min := rel2_totalize fun _ _ _ _ _ _ _ _ _ hf => nomatch hf
  un := by
    rintro op f g hf hg
    obtain rfl := Option.some.inj hg
    cases hg : (Alg.rf B).un op with
    | none => exact fun a oa x _ _ => ⟨_, rfl, fun r hr => nomatch hr⟩
    | some g =>
      refine rel1_totalize fun a x fa r hx ha hr => ?_
      rcases Alg.rf_un hg with ⟨rfl, rfl⟩ | ⟨rfl, rfl⟩
      · obtain rfl := Option.some.inj hf
        obtain rfl := Option.some.inj hx
        obtain rfl := Option.some.inj hr
        exact RF.Rep_neg ha
      · obtain rfl := Option.some.inj hf
        obtain rfl := Option.some.inj hx
        exact (RF.Rep_mul ha ha).guard hr
  pow := fun n => rel1_totalize fun a x fa r hx ha hr => by
    obtain ⟨hcond, hx⟩ := Option.ite_none_left_eq_some.1 hx
    obtain rfl := Option.some.inj hx
    simp only [Alg.rf] at hr
    split_ifs at hr with hn h0
    · have := RF.Rep_powM ha _ _ hr
      rwa [← zpow_natCast, Int.toNat_of_nonneg hn] at this
    · have ha0 : a ≠ 0 := fun h => hcond ⟨not_le.1 hn, h⟩
      have := RF.Rep_powM (RF.Rep_inv ha ha0) _ _ hr
      rwa [← zpow_natCast, Int.toNat_of_nonneg (by omega), inv_zpow', neg_neg] at this
  chi := fun a oa b ob c oc x _ _ _ _ => ⟨_, rfl, fun f hf => by
    simp only [Option.bind_eq_some_iff] at hf
    obtain ⟨_, _, _, _, _, _, hf⟩ := hf
    exact nomatch hf⟩

/-! ## 4. the normal form of a DAG denotes its real value -/

noncomputable def valOf (ρ : List ℝ) : ℕ → ℝ := fun k => ρ.getD k 0

theorem valOf_set (ρ : List ℝ) {j : ℕ} (hj : j < ρ.length) (s : ℝ) :
    valOf (ρ.set j s) = Function.update (valOf ρ) j s := by
  funext k
  simp only [valOf, List.getD_eq_getElem?_getD, List.getElem?_set, Function.update_apply]
  by_cases hk : k = j
  · subst hk
    simp [hj]
  · rw [if_neg (Ne.symm hk), if_neg hk]

theorem valOf_getElem? {ρ : List ℝ} {k : ℕ} {x : ℝ} (h : ρ[k]? = some x) : valOf ρ k = x := by
  simp [valOf, List.getD_eq_getElem?_getD, h]

theorem env_rel (ρ : List ℝ) :
    Forall₂ (RepO (valOf ρ)) ρ ((Equiv.vars ρ.length).map some) := by
  rw [forall₂_iff_get]
  refine ⟨by simp [Equiv.vars], ?_⟩
  intro i h1 h2 f hf
  simp only [Equiv.vars, List.get_eq_getElem, List.getElem_map, List.getElem_range,
    Option.some.injEq] at hf
  subst hf
  have : valOf ρ i = ρ[i] := valOf_getElem? (by simp [h1])
  simpa [this] using RF.Rep_var (ρ := valOf ρ) i

theorem forall₂_rsome {α : Type} (l : List α) : Forall₂ RSome l (l.map some) := by
  rw [forall₂_map_right_iff]
  exact forall₂_same.2 fun _ _ => rfl

theorem forall₂_rsome_eq {α : Type} {l : List α} {l' : List (Option α)} (h : Forall₂ RSome l l') :
    l' = l.map some := by
  induction h with
  | nil => rfl
  | cons hab _ ih => rw [hab, ih]; rfl

/-- **The normal form denotes the real value**: if the DAG has a normal form `F` (matrix of
    rational functions) and its real evaluation at `ρ` is defined with value `v`, then `v` and `F`
    have the same shape, no denominator of `F` vanishes at `ρ`, and every entry of `v` is the
    value at `ρ` of the corresponding entry of `F`. -/
theorem nf_real {B : ℕ} {funs : List Dag} {dag : Dag} {n : ℕ} {F : Mat RF} {ρ : List ℝ} {v : Mat ℝ}
    (hn : ρ.length = n) (hF : Equiv.nf B funs dag n = some F)
    (hv : Eval.root Alg.real ρ (Eval.buildCalls Alg.real funs) dag = some v) :
    MatRel (RF.Rep (valOf ρ)) v F := by
  subst hn
  obtain ⟨O, hO, hFO⟩ := Eval.root_rel_total (Alg.totalize_rel (Alg.rf B)) (forall₂_rsome _)
    (Eval.buildCalls_rel_total (Alg.totalize_rel (Alg.rf B)) funs
      (fun _ _ n _ => Alg.totalize_supp _ n))
    (fun n _ => Alg.totalize_supp _ n) hF
  have hvO := Eval.root_rel (Alg.real_rfT B (valOf ρ)) (env_rel ρ)
    (Eval.buildCalls_rel (Alg.real_rfT B (valOf ρ)) funs) hv hO
  obtain ⟨hr, hc, hd⟩ := hvO
  obtain ⟨hr', hc', hd'⟩ := hFO
  refine ⟨hr.trans hr'.symm, hc.trans hc'.symm, ?_⟩
  rw [forall₂_rsome_eq hd', forall₂_map_right_iff] at hd
  exact hd.imp fun x f h => h f rfl

theorem eqvList_forall₂ {B : ℕ} : ∀ {as bs : List RF}, Equiv.eqvList B as bs = some true →
    Forall₂ (fun a b => RF.eqv B a b = some true) as bs
  | [], [], _ => .nil
  | [], _ :: _, h => by simp [Equiv.eqvList] at h
  | _ :: _, [], h => by simp [Equiv.eqvList] at h
  | a :: as, b :: bs, h => by
    simp only [Equiv.eqvList] at h
    split at h
    · exact absurd h (by simp)
    · exact absurd h (by simp)
    · rename_i he
      exact .cons he (eqvList_forall₂ h)

theorem eqvList_sound {B : ℕ} {ρ : ℕ → ℝ} {as bs : List RF} {xs ys : List ℝ}
    (h : Equiv.eqvList B as bs = some true) (hx : Forall₂ (RF.Rep ρ) xs as)
    (hy : Forall₂ (RF.Rep ρ) ys bs) : xs = ys := by
  have H := eqvList_forall₂ h
  clear h
  induction H generalizing xs ys with
  | nil => rw [forall₂_nil_right_iff.1 hx, forall₂_nil_right_iff.1 hy]
  | cons he _ ih =>
    obtain ⟨x, xs, hxa, hxs, rfl⟩ := forall₂_cons_right_iff.1 hx
    obtain ⟨y, ys, hyb, hys, rfl⟩ := forall₂_cons_right_iff.1 hy
    rw [RF.eqv_sound he hxa hyb, ih hxs hys]

theorem eqvList_getElem? {B : ℕ} {as bs : List RF} (k : ℕ) {a : RF}
    (h : Equiv.eqvList B as bs = some true) (hk : as[k]? = some a) :
    ∃ b, bs[k]? = some b ∧ RF.eqv B a b = some true :=
  forall₂_getElem?_left (eqvList_forall₂ h) hk

/-- position of `∂fᵢ/∂xⱼ` in the flattened Jacobian -/
theorem jac_getElem? (n : ℕ) : ∀ (fs : List RF) (i j : ℕ) {f : RF}, fs[i]? = some f → j < n →
    (Equiv.jac n fs)[i * n + j]? = some (RF.deriv j f)
  | [], _, _, _, h, _ => by simp at h
  | g :: fs, 0, j, f, h, hj => by
    simp only [List.getElem?_cons_zero, Option.some.injEq] at h
    subst h
    simp only [Equiv.jac, List.flatMap_cons, Nat.zero_mul, Nat.zero_add]
    rw [List.getElem?_append_left (by simpa using hj)]
    simp [hj]
  | g :: fs, i + 1, j, f, h, hj => by
    have e : (i + 1) * n + j = ((List.range n).map fun j => RF.deriv j g).length + (i * n + j) := by
      rw [List.length_map, List.length_range, Nat.succ_mul]
      omega
    simp only [Equiv.jac, List.flatMap_cons]
    rw [e, List.getElem?_append_right (Nat.le_add_right _ _), Nat.add_sub_cancel_left]
    exact jac_getElem? n fs i j (by simpa using h) hj

end Ibex
