/-
  Enclosure theorems for the interval operators generic in the rounding pair (`IbexModel.ItvG`),
  valid for every *sound* rounding pair (`Rnd.Sound`): `Rnd.dbl` (binary64 directed rounding)
  and `Rnd.exact` (no rounding) are both sound.  The binary64 operators of `IbexModel.Itv` are
  the instances at `Rnd.dbl` (`Arith.lean`).
-/
import IbexProofs.Basic
import Mathlib.Data.EReal.Inv
import Mathlib.Tactic.FieldSimp

namespace Ibex
open Ibex

def Rnd.Sound (r : Rnd) : Prop :=
  (∀ q : Rat, (r.dn q).toE ≤ ((q : ℝ) : EReal)) ∧ (∀ q : Rat, ((q : ℝ) : EReal) ≤ (r.up q).toE)

theorem Rnd.dbl_sound : Rnd.dbl.Sound := ⟨rd_le, le_ru⟩

theorem Rnd.exact_sound : Rnd.exact.Sound := ⟨fun _ => le_refl _, fun _ => le_refl _⟩

/-! ### addition, subtraction -/

theorem addLoG_le {r : Rnd} (hr : r.Sound) (a c : Ext) (x y : ℝ) (hx : a.toE ≤ x) (hy : c.toE ≤ y) :
    (Itv.addLoG r a c).toE ≤ ((x + y : ℝ) : EReal) := by
  cases a <;> cases c <;> simp only [Itv.addLoG, Ext.toE_ninf, bot_le]
  rename_i p q
  refine le_trans (hr.1 _) ?_
  simp only [Ext.toE_fin, EReal.coe_le_coe_iff] at hx hy ⊢
  push_cast; linarith

theorem le_addHiG {r : Rnd} (hr : r.Sound) (b d : Ext) (x y : ℝ) (hx : (x : EReal) ≤ b.toE)
    (hy : (y : EReal) ≤ d.toE) : ((x + y : ℝ) : EReal) ≤ (Itv.addHiG r b d).toE := by
  cases b <;> cases d <;> simp only [Itv.addHiG, Ext.toE_pinf, le_top]
  rename_i p q
  refine le_trans ?_ (hr.2 _)
  simp only [Ext.toE_fin, EReal.coe_le_coe_iff] at hx hy ⊢
  push_cast; linarith

theorem Itv.addG_encl {r : Rnd} (hr : r.Sound) {X Y : Itv} {x y : ℝ} (hx : x ∈ X) (hy : y ∈ Y) :
    x + y ∈ Itv.addG r X Y := by
  cases X with
  | empty => exact absurd hx (Itv.not_mem_empty x)
  | mk a b =>
    cases Y with
    | empty => exact absurd hy (Itv.not_mem_empty y)
    | mk c d => exact ⟨addLoG_le hr a c x y hx.1 hy.1, le_addHiG hr b d x y hx.2 hy.2⟩

theorem Itv.subG_encl {r : Rnd} (hr : r.Sound) {X Y : Itv} {x y : ℝ} (hx : x ∈ X) (hy : y ∈ Y) :
    x - y ∈ Itv.subG r X Y := by
  have := Itv.addG_encl hr hx (Itv.neg_encl hy)
  simpa [sub_eq_add_neg, Itv.subG] using this

/-! ### multiplication -/

theorem mulExt_comm (r : Rat → Ext) (a b : Ext) : Itv.mulExt r a b = Itv.mulExt r b a := by
  cases a <;> cases b <;> simp only [Itv.mulExt, mul_comm]

theorem mulExt_eq_of_not_fin (r : Rat → Ext) (a b : Ext) (h : ¬ (a.isFin = true ∧ b.isFin = true)) :
    (Itv.mulExt r a b).toE = a.toE * b.toE := by
  have inf_fin : ∀ q : Rat, (Itv.mulExt r .pinf (.fin q)).toE = ⊤ * ((q : ℝ) : EReal) ∧
      (Itv.mulExt r .ninf (.fin q)).toE = ⊥ * ((q : ℝ) : EReal) := by
    intro q
    rcases lt_trichotomy q 0 with hq | rfl | hq
    · have hn : (q : ℝ) < 0 := by exact_mod_cast hq
      simp [Itv.mulExt, ne_of_lt hq, not_lt.2 (le_of_lt hq), EReal.top_mul_coe_of_neg hn,
        EReal.bot_mul_coe_of_neg hn]
    · simp [Itv.mulExt]
    · have hp : (0 : ℝ) < q := by exact_mod_cast hq
      simp [Itv.mulExt, ne_of_gt hq, hq, EReal.top_mul_coe_of_pos hp, EReal.bot_mul_coe_of_pos hp]
  cases a with
  | ninf =>
    cases b with
    | ninf => simp [Itv.mulExt]
    | pinf => simp [Itv.mulExt]
    | fin q => exact (inf_fin q).2
  | pinf =>
    cases b with
    | ninf => simp [Itv.mulExt]
    | pinf => simp [Itv.mulExt]
    | fin q => exact (inf_fin q).1
  | fin p =>
    cases b with
    | fin q => exact absurd ⟨rfl, rfl⟩ h
    | ninf => rw [mulExt_comm, mul_comm]; exact (inf_fin p).2
    | pinf => rw [mulExt_comm, mul_comm]; exact (inf_fin p).1

theorem mulExt_dn_le {r : Rat → Ext} (hr : ∀ q : Rat, (r q).toE ≤ ((q : ℝ) : EReal)) (a b : Ext) :
    (Itv.mulExt r a b).toE ≤ a.toE * b.toE := by
  by_cases h : a.isFin = true ∧ b.isFin = true
  · cases a <;> cases b <;> simp [Ext.isFin] at h
    rename_i p q
    refine le_trans (hr _) ?_
    simp only [Ext.toE_fin]
    rw [← EReal.coe_mul]; push_cast; exact le_refl _
  · exact le_of_eq (mulExt_eq_of_not_fin r a b h)

theorem le_mulExt_up {r : Rat → Ext} (hr : ∀ q : Rat, ((q : ℝ) : EReal) ≤ (r q).toE) (a b : Ext) :
    a.toE * b.toE ≤ (Itv.mulExt r a b).toE := by
  by_cases h : a.isFin = true ∧ b.isFin = true
  · cases a <;> cases b <;> simp [Ext.isFin] at h
    rename_i p q
    refine le_trans ?_ (hr _)
    simp only [Ext.toE_fin]
    rw [← EReal.coe_mul]; push_cast; exact le_refl _
  · exact le_of_eq (mulExt_eq_of_not_fin r a b h).symm

theorem ereal_corner (a b c : EReal) (x : ℝ) (hax : a ≤ x) (hxb : (x : EReal) ≤ b) :
    Min.min (a * c) (b * c) ≤ (x : EReal) * c ∧ (x : EReal) * c ≤ Max.max (a * c) (b * c) := by
  rcases le_total 0 c with hc | hc
  · exact ⟨le_trans (min_le_left _ _) (mul_le_mul_of_nonneg_right hax hc),
           le_trans (mul_le_mul_of_nonneg_right hxb hc) (le_max_right _ _)⟩
  · exact ⟨le_trans (min_le_right _ _) (EReal.mul_le_mul_of_nonpos_right hxb hc),
           le_trans (EReal.mul_le_mul_of_nonpos_right hax hc) (le_max_left _ _)⟩

theorem Itv.mulG_encl {r : Rnd} (hr : r.Sound) {X Y : Itv} {x y : ℝ} (hx : x ∈ X) (hy : y ∈ Y) :
    x * y ∈ Itv.mulG r X Y := by
  cases X with
  | empty => exact absurd hx (Itv.not_mem_empty x)
  | mk a b =>
    cases Y with
    | empty => exact absurd hy (Itv.not_mem_empty y)
    | mk c d =>
      obtain ⟨hax, hxb⟩ := hx
      obtain ⟨hcy, hyd⟩ := hy
      have hy' := ereal_corner c.toE d.toE (x : EReal) y hcy hyd
      have hc := ereal_corner a.toE b.toE c.toE x hax hxb
      have hd := ereal_corner a.toE b.toE d.toE x hax hxb
      rw [mul_comm c.toE, mul_comm d.toE, mul_comm (y : EReal)] at hy'
      rw [← EReal.coe_mul] at hy'
      refine ⟨?_, ?_⟩
      · simp only [Itv.min4, Ext.toE_min]
        have h1 : Min.min (Min.min (a.toE * c.toE) (a.toE * d.toE)) (Min.min (b.toE * c.toE) (b.toE * d.toE))
            ≤ ((x * y : ℝ) : EReal) := by
          refine le_trans ?_ hy'.1
          refine le_min (le_trans ?_ hc.1) (le_trans ?_ hd.1)
          · exact le_min (le_trans (min_le_left _ _) (min_le_left _ _)) (le_trans (min_le_right _ _) (min_le_left _ _))
          · exact le_min (le_trans (min_le_left _ _) (min_le_right _ _)) (le_trans (min_le_right _ _) (min_le_right _ _))
        refine le_trans ?_ h1
        exact min_le_min (min_le_min (mulExt_dn_le hr.1 _ _) (mulExt_dn_le hr.1 _ _))
          (min_le_min (mulExt_dn_le hr.1 _ _) (mulExt_dn_le hr.1 _ _))
      · simp only [Itv.max4, Ext.toE_max]
        have h1 : ((x * y : ℝ) : EReal) ≤
            Max.max (Max.max (a.toE * c.toE) (a.toE * d.toE)) (Max.max (b.toE * c.toE) (b.toE * d.toE)) := by
          refine le_trans hy'.2 ?_
          refine max_le (le_trans hc.2 ?_) (le_trans hd.2 ?_)
          · exact max_le (le_trans (le_max_left _ _) (le_max_left _ _)) (le_trans (le_max_left _ _) (le_max_right _ _))
          · exact max_le (le_trans (le_max_right _ _) (le_max_left _ _)) (le_trans (le_max_right _ _) (le_max_right _ _))
        refine le_trans h1 ?_
        exact max_le_max (max_le_max (le_mulExt_up hr.2 _ _) (le_mulExt_up hr.2 _ _))
          (max_le_max (le_mulExt_up hr.2 _ _) (le_mulExt_up hr.2 _ _))

/-! ### division

  Rounding only widens the exact quotient `divExt Ext.fin`, and the exact quotient commutes with
  negation, so the two lower bounds for a positive divisor give the other four bounds by
  x ↦ -x and y ↦ -y. -/

theorem divExt_dn_le_exact {r : Rat → Ext} (hr : ∀ q : Rat, (r q).toE ≤ ((q : ℝ) : EReal)) (a c : Ext) :
    (Itv.divExt r a c).toE ≤ (Itv.divExt Ext.fin a c).toE := by
  cases a <;> cases c <;> first | exact hr _ | exact le_rfl

theorem divExt_exact_le_up {r : Rat → Ext} (hr : ∀ q : Rat, ((q : ℝ) : EReal) ≤ (r q).toE) (a c : Ext) :
    (Itv.divExt Ext.fin a c).toE ≤ (Itv.divExt r a c).toE := by
  cases a <;> cases c <;> first | exact hr _ | exact le_rfl

theorem divExt_neg_left (a c : Ext) :
    Itv.divExt Ext.fin (Ext.neg a) c = Ext.neg (Itv.divExt Ext.fin a c) := by
  cases a <;> cases c <;> simp only [Itv.divExt, apply_ite Ext.neg] <;> simp [Ext.neg, neg_div]

theorem divExt_neg_right (p : Rat) (c : Ext) :
    Itv.divExt Ext.fin (.fin p) (Ext.neg c) = Ext.neg (Itv.divExt Ext.fin (.fin p) c) := by
  cases c <;> simp [Itv.divExt, Ext.neg, div_neg]


theorem divExt_lo_pos_nonneg {r : Rat → Ext} (hr : ∀ q : Rat, (r q).toE ≤ ((q : ℝ) : EReal))
    (a d : Ext) (x y : ℝ) (ha : 0 ≤ a.toE) (hax : a.toE ≤ x)
    (hy : 0 < y) (hyd : (y : EReal) ≤ d.toE) : (Itv.divExt r a d).toE ≤ ((x / y : ℝ) : EReal) := by
  cases a with
  | ninf => simp at ha
  | pinf => simp at hax
  | fin p =>
    simp only [Ext.toE_fin, EReal.coe_le_coe_iff] at hax
    have hp : (0 : ℝ) ≤ p := by simpa using ha
    have hx : 0 ≤ x := le_trans hp hax
    cases d with
    | ninf => simp at hyd
    | pinf =>
      simp only [Itv.divExt, Ext.toE_fin, EReal.coe_le_coe_iff]
      push_cast; positivity
    | fin q =>
      simp only [Ext.toE_fin, EReal.coe_le_coe_iff] at hyd
      refine le_trans (hr _) ?_
      simp only [EReal.coe_le_coe_iff]
      push_cast
      have hq : (0 : ℝ) < q := lt_of_lt_of_le hy hyd
      calc (p : ℝ) / q ≤ p / y := div_le_div_of_nonneg_left hp hy hyd
        _ ≤ x / y := div_le_div_of_nonneg_right hax (le_of_lt hy)

theorem divExt_lo_pos_neg {r : Rat → Ext} (hr : ∀ q : Rat, (r q).toE ≤ ((q : ℝ) : EReal))
    (a c : Ext) (x y : ℝ) (ha : a.toE ≤ 0) (hax : a.toE ≤ x)
    (hc : 0 < c.toE) (hcy : c.toE ≤ (y : EReal)) : (Itv.divExt r a c).toE ≤ ((x / y : ℝ) : EReal) := by
  cases c with
  | ninf => simp at hc
  | pinf => simp at hcy
  | fin q =>
    simp only [Ext.toE_fin, EReal.coe_le_coe_iff] at hcy
    have hq : (0 : ℝ) < q := by simpa using hc
    have hq' : (0 : Rat) < q := by exact_mod_cast hq
    have hy : 0 < y := lt_of_lt_of_le hq hcy
    cases a with
    | pinf => simp at hax
    | ninf => simp [Itv.divExt, hq']
    | fin p =>
      simp only [Ext.toE_fin, EReal.coe_le_coe_iff] at hax
      have hp : (p : ℝ) ≤ 0 := by simpa using ha
      refine le_trans (hr _) ?_
      simp only [EReal.coe_le_coe_iff]
      push_cast
      have h1 : (p : ℝ) / q ≤ p / y := by
        have := div_le_div_of_nonneg_left (neg_nonneg.2 hp) hq hcy
        rwa [neg_div, neg_div, neg_le_neg_iff] at this
      exact le_trans h1 (div_le_div_of_nonneg_right hax (le_of_lt hy))

theorem divExt_hi_pos_nonneg {r : Rat → Ext} (hr : ∀ q : Rat, ((q : ℝ) : EReal) ≤ (r q).toE)
    (b c : Ext) (x y : ℝ) (hb : 0 ≤ b.toE) (hxb : (x : EReal) ≤ b.toE)
    (hc : 0 < c.toE) (hcy : c.toE ≤ (y : EReal)) : ((x / y : ℝ) : EReal) ≤ (Itv.divExt r b c).toE := by
  refine le_trans ?_ (divExt_exact_le_up hr b c)
  have := divExt_lo_pos_neg (r := Ext.fin) (fun _ => le_rfl) (Ext.neg b) c (-x) y
    (Ext.neg_nonpos.2 hb) (Ext.neg_le_coe_neg.2 hxb) hc hcy
  rwa [divExt_neg_left, neg_div, Ext.neg_le_coe_neg] at this

theorem divExt_hi_pos_nonpos {r : Rat → Ext} (hr : ∀ q : Rat, ((q : ℝ) : EReal) ≤ (r q).toE)
    (b d : Ext) (x y : ℝ) (hb : b.toE ≤ 0) (hxb : (x : EReal) ≤ b.toE)
    (hy : 0 < y) (hyd : (y : EReal) ≤ d.toE) : ((x / y : ℝ) : EReal) ≤ (Itv.divExt r b d).toE := by
  refine le_trans ?_ (divExt_exact_le_up hr b d)
  have := divExt_lo_pos_nonneg (r := Ext.fin) (fun _ => le_rfl) (Ext.neg b) d (-x) y
    (Ext.neg_nonneg.2 hb) (Ext.neg_le_coe_neg.2 hxb) hy hyd
  rwa [divExt_neg_left, neg_div, Ext.neg_le_coe_neg] at this

theorem divExt_hi_neg_nonneg {r : Rat → Ext} (hr : ∀ q : Rat, ((q : ℝ) : EReal) ≤ (r q).toE)
    (a c : Ext) (x y : ℝ) (ha : 0 ≤ a.toE) (hax : a.toE ≤ x)
    (hy : y < 0) (hcy : c.toE ≤ (y : EReal)) : ((x / y : ℝ) : EReal) ≤ (Itv.divExt r a c).toE := by
  refine le_trans ?_ (divExt_exact_le_up hr a c)
  have := divExt_lo_pos_nonneg (r := Ext.fin) (fun _ => le_rfl) a (Ext.neg c) x (-y) ha hax
    (neg_pos.2 hy) (Ext.coe_neg_le_neg.2 hcy)
  cases a with
  | ninf => simp at ha
  | pinf => simp at hax
  | fin p => rwa [divExt_neg_right, div_neg, Ext.neg_le_coe_neg] at this

theorem divExt_lo_neg_nonpos {r : Rat → Ext} (hr : ∀ q : Rat, (r q).toE ≤ ((q : ℝ) : EReal))
    (b c : Ext) (x y : ℝ) (hb : b.toE ≤ 0) (hxb : (x : EReal) ≤ b.toE)
    (hy : y < 0) (hcy : c.toE ≤ (y : EReal)) : (Itv.divExt r b c).toE ≤ ((x / y : ℝ) : EReal) := by
  refine le_trans (divExt_dn_le_exact hr b c) ?_
  have := divExt_hi_pos_nonpos (r := Ext.fin) (fun _ => le_rfl) b (Ext.neg c) x (-y) hb hxb
    (neg_pos.2 hy) (Ext.coe_neg_le_neg.2 hcy)
  cases b with
  | ninf => simp at hxb
  | pinf => simp at hb
  | fin p => rwa [divExt_neg_right, div_neg, Ext.coe_neg_le_neg] at this

theorem Itv.divPosG_encl {r : Rnd} (hr : r.Sound) {a b c d : Ext} {x y : ℝ} (hx : x ∈ Itv.mk a b) (hy : y ∈ Itv.mk c d)
    (hc : 0 < c.toE) : x / y ∈ Itv.divPosG r a b c d := by
  obtain ⟨hax, hxb⟩ := hx
  obtain ⟨hcy, hyd⟩ := hy
  have hy0 : 0 < y := by
    have := lt_of_lt_of_le hc hcy
    exact_mod_cast this
  unfold Itv.divPosG
  refine ⟨?_, ?_⟩
  · by_cases h : Ext.le (Ext.fin 0) a = true
    · simp only [h, if_true]
      rw [Ext.le_iff, Ext.toE_zero] at h
      exact divExt_lo_pos_nonneg hr.1 a d x y h hax hy0 hyd
    · simp only [h]
      rw [Ext.le_iff, Ext.toE_zero, not_le] at h
      exact divExt_lo_pos_neg hr.1 a c x y (le_of_lt h) hax hc hcy
  · by_cases h : Ext.le (Ext.fin 0) b = true
    · simp only [h, if_true]
      rw [Ext.le_iff, Ext.toE_zero] at h
      exact divExt_hi_pos_nonneg hr.2 b c x y h hxb hc hcy
    · simp only [h]
      rw [Ext.le_iff, Ext.toE_zero, not_le] at h
      exact divExt_hi_pos_nonpos hr.2 b d x y (le_of_lt h) hxb hy0 hyd

theorem Itv.divG_encl {r : Rnd} (hr : r.Sound) {X Y : Itv} {x y : ℝ} (hx : x ∈ X) (hy : y ∈ Y) (hy0 : y ≠ 0) :
    x / y ∈ Itv.divG r X Y := by
  cases X with
  | empty => exact absurd hx (Itv.not_mem_empty x)
  | mk a b =>
  cases Y with
  | empty => exact absurd hy (Itv.not_mem_empty y)
  | mk c d =>
  have hax := hx.1
  have hxb := hx.2
  have hcy := hy.1
  have hyd := hy.2
  -- the tests of `divG` as conditions on extended reals; then the nested `if`s one test at a time
  simp only [Itv.divG, Bool.and_eq_true, beq_iff_eq, Ext.lt_iff, Ext.le_iff, Ext.toE_zero]
  by_cases h1 : c = Ext.fin 0 ∧ d = Ext.fin 0
  · obtain ⟨rfl, rfl⟩ := h1
    exact absurd (Itv.mem_point_zero.1 hy) hy0
  rw [if_neg h1]
  by_cases h2 : 0 < c.toE
  · rw [if_pos h2]; exact Itv.divPosG_encl hr hx hy h2
  rw [if_neg h2]
  by_cases h3 : d.toE < 0
  · rw [if_pos h3]
    have := Itv.divPosG_encl hr (Itv.neg_encl hx) (Itv.neg_encl hy) (by rw [Ext.toE_neg]; simpa using h3)
    rwa [neg_div_neg_eq] at this
  rw [if_neg h3]
  by_cases h4 : a = Ext.fin 0 ∧ b = Ext.fin 0
  · obtain ⟨rfl, rfl⟩ := h4
    rw [if_pos ⟨rfl, rfl⟩, Itv.mem_point_zero.1 hx, zero_div]
    exact Itv.mem_point_zero.2 rfl
  rw [if_neg h4]
  by_cases h5 : c.toE < 0 ∧ 0 < d.toE
  · rw [if_pos h5]; exact Itv.mem_all _
  rw [if_neg h5]
  by_cases h6 : c = Ext.fin 0
  · -- Y = [0,d]: y > 0
    rw [if_pos h6]
    rw [h6, Ext.toE_zero] at hcy
    have hypos : 0 < y := lt_of_le_of_ne (by exact_mod_cast hcy) (Ne.symm hy0)
    by_cases h7 : 0 ≤ a.toE
    · rw [if_pos h7]; exact ⟨divExt_lo_pos_nonneg hr.1 a d x y h7 hax hypos hyd, le_top⟩
    rw [if_neg h7]
    by_cases h8 : b.toE ≤ 0
    · rw [if_pos h8]; exact ⟨bot_le, divExt_hi_pos_nonpos hr.2 b d x y h8 hxb hypos hyd⟩
    rw [if_neg h8]; exact Itv.mem_all _
  -- Y = [c,0], c < 0: y < 0
  rw [if_neg h6]
  have hyneg : y < 0 := by
    have hc : c.toE < 0 := lt_of_le_of_ne (not_lt.1 h2) fun h => h6 (Ext.eq_zero_of_toE h)
    have hd : d.toE ≤ 0 := not_lt.1 fun hd => h5 ⟨hc, hd⟩
    exact lt_of_le_of_ne (by exact_mod_cast le_trans hyd hd) hy0
  by_cases h9 : 0 ≤ a.toE
  · rw [if_pos h9]; exact ⟨bot_le, divExt_hi_neg_nonneg hr.2 a c x y h9 hax hyneg hcy⟩
  rw [if_neg h9]
  by_cases h10 : b.toE ≤ 0
  · rw [if_pos h10]; exact ⟨divExt_lo_neg_nonpos hr.1 b c x y h10 hxb hyneg hcy, le_top⟩
  rw [if_neg h10]; exact Itv.mem_all _

theorem Itv.divG_empty_iff (r : Rnd) (X Y : Itv) :
    Itv.divG r X Y = .empty ↔ X = .empty ∨ Y = .empty ∨ Y = .mk (.fin 0) (.fin 0) := by
  cases X with
  | empty => simp [Itv.divG]
  | mk a b =>
  cases Y with
  | empty => simp [Itv.divG]
  | mk c d =>
    -- only the first test of `divG` returns `empty`: `· = empty` is `False` at every other leaf
    have first : Itv.divG r (.mk a b) (.mk c d) = .empty ↔ (c == Ext.fin 0 && d == Ext.fin 0) = true := by
      simp only [Itv.divG, Itv.divPosG, Itv.all, apply_ite (· = Itv.empty), reduceCtorEq, ite_self,
        if_false_right, and_true]
    simpa using first

/-! ### square -/

theorem Itv.sqrG_encl {r : Rnd} (hr : r.Sound) {X : Itv} {x : ℝ} (hx : x ∈ X) : x * x ∈ Itv.sqrG r X := by
  cases X with
  | empty => exact absurd hx (Itv.not_mem_empty x)
  | mk a b =>
  obtain ⟨hax, hxb⟩ := hx
  simp only [Itv.sqrG]
  split_ifs with h1 h2
  · rw [Ext.le_iff, Ext.toE_zero] at h1
    have hx0 : (0 : EReal) ≤ x := le_trans h1 hax
    refine ⟨le_trans (mulExt_dn_le hr.1 a a) ?_, le_trans ?_ (le_mulExt_up hr.2 b b)⟩
    · rw [EReal.coe_mul]; exact mul_le_mul hax hax h1 hx0
    · rw [EReal.coe_mul]; exact mul_le_mul hxb hxb hx0 (le_trans hx0 hxb)
  · rw [Ext.le_iff, Ext.toE_zero] at h2
    have hx0 : (x : EReal) ≤ 0 := le_trans hxb h2
    refine ⟨le_trans (mulExt_dn_le hr.1 b b) ?_, le_trans ?_ (le_mulExt_up hr.2 a a)⟩
    · rw [EReal.coe_mul]
      have e1 := EReal.mul_le_mul_of_nonpos_right hxb h2
      have e2 := EReal.mul_le_mul_of_nonpos_right hxb hx0
      rw [mul_comm (x : EReal) b.toE] at e1
      exact le_trans e1 e2
    · rw [EReal.coe_mul]
      have e1 := EReal.mul_le_mul_of_nonpos_right hax hx0
      have e2 := EReal.mul_le_mul_of_nonpos_right hax (le_trans hax hx0)
      rw [mul_comm a.toE (x : EReal)] at e1
      exact le_trans e1 e2
  · refine ⟨?_, ?_⟩
    · rw [Ext.toE_zero]; exact_mod_cast mul_self_nonneg x
    · rw [Ext.toE_max, EReal.coe_mul]
      rcases le_total (0 : EReal) x with hx0 | hx0
      · exact le_trans (le_trans (mul_le_mul hxb hxb hx0 (le_trans hx0 hxb)) (le_mulExt_up hr.2 b b))
          (le_max_right _ _)
      · have e1 := EReal.mul_le_mul_of_nonpos_right hax hx0
        have e2 := EReal.mul_le_mul_of_nonpos_right hax (le_trans hax hx0)
        rw [mul_comm a.toE (x : EReal)] at e1
        exact le_trans (le_trans (le_trans e1 e2) (le_mulExt_up hr.2 a a)) (le_max_left _ _)


/-! ### natural powers -/

theorem powExt_dn_le_of_nonneg {r : Rat → Ext} (hr : ∀ q : Rat, (r q).toE ≤ ((q : ℝ) : EReal))
    (n : ℕ) (a : Ext) (x : ℝ) (ha : 0 ≤ a.toE) (hax : a.toE ≤ x) :
    (Itv.powExt r n a).toE ≤ ((x ^ n : ℝ) : EReal) := by
  cases a with
  | ninf => simp at ha
  | pinf => simp at hax
  | fin q =>
    simp only [Ext.toE_fin, EReal.coe_le_coe_iff] at hax
    have hq : (0 : ℝ) ≤ q := by simpa using ha
    refine le_trans (hr _) ?_
    simp only [EReal.coe_le_coe_iff, Itv.ratPow]
    push_cast
    exact pow_le_pow_left₀ hq hax n

theorem le_powExt_up_of_nonneg {r : Rat → Ext} (hr : ∀ q : Rat, ((q : ℝ) : EReal) ≤ (r q).toE)
    (n : ℕ) (b : Ext) (x : ℝ) (hx : 0 ≤ x) (hxb : (x : EReal) ≤ b.toE) :
    ((x ^ n : ℝ) : EReal) ≤ (Itv.powExt r n b).toE := by
  cases b with
  | ninf => simp at hxb
  | pinf => simp [Itv.powExt]
  | fin q =>
    simp only [Ext.toE_fin, EReal.coe_le_coe_iff] at hxb
    refine le_trans ?_ (hr _)
    simp only [EReal.coe_le_coe_iff, Itv.ratPow]
    push_cast
    exact pow_le_pow_left₀ hx hxb n

theorem powExt_dn_le_of_odd {r : Rat → Ext} (hr : ∀ q : Rat, (r q).toE ≤ ((q : ℝ) : EReal))
    {n : ℕ} (hn : n % 2 = 1) (a : Ext) (x : ℝ) (hax : a.toE ≤ x) :
    (Itv.powExt r n a).toE ≤ ((x ^ n : ℝ) : EReal) := by
  cases a with
  | ninf => simp [Itv.powExt, hn]
  | pinf => simp at hax
  | fin q =>
    simp only [Ext.toE_fin, EReal.coe_le_coe_iff] at hax
    refine le_trans (hr _) ?_
    simp only [EReal.coe_le_coe_iff, Itv.ratPow]
    push_cast
    exact (Nat.odd_iff.2 hn).pow_le_pow.2 hax

theorem le_powExt_up_of_odd {r : Rat → Ext} (hr : ∀ q : Rat, ((q : ℝ) : EReal) ≤ (r q).toE)
    {n : ℕ} (hn : n % 2 = 1) (b : Ext) (x : ℝ) (hxb : (x : EReal) ≤ b.toE) :
    ((x ^ n : ℝ) : EReal) ≤ (Itv.powExt r n b).toE := by
  cases b with
  | ninf => simp at hxb
  | pinf => simp [Itv.powExt]
  | fin q =>
    simp only [Ext.toE_fin, EReal.coe_le_coe_iff] at hxb
    refine le_trans ?_ (hr _)
    simp only [EReal.coe_le_coe_iff, Itv.ratPow]
    push_cast
    exact (Nat.odd_iff.2 hn).pow_le_pow.2 hxb

theorem powExt_neg_of_even {n : ℕ} (hn : n % 2 = 0) (r : Rat → Ext) (a : Ext) :
    Itv.powExt r n (Ext.neg a) = Itv.powExt r n a := by
  cases a <;> simp [Itv.powExt, Ext.neg, Itv.ratPow, hn, (Nat.even_iff.2 hn).neg_pow]

theorem powExt_dn_le_even_nonpos {r : Rat → Ext} (hr : ∀ q : Rat, (r q).toE ≤ ((q : ℝ) : EReal))
    {n : ℕ} (hn : n % 2 = 0) (b : Ext) (x : ℝ) (hb : b.toE ≤ 0)
    (hxb : (x : EReal) ≤ b.toE) : (Itv.powExt r n b).toE ≤ ((x ^ n : ℝ) : EReal) := by
  have := powExt_dn_le_of_nonneg hr n (Ext.neg b) (-x) (Ext.neg_nonneg.2 hb) (Ext.neg_le_coe_neg.2 hxb)
  rwa [powExt_neg_of_even hn, (Nat.even_iff.2 hn).neg_pow] at this

theorem le_powExt_up_even_nonpos {r : Rat → Ext} (hr : ∀ q : Rat, ((q : ℝ) : EReal) ≤ (r q).toE)
    {n : ℕ} (hn : n % 2 = 0) (a : Ext) (x : ℝ) (hx : x ≤ 0)
    (hax : a.toE ≤ x) : ((x ^ n : ℝ) : EReal) ≤ (Itv.powExt r n a).toE := by
  have := le_powExt_up_of_nonneg hr n (Ext.neg a) (-x) (neg_nonneg.2 hx) (Ext.coe_neg_le_neg.2 hax)
  rwa [powExt_neg_of_even hn, (Nat.even_iff.2 hn).neg_pow] at this

theorem Itv.powNatG_encl {r : Rnd} (hr : r.Sound) {X : Itv} {x : ℝ} (n : ℕ) (hx : x ∈ X) : x ^ n ∈ Itv.powNatG r X n := by
  cases X with
  | empty => exact absurd hx (Itv.not_mem_empty x)
  | mk a b =>
  obtain ⟨hax, hxb⟩ := hx
  simp only [Itv.powNatG, Ext.le_iff, Ext.toE_zero]
  by_cases h0 : n = 0
  · subst h0; simp [Itv.point, Itv.mem_mk]
  rw [if_neg h0]
  by_cases h1 : n % 2 = 1
  · rw [if_pos h1]; exact ⟨powExt_dn_le_of_odd hr.1 h1 a x hax, le_powExt_up_of_odd hr.2 h1 b x hxb⟩
  rw [if_neg h1]
  have hn : n % 2 = 0 := by omega
  by_cases h2 : 0 ≤ a.toE
  · rw [if_pos h2]
    have hx0 : (0 : ℝ) ≤ x := by exact_mod_cast le_trans h2 hax
    exact ⟨powExt_dn_le_of_nonneg hr.1 n a x h2 hax, le_powExt_up_of_nonneg hr.2 n b x hx0 hxb⟩
  rw [if_neg h2]
  by_cases h3 : b.toE ≤ 0
  · rw [if_pos h3]
    have hx0 : x ≤ (0 : ℝ) := by exact_mod_cast le_trans hxb h3
    exact ⟨powExt_dn_le_even_nonpos hr.1 hn b x h3 hxb, le_powExt_up_even_nonpos hr.2 hn a x hx0 hax⟩
  rw [if_neg h3]
  refine ⟨?_, ?_⟩
  · rw [Ext.toE_zero]; exact_mod_cast (Nat.even_iff.2 hn).pow_nonneg x
  · rw [Ext.toE_max]
    rcases le_total 0 x with hx0 | hx0
    · exact le_trans (le_powExt_up_of_nonneg hr.2 n b x hx0 hxb) (le_max_right _ _)
    · exact le_trans (le_powExt_up_even_nonpos hr.2 hn a x hx0 hax) (le_max_left _ _)

theorem Itv.powNatG_empty_iff (r : Rnd) (X : Itv) (n : ℕ) : Itv.powNatG r X n = .empty ↔ X = .empty := by
  cases X with
  | empty => simp [Itv.powNatG]
  | mk a b => simp only [Itv.powNatG, Itv.point, apply_ite (· = Itv.empty), reduceCtorEq, ite_self]

/-! ### interval dot products -/

theorem Itv.dot_fold_encl {r : Rnd} (hr : r.Sound) :
    ∀ {x : List ℝ} {u : List Itv}, List.Forall₂ (· ∈ ·) x u →
      ∀ {y : List ℝ} {v : List Itv}, List.Forall₂ (· ∈ ·) y v → ∀ {acc : ℝ} {A : Itv}, acc ∈ A →
      acc + ((List.zip x y).map fun q => q.1 * q.2).sum ∈
        (List.zip u v).foldl (fun acc (p : Itv × Itv) => Itv.addG r acc (Itv.mulG r p.1 p.2)) A := by
  intro x u hx
  induction hx with
  | nil =>
    intro y v _ acc A hacc
    simpa using hacc
  | cons hx0 _ ih =>
    intro y v hy acc A hacc
    cases hy with
    | nil => simpa using hacc
    | cons hy0 hys =>
      have := ih hys (Itv.addG_encl hr hacc (Itv.mulG_encl hr hx0 hy0))
      simp only [List.zip_cons_cons, List.foldl_cons, List.map_cons, List.sum_cons]
      rwa [← add_assoc]

theorem Itv.forall₂_mem_point (l : List ℚ) :
    List.Forall₂ (· ∈ ·) (l.map fun q : ℚ => (q : ℝ)) (l.map Itv.point) := by
  rw [List.forall₂_map_left_iff, List.forall₂_map_right_iff]
  exact List.forall₂_same.2 fun q _ => mem_point_cast q

theorem Itv.dot_encl {r : Rnd} (hr : r.Sound) {x y : List ℝ} {u v : List Itv}
    (hx : List.Forall₂ (· ∈ ·) x u) (hy : List.Forall₂ (· ∈ ·) y v) :
    ((List.zip x y).map fun q => q.1 * q.2).sum ∈
      (List.zip u v).foldl (fun acc (p : Itv × Itv) => Itv.addG r acc (Itv.mulG r p.1 p.2)) (Itv.point 0) := by
  have := Itv.dot_fold_encl hr hx hy (Itv.mem_point_zero.2 rfl)
  rwa [zero_add] at this

end Ibex
