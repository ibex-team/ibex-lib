/-
  C14 — soundness of the checkers of `IbexModel/Inner.lean`, part 3: whole functions.

  `Alg.itvT` is the *total* interval algebra: an operator is defined only when the real operator
  is defined at every point of its arguments.  `Alg.itvT_real` is the operator-level statement;
  the generic naturality theorem of `EvalNat.lean` lifts it to DAGs (any size, sharing, vectors,
  matrices, applied functions): if the total interval evaluation of a DAG over a box is defined,
  the real function is DEFINED AT EVERY POINT of the box and its value belongs to the enclosure.
  The budgeted subdivision `certifyWith` and the exact point check `loupOk` follow.
-/
import IbexProofs.EvalCert
import IbexProofs.InnerBwd

namespace Ibex
open Ibex List Eval Inner

/-- the relation "the real `x` belongs to the interval `X`", interval first -/
abbrev IMem : Itv → ℝ → Prop := fun X x => x ∈ X

theorem itvNonEmpty_some {X Y : Itv} (h : itvNonEmpty X = some Y) : Y = X ∧ X.isEmpty = false := by
  unfold itvNonEmpty at h
  split at h
  · exact absurd h (by simp)
  · rename_i hne
    simp only [Option.some.injEq] at h
    exact ⟨h.symm, by simpa using hne⟩

/-- a selection of a member of every non-empty interval constant (thick constants come from the
    constant folding of the library: they denote *some* real of the interval) -/
structure Sel (ch : Itv → Option ℝ) : Prop where
  mem : ∀ I x, ch I = some x → x ∈ I
  total : ∀ I, (∃ x : ℝ, x ∈ I) → ∃ x, ch I = some x

open Classical in
/-- a selection exists (any member, by choice) -/
noncomputable def chAny (I : Itv) : Option ℝ := if h : ∃ x : ℝ, x ∈ I then some (Classical.choose h) else none

theorem chAny_sel : Sel chAny where
  mem := by
    intro I x h
    unfold chAny at h
    split at h
    · rename_i hex
      simp only [Option.some.injEq] at h
      rw [← h]
      exact Classical.choose_spec hex
    · exact absurd h (by simp)
  total := by
    intro I h
    exact ⟨_, by unfold chAny; rw [dif_pos h]⟩

theorem exists_mem_of_wf {I : Itv} (hwf : I.WF = true) (hne : I.isEmpty = false) : ∃ x : ℝ, x ∈ I := by
  cases I with
  | empty => simp [Itv.isEmpty] at hne
  | mk a b =>
    simp only [Itv.WF, Bool.and_eq_true, bne_iff_ne, ne_eq] at hwf
    obtain ⟨⟨hle, ha⟩, hb⟩ := hwf
    have hle' := (Ext.le_iff _ _).1 hle
    cases a with
    | pinf => exact absurd rfl ha
    | fin p => exact ⟨(p : ℝ), by simp, by simpa using hle'⟩
    | ninf =>
      cases b with
      | ninf => exact absurd rfl hb
      | fin q => exact ⟨(q : ℝ), by simp, by simp⟩
      | pinf => exact ⟨0, by simp, by simp⟩

theorem rel1_total {F : Itv → Itv} {f : ℝ → ℝ} (hF : ∀ {x : ℝ} {X : Itv}, x ∈ X → f x ∈ F X) :
    Rel1 IMem IMem (fun a => itvNonEmpty (F a)) (fun a => some (f a)) :=
  .to_total fun _ _ _ hx h => (itvNonEmpty_some h).1 ▸ hF hx

theorem rel2_total {F : Itv → Itv → Itv} {f : ℝ → ℝ → ℝ}
    (hF : ∀ {x y : ℝ} {X Y : Itv}, x ∈ X → y ∈ Y → f x y ∈ F X Y) :
    Rel2 IMem IMem (fun a b => itvNonEmpty (F a b)) (fun a b => some (f a b)) :=
  .to_total fun _ _ _ _ _ hx hy h => (itvNonEmpty_some h).1 ▸ hF hx hy

/-- the one case analysis on the name of a unary operator: what `Alg.itvT` supports, the real
    semantics supports, and the real operator is defined wherever the interval one is -/
theorem Alg.itvT_un_cases (op : String) :
    Alg.itvT.un op = none ∨
      ∃ F f, Alg.itvT.un op = some F ∧ Alg.real.un op = some f ∧ Rel1 IMem IMem F f := by
  unfold Alg.itvT
  simp only
  split
  · exact .inr ⟨_, _, rfl, rfl, rel1_total Itv.neg_encl⟩
  · exact .inr ⟨_, _, rfl, rfl, rel1_total Itv.sqr_encl⟩
  · exact .inr ⟨_, _, rfl, rfl, rel1_total Itv.abs_encl⟩
  · exact .inr ⟨_, _, rfl, rfl, rel1_total Itv.sign_encl⟩
  · refine .inr ⟨_, _, rfl, rfl, ?_⟩
    intro X x Z hx hZ
    cases X with
    | empty => exact absurd hx (Itv.not_mem_empty x)
    | mk lo hi =>
      simp only at hZ
      split at hZ
      · rename_i h0
        obtain ⟨rfl, _⟩ := itvNonEmpty_some hZ
        have hlo : ((0 : ℝ) : EReal) ≤ lo.toE := by simpa using (Ext.le_iff _ _).1 h0
        have hx0 : 0 ≤ x := by exact_mod_cast le_trans hlo hx.1
        exact ⟨Real.sqrt x, if_pos hx0, Itv.sqrt_encl hx hx0⟩
      · exact absurd hZ (by simp)
  · exact .inr ⟨_, _, rfl, rfl, rel1_total Itv.floor_encl⟩
  · exact .inr ⟨_, _, rfl, rfl, rel1_total Itv.ceil_encl⟩
  · exact .inl rfl

/-- **Operator-level statement**: when a total interval operator is defined on intervals, the real
    operator is defined at every point of these intervals and its value is in the result. -/
theorem Alg.itvT_real {ch : Itv → Option ℝ} (hch : Sel ch) : AlgRel IMem Alg.itvT (Alg.realWith ch) where
  ofItv := by
    intro I a h
    simp only [Alg.itvT] at h
    split at h
    · rename_i hwf
      obtain ⟨rfl, hne⟩ := itvNonEmpty_some h
      obtain ⟨x, hx⟩ := hch.total a (exists_mem_of_wf hwf hne)
      exact ⟨x, hx, hch.mem a x hx⟩
    · exact absurd h (by simp)
  zero := Itv.mem_point_zero.2 rfl
  add := rel2_total Itv.add_encl
  sub := rel2_total Itv.sub_encl
  mul := rel2_total Itv.mul_encl
  div := by
    intro X x Y y Z hx hy h
    simp only [Alg.itvT] at h
    split at h
    · exact absurd h (by simp)
    · rename_i hc
      obtain ⟨rfl, _⟩ := itvNonEmpty_some h
      have hy0 : y ≠ 0 := not_containsExt_zero (Bool.eq_false_iff.2 hc) hy
      exact ⟨x / y, if_neg hy0, Itv.div_encl hx hy hy0⟩
  max := rel2_total Itv.max_encl
  min := rel2_total Itv.min_encl
  un := by
    intro op F f hF hf
    rcases Alg.itvT_un_cases op with h | ⟨F', f', hF', hf', hrel⟩
    · exact absurd (h ▸ hF) (by simp)
    · cases hF'.symm.trans hF
      cases hf'.symm.trans hf
      exact hrel
  pow := by
    intro n X x Z hx h
    simp only [Alg.itvT] at h
    split at h
    · exact absurd h (by simp)
    · rename_i hc
      obtain ⟨rfl, _⟩ := itvNonEmpty_some h
      have h0 : n < 0 → x ≠ 0 := by
        intro hn
        have : Itv.containsExt X (.fin 0) = false := by
          simp only [Bool.and_eq_true, decide_eq_true_eq, not_and, Bool.not_eq_true] at hc
          exact hc hn
        exact not_containsExt_zero this hx
      exact ⟨x ^ n, if_neg fun ⟨hn, hx0⟩ => h0 hn hx0, Itv.powInt_encl n hx h0⟩
  chi := by
    intro X x Y y Z z W hx hy hz h
    cases X with
    | empty => exact absurd hx (Itv.not_mem_empty x)
    | mk al ah =>
      simp only [Alg.itvT] at h
      obtain ⟨h1, h2⟩ := hx
      split at h
      · rename_i hle
        rw [Ext.le_iff, Ext.toE_fin] at hle
        obtain ⟨rfl, _⟩ := itvNonEmpty_some h
        have : x ≤ 0 := by exact_mod_cast le_trans h2 hle
        exact ⟨y, congrArg some (if_pos this), hy⟩
      · split at h
        · rename_i _ hlt
          rw [Ext.lt_iff, Ext.toE_fin] at hlt
          obtain ⟨rfl, _⟩ := itvNonEmpty_some h
          have : ¬ x ≤ 0 := not_le.2 (by exact_mod_cast lt_of_lt_of_le hlt h1)
          exact ⟨z, congrArg some (if_neg this), hz⟩
        · obtain ⟨rfl, _⟩ := itvNonEmpty_some h
          refine ⟨if x ≤ 0 then y else z, rfl, ?_⟩
          split
          · exact Itv.mem_hull_left hy
          · exact Itv.mem_hull_right hz

theorem Alg.itvT_real_un {ch : Itv → Option ℝ} (op : String) (h : (Alg.realWith ch).un op = none) :
    Alg.itvT.un op = none := by
  rcases Alg.itvT_un_cases op with h' | ⟨_, f, _, hf, _⟩
  · exact h'
  · exact absurd (hf.symm.trans h) (by simp)

theorem Alg.itvT_real_supp {ch : Itv → Option ℝ} (n : Node) : Eval.Supp Alg.itvT (Alg.realWith ch) n :=
  fun op _ _ _ h => Alg.itvT_real_un op h

namespace Inner

/-- the real value of the DAG at the point `p` (interval constants read through `ch`) -/
noncomputable def realRoot (ch : Itv → Option ℝ) (funs : List Dag) (dag : Dag) (p : List ℝ) : Option (Mat ℝ) :=
  Eval.root (Alg.realWith ch) p (Eval.buildCalls (Alg.realWith ch) funs) dag

def InBox (box : List Itv) (p : List ℝ) : Prop := Forall₂ IMem box p

theorem inBox_of_mem {p : List ℝ} {b : Box} (h : Box.Mem p b) : InBox b p := List.Forall₂.flip h
theorem mem_of_inBox {p : List ℝ} {b : Box} (h : InBox b p) : Box.Mem p b := List.Forall₂.flip h

/-- **Total interval evaluation**: defined on the box ⇒ the real function is defined at every point
    of the box, with its value in the enclosure. -/
theorem evalT_sound {ch : Itv → Option ℝ} (hch : Sel ch) {funs : List Dag} {dag : Dag} {box : List Itv}
    {Z : Mat Itv} (h : evalT funs dag box = some Z) {p : List ℝ} (hp : InBox box p) :
    ∃ v, realRoot ch funs dag p = some v ∧ MatRel IMem Z v :=
  root_rel_total (Alg.itvT_real hch) hp
    (buildCalls_rel_total (Alg.itvT_real hch) funs (fun _ _ n _ => Alg.itvT_real_supp n))
    (fun n _ => Alg.itvT_real_supp n) h

/-- meaning of a requirement for a real matrix value -/
def RealSat (s : Spec) (v : Mat ℝ) : Prop :=
  match s with
  | .inM Y => MatRel IMem Y v
  | .leq => ∀ x ∈ v.d, x ≤ 0
  | .lt => ∀ x ∈ v.d, x < 0
  | .geq => ∀ x ∈ v.d, 0 ≤ x
  | .gt => ∀ x ∈ v.d, 0 < x
  | .eq => ∀ x ∈ v.d, x = 0

theorem itvSat_sound {s : Spec} {Z : Itv} (h : itvSat s Z = true) {x : ℝ} (hx : x ∈ Z) :
    match s with
    | .inM _ => False
    | .leq => x ≤ 0
    | .lt => x < 0
    | .geq => 0 ≤ x
    | .gt => 0 < x
    | .eq => x = 0 := by
  cases Z with
  | empty => exact absurd hx (Itv.not_mem_empty x)
  | mk l u =>
    obtain ⟨h1, h2⟩ := hx
    cases s <;> simp only [itvSat, Ext.le_iff, Ext.lt_iff, toE_z0] at h ⊢
    · exact absurd h (by simp)
    · exact_mod_cast le_trans h2 h
    · exact_mod_cast lt_of_le_of_lt h2 h
    · exact_mod_cast le_trans h h1
    · exact_mod_cast lt_of_lt_of_le h h1
    · simp only [Bool.and_eq_true, beq_iff_eq] at h
      obtain ⟨rfl, rfl⟩ := h
      rw [toE_z0] at h1 h2
      exact le_antisymm (by exact_mod_cast h2) (by exact_mod_cast h1)

theorem matSat_sound {s : Spec} {Z : Mat Itv} (h : matSat s Z = true) {v : Mat ℝ} (hv : MatRel IMem Z v) :
    RealSat s v := by
  obtain ⟨hr, hc, hd⟩ := hv
  cases s with
  | inM Y =>
    simp only [matSat, Eval.matSubset, Bool.and_eq_true, beq_iff_eq] at h
    obtain ⟨⟨⟨e1, e2⟩, e3⟩, hall⟩ := h
    exact ⟨e1.symm.trans hr, e2.symm.trans hc,
      forall₂_of_zip_all (R := IMem) (S := IMem) (fun _ _ _ hs hm => Itv.mem_of_subset hs hm) hd e3 hall⟩
  | _ =>
    simp only [matSat, List.all_eq_true] at h
    exact forall₂_all (R := IMem) hd (fun Z x hZ hx => itvSat_sound hZ hx) h

/-! ### subdivision -/

theorem splitAt_cover : ∀ (box : List Itv) (i : Nat) (m : Rat) {p : List ℝ}, InBox box p →
    InBox (splitAt box i m).1 p ∨ InBox (splitAt box i m).2 p := by
  intro box
  induction box with
  | nil => intro i m p hp; exact .inl (by simpa [splitAt] using hp)
  | cons I r ih =>
    intro i m p hp
    cases hp with
    | cons hI hr =>
      rename_i x q
      cases i with
      | zero =>
        cases I with
        | empty => exact absurd hI (Itv.not_mem_empty x)
        | mk a b =>
          simp only [splitAt]
          by_cases hx : x ≤ (m : ℝ)
          · exact .inl (.cons ⟨hI.1, by simpa using hx⟩ hr)
          · exact .inr (.cons ⟨by simpa using le_of_lt (not_le.1 hx), hI.2⟩ hr)
      | succ i =>
        simp only [splitAt]
        rcases ih i m hr with h | h
        · exact .inl (.cons hI h)
        · exact .inr (.cons hI h)

/-- **Certification of a whole box** (any subdivision depth): if no leaf is left undecided, the real
    function is defined at EVERY point of the box and its value belongs to an enclosure accepted by
    `chk`. -/
theorem certifyWith_sound {ch : Itv → Option ℝ} (hch : Sel ch) {funs : List Dag} {dag : Dag}
    {chk : Mat Itv → Bool} : ∀ (fuel : Nat) {box : List Itv}, certifyWith funs dag chk fuel box = 0 →
    ∀ {p : List ℝ}, InBox box p → ∃ v Z, realRoot ch funs dag p = some v ∧ chk Z = true ∧ MatRel IMem Z v := by
  have base : ∀ {box : List Itv}, certBoxWith funs dag chk box = true →
      ∀ {p : List ℝ}, InBox box p → ∃ v Z, realRoot ch funs dag p = some v ∧ chk Z = true ∧ MatRel IMem Z v := by
    intro box h p hp
    unfold certBoxWith at h
    cases hz : evalT funs dag box with
    | none => simp [hz] at h
    | some Z =>
      simp only [hz] at h
      obtain ⟨v, hv, hm⟩ := evalT_sound hch hz hp
      exact ⟨v, Z, hv, h, hm⟩
  intro fuel
  induction fuel with
  | zero =>
    intro box h p hp
    simp only [certifyWith] at h
    split at h
    · rename_i hc; exact base hc hp
    · exact absurd h (by simp)
  | succ fuel ih =>
    intro box h p hp
    simp only [certifyWith] at h
    split at h
    · rename_i hc; exact base hc hp
    · split at h
      · exact absurd h (by simp)
      · rename_i i m _
        have h1 : certifyWith funs dag chk fuel (splitAt box i m).1 = 0 := by omega
        have h2 : certifyWith funs dag chk fuel (splitAt box i m).2 = 0 := by omega
        rcases splitAt_cover box i m hp with hp' | hp'
        · exact ih h1 hp'
        · exact ih h2 hp'

/-- **Inner box of a requirement** (`Function::ibwd`, `is_inner`, `active_ctrs`): an accepted box
    has ALL its points mapped into the requirement, the function being defined at each of them. -/
theorem certify_sound {ch : Itv → Option ℝ} (hch : Sel ch) {funs : List Dag} {dag : Dag} {s : Spec}
    {fuel : Nat} {box : List Itv} (h : certify funs dag s fuel box = 0) {p : List ℝ} (hp : InBox box p) :
    ∃ v, realRoot ch funs dag p = some v ∧ RealSat s v := by
  obtain ⟨v, Z, hv, hZ, hm⟩ := certifyWith_sound hch fuel h hp
  exact ⟨v, hv, matSat_sound hZ hm⟩


/-! ### exact rational evaluation at a point (loup points, sample points) -/

/-- a degenerate constant has only one member: every selection gives it the value `Alg.real` does -/
theorem _root_.Ibex.Sel.of_realOfItv {ch : Itv → Option ℝ} (hch : Sel ch) {I : Itv} {a : ℝ} (h : realOfItv I = some a) :
    ch I = some a := by
  obtain ⟨q, hq, rfl⟩ := Option.map_eq_some_iff.1 ((realOfItv_eq_ratOfItv I).symm.trans h)
  unfold ratOfItv at hq
  split at hq
  · split at hq
    · rename_i e
      cases hq
      obtain rfl := beq_iff_eq.1 e
      obtain ⟨x, hx⟩ := hch.total (.mk (.fin q) (.fin q)) ⟨(q : ℝ), le_refl _, le_refl _⟩
      have hm : ((q : ℝ) : EReal) ≤ x ∧ (x : EReal) ≤ (q : ℝ) := hch.mem _ _ hx
      exact hx.trans (congrArg some (le_antisymm (by exact_mod_cast hm.2) (by exact_mod_cast hm.1)))
    · cases hq
  · cases hq

/-- exact rational evaluation is the real semantics, for every selection of the constants -/
theorem evalQ_real {ch : Itv → Option ℝ} (hch : Sel ch) {funs : List Dag} {dag : Dag} {q : List ℚ} {v : Mat ℚ}
    (h : evalQ funs dag q = some v) :
    ∃ z, realRoot ch funs dag (q.map (Rat.cast : ℚ → ℝ)) = some z ∧ MatRel RCast v z := by
  have hq : Forall₂ RCast q (q.map (Rat.cast : ℚ → ℝ)) := forall₂_map_right_iff.2 (forall₂_same.2 fun _ _ => rfl)
  obtain ⟨z, hz, hvz⟩ := root_rel_total Alg.rat_real hq
    (buildCalls_rel_total Alg.rat_real funs (fun _ _ n _ => Alg.rat_real_supp n))
    (fun n _ => Alg.rat_real_supp n) h
  exact ⟨z, root_of_ofItv (fun _ _ => hch.of_realOfItv) hz, hvz⟩

theorem ratSat1_sound {s : Spec} {q : Rat} (h : ratSat1 s q = true) :
    match s with
    | .inM _ => False
    | .leq => (q : ℝ) ≤ 0
    | .lt => (q : ℝ) < 0
    | .geq => (0 : ℝ) ≤ q
    | .gt => (0 : ℝ) < q
    | .eq => (q : ℝ) = 0 := by
  cases s <;> simp only [ratSat1, decide_eq_true_eq] at h ⊢
  · exact absurd h (by simp)
  all_goals exact_mod_cast h

theorem ratSat_sound {s : Spec} {v : Mat ℚ} (h : ratSat s v = true) {z : Mat ℝ} (hz : MatRel RCast v z) :
    RealSat s z := by
  obtain ⟨hr, hc, hd⟩ := hz
  cases s with
  | inM Y =>
    simp only [ratSat, Bool.and_eq_true, beq_iff_eq] at h
    obtain ⟨⟨⟨e1, e2⟩, e3⟩, hall⟩ := h
    exact ⟨e1.symm.trans hr, e2.symm.trans hc,
      forall₂_of_zip_all (R := RCast) (S := IMem) (fun q Y x hs (hx : x = q) => hx ▸ memQ_mem hs) hd e3 hall⟩
  | _ =>
    simp only [ratSat, List.all_eq_true] at h
    exact forall₂_all (R := RCast) hd (fun q x hq (hx : x = q) => hx ▸ ratSat1_sound hq) h

/-- **Loup points**: if `loupOk` accepts the point `p` and the bound `loup`, every constraint of the
    system holds at `p` (as real numbers, the functions being defined there) and the value of the
    goal at `p` is at most `loup`. -/
theorem loupOk_sound {ch : Itv → Option ℝ} (hch : Sel ch) {funs : List (List Dag)} {ctrs : List (Dag × Spec)}
    {gfuns : List Dag} {goal : Dag} {p : List ℚ} {loup : Ext} (h : loupOk funs ctrs gfuns goal p loup = true) :
    (∀ c ∈ List.zip funs ctrs, ∃ z, realRoot ch c.1 c.2.1 (p.map (Rat.cast : ℚ → ℝ)) = some z ∧ RealSat c.2.2 z) ∧
    funs.length = ctrs.length ∧
    ∃ g : ℝ, realRoot ch gfuns goal (p.map (Rat.cast : ℚ → ℝ)) = some (Mat.scalar g) ∧ (g : EReal) ≤ loup.toE := by
  simp only [loupOk, Bool.and_eq_true, List.all_eq_true, beq_iff_eq] at h
  obtain ⟨⟨hc, hlen⟩, hg⟩ := h
  refine ⟨?_, hlen, ?_⟩
  · intro c hcm
    have := hc c hcm
    cases hv : evalQ c.1 c.2.1 p with
    | none => simp [hv] at this
    | some v =>
      simp only [hv] at this
      obtain ⟨z, hz, hvz⟩ := evalQ_real hch hv
      exact ⟨z, hz, ratSat_sound this hvz⟩
  · cases hv : evalQ gfuns goal p with
    | none => simp [hv] at hg
    | some v =>
      simp only [hv] at hg
      obtain ⟨z, hz, hvz⟩ := evalQ_real hch hv
      split at hg
      · rename_i g heq
        simp only [Option.some.injEq] at heq
        subst heq
        obtain ⟨hr, hcc, hd⟩ := hvz
        obtain ⟨zr, zc, zd⟩ := z
        simp only at hr hcc hd
        cases hd with
        | cons hab htl =>
          cases htl
          subst hr; subst hcc
          refine ⟨_, hz, ?_⟩
          rw [hab]
          simpa using (Ext.le_iff _ _).1 hg
      · exact absurd hg (by simp)

end Inner
end Ibex
