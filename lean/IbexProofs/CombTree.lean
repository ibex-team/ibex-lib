/-
  C19 — combinator trees: the logical set denoted by a tree and the soundness of the model
  evaluator for ALL trees, ALL leaf behaviours meeting the contract, all inputs, any fuel.
-/
import IbexProofs.Comb
import IbexProofs.CombQuant
import IbexProofs.CombSep

namespace Ibex.C19
open Ibex Ibex.Comb

structure SetEnv where
  ctc : Nat → Set Pt
  pdc : Nat → Set Pt
  sep : Nat → Set Pt

/-! ### predicates -/

mutual
def pdcSet (E : SetEnv) : Pdc → Set Pt
  | .leaf i => E.pdc i
  | .and l => interSets (pdcSetList E l)
  | .or l => unionSets (pdcSetList E l)
  | .not p => (pdcSet E p)ᶜ
def pdcSetList (E : SetEnv) : List Pdc → List (Set Pt)
  | [] => []
  | p :: ps => pdcSet E p :: pdcSetList E ps
end

mutual
theorem pdc_eval_ok (env : Env) (E : SetEnv) (hP : ∀ i, PdcOK (env.pdc i) (E.pdc i)) :
    ∀ t : Pdc, PdcOK (Pdc.eval env.pdc t) (pdcSet E t)
  | .leaf i => by simp only [Pdc.eval, pdcSet]; exact hP i
  | .and l => by simp only [Pdc.eval, pdcSet]; exact pdcAnd_ok (pdc_evalList_ok env E hP l)
  | .or l => by simp only [Pdc.eval, pdcSet]; exact pdcOr_ok (pdc_evalList_ok env E hP l)
  | .not p => by simp only [Pdc.eval, pdcSet]; exact pdcNot_ok (pdc_eval_ok env E hP p)
theorem pdc_evalList_ok (env : Env) (E : SetEnv) (hP : ∀ i, PdcOK (env.pdc i) (E.pdc i)) :
    ∀ l : List Pdc, List.Forall₂ PdcOK (Pdc.evalList env.pdc l) (pdcSetList E l)
  | [] => by simp only [Pdc.evalList, pdcSetList]; exact List.Forall₂.nil
  | p :: ps => by
    simp only [Pdc.evalList, pdcSetList]
    exact List.Forall₂.cons (pdc_eval_ok env E hP p) (pdc_evalList_ok env E hP ps)
end

/-! ### contractors -/

mutual
def ctcSet (E : SetEnv) : Ctc → Set Pt
  | .leaf i => E.ctc i
  | .compo l => interSets (ctcSetList E l)
  | .union l => unionSets (ctcSetList E l)
  | .fix c _ => ctcSet E c
  | .qinter l q => atLeast q (ctcSetList E l)
  | .integer mask => intSet mask
  | .id => Set.univ
  | .empty => ∅
  | .exist c m yinit _ _ => existSet m yinit (ctcSet E c)
  | .forAll c m yinit _ _ => forallSet m yinit (ctcSet E c)
  | .ofPdc p => (pdcSet E p)ᶜ
def ctcSetList (E : SetEnv) : List Ctc → List (Set Pt)
  | [] => []
  | c :: cs => ctcSet E c :: ctcSetList E cs
end

mutual
/-- well-formed tree: the parameter box of every for-all node is not empty -/
def ctcWF : Ctc → Prop
  | .leaf _ => True
  | .compo l => ctcWFList l
  | .union l => ctcWFList l
  | .fix c _ => ctcWF c
  | .qinter l _ => ctcWFList l
  | .integer _ => True
  | .id => True
  | .empty => True
  | .exist c _ _ _ _ => ctcWF c
  | .forAll c _ yinit _ _ => ctcWF c ∧ ∃ q, Mem q yinit
  | .ofPdc _ => True
def ctcWFList : List Ctc → Prop
  | [] => True
  | c :: cs => ctcWF c ∧ ctcWFList cs
end

mutual
/-- the model evaluator of any well-formed contractor tree, over any leaves meeting the contract,
    meets the contract for the logical set of the tree -/
theorem ctc_eval_ok (env : Env) (E : SetEnv) (hL : ∀ i, CtcOK (env.ctc i) (E.ctc i))
    (hP : ∀ i, PdcOK (env.pdc i) (E.pdc i)) (fuel : Nat) :
    ∀ t : Ctc, ctcWF t → CtcOK (Ctc.eval env fuel t) (ctcSet E t)
  | .leaf i, _ => by simp only [Ctc.eval, ctcSet]; exact hL i
  | .compo l, h => by
    simp only [Ctc.eval, ctcSet]; exact compo_ok (ctc_evalList_ok env E hL hP fuel l (by simpa [ctcWF] using h))
  | .union l, h => by
    simp only [Ctc.eval, ctcSet]; exact union_ok (ctc_evalList_ok env E hL hP fuel l (by simpa [ctcWF] using h))
  | .fix c ratio, h => by
    simp only [Ctc.eval, ctcSet]; exact fix_ok (ctc_eval_ok env E hL hP fuel c (by simpa [ctcWF] using h)) fuel ratio
  | .qinter l q, h => by
    simp only [Ctc.eval, ctcSet]; exact qinter_ok (ctc_evalList_ok env E hL hP fuel l (by simpa [ctcWF] using h)) q
  | .integer mask, _ => by simp only [Ctc.eval, ctcSet]; exact integer_ok mask
  | .id, _ => by simp only [Ctc.eval, ctcSet]; exact id_ok
  | .empty, _ => by simp only [Ctc.eval, ctcSet]; exact empty_ok
  | .exist c m yinit prec br, h => by
    simp only [Ctc.eval, ctcSet]
    exact exist_ok (ctc_eval_ok env E hL hP fuel c (by simpa [ctcWF] using h)) fuel m yinit prec _ _
      (lfBisect_ok prec br) midBox_ok.len
  | .forAll c m yinit prec br, h => by
    simp only [Ctc.eval, ctcSet]
    have h' : ctcWF c ∧ ∃ q, Mem q yinit := by simpa [ctcWF] using h
    exact forall_ok (ctc_eval_ok env E hL hP fuel c h'.1) fuel m yinit prec _ _
      (lfBisect_ok prec br) midBox_ok h'.2
  | .ofPdc p, _ => by simp only [Ctc.eval, ctcSet]; exact ofPdc_ok (pdc_eval_ok env E hP p)
theorem ctc_evalList_ok (env : Env) (E : SetEnv) (hL : ∀ i, CtcOK (env.ctc i) (E.ctc i))
    (hP : ∀ i, PdcOK (env.pdc i) (E.pdc i)) (fuel : Nat) :
    ∀ l : List Ctc, ctcWFList l → List.Forall₂ CtcOK (Ctc.evalList env fuel l) (ctcSetList E l)
  | [], _ => by simp only [Ctc.evalList, ctcSetList]; exact List.Forall₂.nil
  | c :: cs, h => by
    simp only [Ctc.evalList, ctcSetList]
    have h' : ctcWF c ∧ ctcWFList cs := by simpa [ctcWFList] using h
    exact List.Forall₂.cons (ctc_eval_ok env E hL hP fuel c h'.1) (ctc_evalList_ok env E hL hP fuel cs h'.2)
end

/-! ### separators -/

mutual
/-- the logical set of a separator tree (`pair cin cout`: the set of the outer contractor) -/
def sepSet (E : SetEnv) : Sep → Set Pt
  | .leaf i => E.sep i
  | .pair _ cout => ctcSet E cout
  | .inter l => interSets (sepSetList E l)
  | .union l => unionSets (sepSetList E l)
  | .not s => (sepSet E s)ᶜ
  | .qinter l q => atLeast (l.length - q) (sepSetList E l)
def sepSetList (E : SetEnv) : List Sep → List (Set Pt)
  | [] => []
  | s :: ss => sepSet E s :: sepSetList E ss
end

mutual
/-- well-formed (dimension `n`): in every pair the two contractor trees are well-formed and
    *complementary* (every `n`-dimensional point outside the set of the outer contractor is in the set of
    the inner one) -/
def sepWF (E : SetEnv) (n : Nat) : Sep → Prop
  | .leaf _ => True
  | .pair cin cout => ctcWF cin ∧ ctcWF cout ∧ ∀ p : Pt, p.length = n → p ∉ ctcSet E cout → p ∈ ctcSet E cin
  | .inter l => sepWFList E n l
  | .union l => sepWFList E n l
  | .not s => sepWF E n s
  | .qinter l _ => sepWFList E n l
def sepWFList (E : SetEnv) (n : Nat) : List Sep → Prop
  | [] => True
  | s :: ss => sepWF E n s ∧ sepWFList E n ss
end

theorem sep_evalList_length (env : Env) (fuel : Nat) : ∀ l : List Sep, (Sep.evalList env fuel l).length = l.length
  | [] => by simp [Sep.evalList]
  | s :: ss => by simp [Sep.evalList, sep_evalList_length env fuel ss]

mutual
/-- the model evaluator of any well-formed separator tree meets the separator contract for the
    logical set of the tree -/
theorem sep_eval_ok (env : Env) (E : SetEnv) (n : Nat) (hL : ∀ i, CtcOK (env.ctc i) (E.ctc i))
    (hP : ∀ i, PdcOK (env.pdc i) (E.pdc i)) (hS : ∀ i, SepOK n (env.sep i) (E.sep i)) (fuel : Nat) :
    ∀ t : Sep, sepWF E n t → SepOK n (Sep.eval env fuel t) (sepSet E t)
  | .leaf i, _ => by simp only [Sep.eval, sepSet]; exact hS i
  | .pair cin cout, h => by
    simp only [Sep.eval, sepSet]
    have h' : ctcWF cin ∧ ctcWF cout ∧ ∀ p : Pt, p.length = n → p ∉ ctcSet E cout → p ∈ ctcSet E cin := by
      simpa [sepWF] using h
    exact sepPair_ok n (ctc_eval_ok env E hL hP fuel cin h'.1) (ctc_eval_ok env E hL hP fuel cout h'.2.1)
      h'.2.2 (fun _ hp => hp)
  | .inter l, h => by
    simp only [Sep.eval, sepSet]; exact sepInter_ok (sep_evalList_ok env E n hL hP hS fuel l (by simpa [sepWF] using h))
  | .union l, h => by
    simp only [Sep.eval, sepSet]; exact sepUnion_ok (sep_evalList_ok env E n hL hP hS fuel l (by simpa [sepWF] using h))
  | .not s, h => by
    simp only [Sep.eval, sepSet]; exact sepNot_ok (sep_eval_ok env E n hL hP hS fuel s (by simpa [sepWF] using h))
  | .qinter l q, h => by
    simp only [Sep.eval, sepSet]
    have := sepQInter_ok (sep_evalList_ok env E n hL hP hS fuel l (by simpa [sepWF] using h)) q
    rwa [sep_evalList_length] at this
theorem sep_evalList_ok (env : Env) (E : SetEnv) (n : Nat) (hL : ∀ i, CtcOK (env.ctc i) (E.ctc i))
    (hP : ∀ i, PdcOK (env.pdc i) (E.pdc i)) (hS : ∀ i, SepOK n (env.sep i) (E.sep i)) (fuel : Nat) :
    ∀ l : List Sep, sepWFList E n l → List.Forall₂ (SepOK n) (Sep.evalList env fuel l) (sepSetList E l)
  | [], _ => by simp only [Sep.evalList, sepSetList]; exact List.Forall₂.nil
  | s :: ss, h => by
    simp only [Sep.evalList, sepSetList]
    have h' : sepWF E n s ∧ sepWFList E n ss := by simpa [sepWFList] using h
    exact List.Forall₂.cons (sep_eval_ok env E n hL hP hS fuel s h'.1) (sep_evalList_ok env E n hL hP hS fuel ss h'.2)
end

end Ibex.C19
