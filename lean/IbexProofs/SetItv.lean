/-
  The set algebra of `IbexModel.Itv` (inter, hull, subset and its strict / interior variants, intersects,
  overlaps, complementary, diff) and the interval bisection certificate agree with their point-wise meaning
  over the reals; the bounds of a well-formed interval carry the inclusion tests.  In front, the lemmas on
  `if` and `List.Forall₂` (index-wise form, composition, `List.set`) that the box level and other files use.
-/
import IbexProofs.Arith
import Mathlib.Data.List.Forall2

namespace Ibex
open Ibex

/-! ### `if` and `List.Forall₂` -/

theorem ite_cases {α : Sort _} {P : α → Prop} {c : Prop} [Decidable c] {a b : α} (ha : c → P a) (hb : ¬ c → P b) :
    P (if c then a else b) := by
  by_cases h : c
  · rw [if_pos h]; exact ha h
  · rw [if_neg h]; exact hb h

theorem forall₂_iff_getElem? {α β : Type} {R : α → β → Prop} {l₁ : List α} {l₂ : List β} :
    List.Forall₂ R l₁ l₂ ↔
      l₁.length = l₂.length ∧
        ∀ (i : Nat) (a : α) (b : β), l₁[i]? = some a → l₂[i]? = some b → R a b := by
  induction l₁ generalizing l₂ with
  | nil =>
    cases l₂ with
    | nil => exact iff_of_true .nil ⟨rfl, fun i a b h => nomatch h⟩
    | cons I bs => exact iff_of_false (nomatch ·) fun h => nomatch h.1
  | cons t ps ih =>
    cases l₂ with
    | nil => exact iff_of_false (nomatch ·) fun h => nomatch h.1
    | cons I bs =>
      rw [List.forall₂_cons, ih, List.length_cons, List.length_cons, Nat.succ_inj]
      exact ⟨fun ⟨h0, hl, h⟩ => ⟨hl, fun
          | 0, _, _, h1, h2 => Option.some.inj h1 ▸ Option.some.inj h2 ▸ h0
          | i + 1, a, b, h1, h2 => h i a b h1 h2⟩,
        fun ⟨hl, h⟩ => ⟨h 0 t I rfl rfl, hl, fun i a b h1 h2 => h (i + 1) a b h1 h2⟩⟩

theorem forall₂_comp {α β γ : Type} {R : α → β → Prop} {S : β → γ → Prop} {T : α → γ → Prop}
    {l₁ : List α} {l₂ : List β} {l₃ : List γ} (h1 : List.Forall₂ R l₁ l₂) (h2 : List.Forall₂ S l₂ l₃)
    (h : ∀ a b c, R a b → S b c → T a c) : List.Forall₂ T l₁ l₃ := by
  induction h1 generalizing l₃ with
  | nil => cases h2; exact .nil
  | cons hab _ ih =>
    cases h2 with
    | cons hbc h2' => exact .cons (h _ _ _ hab hbc) (ih h2')

theorem forall₂_set {α β : Type} {R : α → β → Prop} {l₁ : List α} {l₂ : List β}
    (h : List.Forall₂ R l₁ l₂) (i : Nat) {a : α} {b : β} (hab : R a b) :
    List.Forall₂ R (l₁.set i a) (l₂.set i b) := by
  induction h generalizing i with
  | nil => exact List.Forall₂.nil
  | cons h0 _ ih =>
    cases i with
    | zero => exact List.Forall₂.cons hab (by assumption)
    | succ j => exact List.Forall₂.cons h0 (ih j)

theorem forall₂_set_right {α β : Type} {R : α → β → Prop} {l₁ : List α} {l₂ : List β}
    (h : List.Forall₂ R l₁ l₂) {i : Nat} {a : α} (ha : l₁[i]? = some a) {b : β} (hab : R a b) :
    List.Forall₂ R l₁ (l₂.set i b) := by
  have := forall₂_set h i hab
  obtain ⟨hi, e⟩ := List.getElem?_eq_some_iff.1 ha
  rwa [← e, List.set_getElem_self] at this

theorem forall₂_set_left {α β : Type} {R : α → β → Prop} {l₁ : List α} {l₂ : List β}
    (h : List.Forall₂ R l₁ l₂) {i : Nat} {b : β} (hb : l₂[i]? = some b) {a : α} (hab : R a b) :
    List.Forall₂ R (l₁.set i a) l₂ := by
  have := forall₂_set h i hab
  obtain ⟨hi, e⟩ := List.getElem?_eq_some_iff.1 hb
  rwa [← e, List.set_getElem_self] at this

/-! ### helpers on extended reals -/

theorem ereal_exists_mem {a b : EReal} (h : a ≤ b) (ha : a ≠ ⊤) (hb : b ≠ ⊥) :
    ∃ x : ℝ, a ≤ (x : EReal) ∧ (x : EReal) ≤ b := by
  rcases eq_or_lt_of_le h with rfl | hlt
  · lift a to ℝ using ⟨ha, hb⟩
    exact ⟨a, le_refl _, le_refl _⟩
  · obtain ⟨x, h1, h2⟩ := EReal.lt_iff_exists_real_btwn.1 hlt
    exact ⟨x, h1.le, h2.le⟩

theorem ereal_exists_mem_le {a b c : EReal} (hab : a ≤ b) (ha : a ≠ ⊤) (hb : b ≠ ⊥) (hc : c ≠ ⊥)
    (hac : a ≤ c) : ∃ x : ℝ, a ≤ (x : EReal) ∧ (x : EReal) ≤ b ∧ (x : EReal) ≤ c := by
  have h2 : Min.min b c ≠ ⊥ := by
    rcases min_choice b c with e | e <;> rw [e] <;> assumption
  obtain ⟨x, h1, h3⟩ := ereal_exists_mem (le_min hab hac) ha h2
  exact ⟨x, h1, le_trans h3 (min_le_left _ _), le_trans h3 (min_le_right _ _)⟩

theorem ereal_exists_mem_ge {a b d : EReal} (hab : a ≤ b) (ha : a ≠ ⊤) (hb : b ≠ ⊥) (hd : d ≠ ⊤)
    (hdb : d ≤ b) : ∃ x : ℝ, a ≤ (x : EReal) ∧ (x : EReal) ≤ b ∧ d ≤ (x : EReal) := by
  have h2 : Max.max a d ≠ ⊤ := by
    rcases max_choice a d with e | e <;> rw [e] <;> assumption
  obtain ⟨x, h1, h3⟩ := ereal_exists_mem (max_le hab hdb) h2 hb
  exact ⟨x, le_trans (le_max_left _ _) h1, h3, le_trans (le_max_right _ _) h1⟩

theorem ereal_exists_mem_lt {a b c : EReal} (hab : a ≤ b) (hb : b ≠ ⊥) (hac : a < c) :
    ∃ x : ℝ, a ≤ (x : EReal) ∧ (x : EReal) ≤ b ∧ (x : EReal) < c := by
  obtain ⟨r, h1, h2⟩ := EReal.lt_iff_exists_real_btwn.1 hac
  obtain ⟨x, hx1, hx2, hx3⟩ := ereal_exists_mem_le hab (ne_top_of_lt hac) hb (EReal.coe_ne_bot r) h1.le
  exact ⟨x, hx1, hx2, lt_of_le_of_lt hx3 h2⟩

theorem ereal_exists_mem_gt {a b d : EReal} (hab : a ≤ b) (ha : a ≠ ⊤) (hdb : d < b) :
    ∃ x : ℝ, a ≤ (x : EReal) ∧ (x : EReal) ≤ b ∧ d < (x : EReal) := by
  obtain ⟨r, h1, h2⟩ := EReal.lt_iff_exists_real_btwn.1 hdb
  obtain ⟨x, hx1, hx2, hx3⟩ := ereal_exists_mem_ge hab ha (ne_bot_of_gt hdb) (EReal.coe_ne_top r) h2.le
  exact ⟨x, hx1, hx2, lt_of_lt_of_le h1 hx3⟩

theorem Ext.toE_eq_top {a : Ext} : a.toE = ⊤ ↔ a = .pinf := by cases a <;> simp
theorem Ext.toE_eq_bot {a : Ext} : a.toE = ⊥ ↔ a = .ninf := by cases a <;> simp

theorem Ext.toE_eq_iff {a b : Ext} : a.toE = b.toE ↔ a = b :=
  ⟨fun h => Ext.toE_injective h, fun h => h ▸ rfl⟩

theorem Ext.beq_iff_toE {a b : Ext} : (a == b) = true ↔ a.toE = b.toE := by
  rw [beq_iff_eq, Ext.toE_eq_iff]

theorem Ext.bne_iff {a b : Ext} : (a != b) = true ↔ a.toE ≠ b.toE := by
  rw [bne_iff_ne, ne_eq, ne_eq, Ext.toE_eq_iff]

/-! ### well-formedness -/

theorem Itv.WF_mk {a b : Ext} :
    (Itv.mk a b).WF = true ↔ a.toE ≤ b.toE ∧ a.toE ≠ ⊤ ∧ b.toE ≠ ⊥ := by
  simp only [Itv.WF, Bool.and_eq_true, Ext.le_iff, bne_iff_ne, ne_eq, Ext.toE_eq_top,
    Ext.toE_eq_bot, and_assoc]

theorem Itv.WF_of_mem {x : ℝ} {X : Itv} (hx : x ∈ X) : X.WF = true := by
  cases X with
  | empty => rfl
  | mk a b =>
    exact Itv.WF_mk.2 ⟨le_trans hx.1 hx.2, ne_top_of_le_ne_top (EReal.coe_ne_top x) hx.1,
      ne_bot_of_le_ne_bot (EReal.coe_ne_bot x) hx.2⟩

theorem Itv.ofBounds_eq (lo hi : Ext) :
    Itv.ofBounds lo hi = if (Itv.mk lo hi).WF = true then Itv.mk lo hi else Itv.empty := rfl

theorem Itv.mem_ofBounds_iff {x : ℝ} {lo hi : Ext} :
    x ∈ Itv.ofBounds lo hi ↔ lo.toE ≤ (x : EReal) ∧ (x : EReal) ≤ hi.toE := by
  rw [Itv.ofBounds_eq]
  split
  · exact Iff.rfl
  · rename_i h
    constructor
    · intro hx; exact absurd hx (Itv.not_mem_empty x)
    · intro hx
      exact absurd (Itv.WF_of_mem (X := Itv.mk lo hi) hx) h

/-! ### 1. intersection -/

theorem Itv.mem_inter {x : ℝ} {X Y : Itv} : x ∈ Itv.inter X Y ↔ x ∈ X ∧ x ∈ Y := by
  cases X with
  | empty => simp [Itv.inter]
  | mk a b =>
    cases Y with
    | empty => simp [Itv.inter]
    | mk c d =>
      simp only [Itv.inter, Itv.mem_ofBounds_iff, Itv.mem_mk, Ext.toE_max, Ext.toE_min, max_le_iff,
        le_min_iff]
      tauto

/-! ### 2. hull -/

theorem Itv.mem_hull_left {x : ℝ} {X Y : Itv} (hx : x ∈ X) : x ∈ Itv.hull X Y := by
  cases X with
  | empty => exact absurd hx (Itv.not_mem_empty x)
  | mk a b =>
    cases Y with
    | empty => exact hx
    | mk c d =>
      simp only [Itv.hull, Itv.mem_mk, Ext.toE_max, Ext.toE_min]
      exact ⟨le_trans (min_le_left _ _) hx.1, le_trans hx.2 (le_max_left _ _)⟩

theorem Itv.mem_hull_right {x : ℝ} {X Y : Itv} (hx : x ∈ Y) : x ∈ Itv.hull X Y := by
  cases Y with
  | empty => exact absurd hx (Itv.not_mem_empty x)
  | mk c d =>
    cases X with
    | empty => exact hx
    | mk a b =>
      simp only [Itv.hull, Itv.mem_mk, Ext.toE_max, Ext.toE_min]
      exact ⟨le_trans (min_le_right _ _) hx.1, le_trans hx.2 (le_max_right _ _)⟩

theorem Itv.hull_least {X Y Z : Itv} (hX : Itv.subset X Z = true) (hY : Itv.subset Y Z = true) :
    Itv.subset (Itv.hull X Y) Z = true := by
  cases X with
  | empty => cases Y <;> simpa [Itv.hull] using hY
  | mk a b =>
    cases Y with
    | empty => simpa [Itv.hull] using hX
    | mk c d =>
      cases Z with
      | empty => simp [Itv.subset] at hX
      | mk e f =>
        simp only [Itv.subset, Itv.hull, Bool.and_eq_true, Ext.le_iff, Ext.toE_min,
          Ext.toE_max] at hX hY ⊢
        exact ⟨le_min hX.1 hY.1, max_le hX.2 hY.2⟩

/-! ### 3. a well-formed non-empty interval contains a real -/

theorem Itv.exists_mem_of_WF {X : Itv} (hX : X.WF = true) (hne : X ≠ .empty) : ∃ x : ℝ, x ∈ X := by
  cases X with
  | empty => exact absurd rfl hne
  | mk a b =>
    obtain ⟨h1, h2, h3⟩ := Itv.WF_mk.1 hX
    exact ereal_exists_mem h1 h2 h3

/-! ### 4. bounds of a well-formed interval, subset

A lower bound of the reals of `[a,b]` is below `a`; a strict one is strictly below `a`, or is `-∞`; the same above. -/

theorem Itv.forall_mem_ge_iff {a b : Ext} (h : (Itv.mk a b).WF = true) {c : EReal} :
    (∀ x : ℝ, x ∈ Itv.mk a b → c ≤ (x : EReal)) ↔ c ≤ a.toE := by
  obtain ⟨hab, -, hb⟩ := Itv.WF_mk.1 h
  refine ⟨fun H => le_of_not_gt fun hac => ?_, fun hc x hx => le_trans hc hx.1⟩
  obtain ⟨x, h1, h2, h3⟩ := ereal_exists_mem_lt hab hb hac
  exact not_le.2 h3 (H x ⟨h1, h2⟩)

theorem Itv.forall_mem_le_iff {a b : Ext} (h : (Itv.mk a b).WF = true) {d : EReal} :
    (∀ x : ℝ, x ∈ Itv.mk a b → (x : EReal) ≤ d) ↔ b.toE ≤ d := by
  obtain ⟨hab, ha, -⟩ := Itv.WF_mk.1 h
  refine ⟨fun H => le_of_not_gt fun hdb => ?_, fun hd x hx => le_trans hx.2 hd⟩
  obtain ⟨x, h1, h2, h3⟩ := ereal_exists_mem_gt hab ha hdb
  exact not_le.2 h3 (H x ⟨h1, h2⟩)

theorem Itv.forall_mem_gt_iff {a b : Ext} (h : (Itv.mk a b).WF = true) {c : EReal} :
    (∀ x : ℝ, x ∈ Itv.mk a b → c < (x : EReal)) ↔ c = ⊥ ∨ c < a.toE := by
  obtain ⟨hab, ha, hb⟩ := Itv.WF_mk.1 h
  refine ⟨fun H => or_iff_not_imp_left.2 fun hc => lt_of_not_ge fun hac => ?_, fun hc x hx => ?_⟩
  · obtain ⟨x, h1, h2, h3⟩ := ereal_exists_mem_le hab ha hb hc hac
    exact not_lt.2 h3 (H x ⟨h1, h2⟩)
  · rcases hc with rfl | hc
    · exact EReal.bot_lt_coe x
    · exact lt_of_lt_of_le hc hx.1

theorem Itv.forall_mem_lt_iff {a b : Ext} (h : (Itv.mk a b).WF = true) {d : EReal} :
    (∀ x : ℝ, x ∈ Itv.mk a b → (x : EReal) < d) ↔ d = ⊤ ∨ b.toE < d := by
  obtain ⟨hab, ha, hb⟩ := Itv.WF_mk.1 h
  refine ⟨fun H => or_iff_not_imp_left.2 fun hd => lt_of_not_ge fun hdb => ?_, fun hd x hx => ?_⟩
  · obtain ⟨x, h1, h2, h3⟩ := ereal_exists_mem_ge hab ha hb hd hdb
    exact not_lt.2 h3 (H x ⟨h1, h2⟩)
  · rcases hd with rfl | hd
    · exact EReal.coe_lt_top x
    · exact lt_of_le_of_lt hx.2 hd

theorem Itv.subset_iff {X Y : Itv} (hX : X.WF = true) :
    Itv.subset X Y = true ↔ ∀ x : ℝ, x ∈ X → x ∈ Y := by
  cases X with
  | empty => exact iff_of_true rfl fun x hx => absurd hx (Itv.not_mem_empty x)
  | mk a b =>
    cases Y with
    | empty =>
      obtain ⟨x, hx⟩ := Itv.exists_mem_of_WF hX (fun e => nomatch e)
      exact iff_of_false (nomatch ·) fun h => Itv.not_mem_empty x (h x hx)
    | mk c d =>
      rw [Itv.subset, Bool.and_eq_true, Ext.le_iff, Ext.le_iff, ← Itv.forall_mem_ge_iff hX,
        ← Itv.forall_mem_le_iff hX]
      exact forall₂_and.symm

theorem Itv.subset_antisymm {X Y : Itv} (h1 : Itv.subset X Y = true) (h2 : Itv.subset Y X = true) : X = Y := by
  cases X with
  | empty => cases Y with
    | empty => rfl
    | mk c d => exact nomatch h2
  | mk a b =>
    cases Y with
    | empty => exact nomatch h1
    | mk c d =>
      simp only [Itv.subset, Bool.and_eq_true, Ext.le_iff] at h1 h2
      rw [Ext.toE_injective (le_antisymm h2.1 h1.1), Ext.toE_injective (le_antisymm h1.2 h2.2)]

/-! ### 5. intersects / isDisjoint -/

theorem Itv.intersects_iff {X Y : Itv} (hX : X.WF = true) (hY : Y.WF = true) :
    Itv.intersects X Y = true ↔ ∃ x : ℝ, x ∈ X ∧ x ∈ Y := by
  cases X with
  | empty => simp [Itv.intersects]
  | mk a b =>
    cases Y with
    | empty => simp [Itv.intersects]
    | mk c d =>
      obtain ⟨hab, ha, hb⟩ := Itv.WF_mk.1 hX
      obtain ⟨hcd, hc, hd⟩ := Itv.WF_mk.1 hY
      simp only [Itv.intersects, Bool.and_eq_true, Ext.le_iff, Itv.mem_mk]
      constructor
      · rintro ⟨had, hcb⟩
        have hle : Max.max a.toE c.toE ≤ Min.min b.toE d.toE :=
          max_le (le_min hab had) (le_min hcb hcd)
        have h1 : Max.max a.toE c.toE ≠ ⊤ := by
          rcases max_choice a.toE c.toE with e | e <;> rw [e] <;> assumption
        have h2 : Min.min b.toE d.toE ≠ ⊥ := by
          rcases min_choice b.toE d.toE with e | e <;> rw [e] <;> assumption
        obtain ⟨x, hx1, hx2⟩ := ereal_exists_mem hle h1 h2
        exact ⟨x, ⟨le_trans (le_max_left _ _) hx1, le_trans hx2 (min_le_left _ _)⟩,
          ⟨le_trans (le_max_right _ _) hx1, le_trans hx2 (min_le_right _ _)⟩⟩
      · rintro ⟨x, ⟨h1, h2⟩, ⟨h3, h4⟩⟩
        exact ⟨le_trans h1 h4, le_trans h3 h2⟩

/-- a common point always forces `intersects` (no well-formedness needed) -/
theorem Itv.intersects_of_mem {x : ℝ} {X Y : Itv} (hx : x ∈ X) (hy : x ∈ Y) :
    Itv.intersects X Y = true :=
  (Itv.intersects_iff (Itv.WF_of_mem hx) (Itv.WF_of_mem hy)).2 ⟨x, hx, hy⟩

theorem Itv.isDisjoint_iff {X Y : Itv} (hX : X.WF = true) (hY : Y.WF = true) :
    Itv.isDisjoint X Y = true ↔ ¬ ∃ x : ℝ, x ∈ X ∧ x ∈ Y := by
  rw [← Itv.intersects_iff hX hY]
  simp [Itv.isDisjoint]


/-! ### 6. overlaps

`Itv.overlaps X Y` tests `Y.lo < X.hi ∧ X.lo < Y.hi` (exactly ibex's `basic_overlaps ≥ 2`).  For a
*degenerate* `X = [p,p]` strictly inside `Y` this is `true` although `X ∩ Y = {p}` has an empty
interior (e.g. `X = [1,1]`, `Y = [0,2]`).  So "the intersection has a non-empty interior" is
equivalent to `overlaps` only for non-degenerate operands (`Itv.overlaps_iff`); the
characterisation valid for all well-formed operands is the second sentence of the ibex
documentation, "some interior point of `X` or of `Y` belongs to the intersection"
(`Itv.overlaps_iff_interior`). -/

/-- `p` is an interior point of `X` (topology of ℝ) -/
def Itv.InteriorMem (p : ℝ) (X : Itv) : Prop := ∃ ε > 0, ∀ t : ℝ, |t - p| < ε → t ∈ X

theorem ereal_nhds_lower {c : EReal} {x : ℝ} (h : c < (x : EReal)) :
    ∃ ε > 0, ∀ t : ℝ, |t - x| < ε → c ≤ (t : EReal) := by
  induction c using EReal.rec with
  | bot => exact ⟨1, one_pos, fun _ _ => bot_le⟩
  | coe r =>
    have hr : r < x := EReal.coe_lt_coe_iff.1 h
    refine ⟨x - r, sub_pos.2 hr, fun t ht => EReal.coe_le_coe_iff.2 ?_⟩
    have := abs_lt.1 ht
    linarith [this.1]
  | top => exact absurd h (not_top_lt)

theorem ereal_nhds_upper {d : EReal} {x : ℝ} (h : (x : EReal) < d) :
    ∃ ε > 0, ∀ t : ℝ, |t - x| < ε → (t : EReal) ≤ d := by
  induction d using EReal.rec with
  | bot => exact absurd h (not_lt_bot)
  | coe r =>
    have hr : x < r := EReal.coe_lt_coe_iff.1 h
    refine ⟨r - x, sub_pos.2 hr, fun t ht => EReal.coe_le_coe_iff.2 ?_⟩
    have := abs_lt.1 ht
    linarith [this.2]
  | top => exact ⟨1, one_pos, fun _ _ => le_top⟩

theorem Itv.interiorMem_mk {p : ℝ} {a b : Ext} :
    Itv.InteriorMem p (Itv.mk a b) ↔ a.toE < (p : EReal) ∧ (p : EReal) < b.toE := by
  constructor
  · rintro ⟨ε, hε, h⟩
    have hh := half_pos hε
    have h1 := h (p - ε / 2) (by rw [sub_sub_cancel_left, abs_neg, abs_of_pos hh]; exact half_lt_self hε)
    have h2 := h (p + ε / 2) (by rw [add_sub_cancel_left, abs_of_pos hh]; exact half_lt_self hε)
    exact ⟨lt_of_le_of_lt h1.1 (EReal.coe_lt_coe_iff.2 (sub_lt_self p hh)),
      lt_of_lt_of_le (EReal.coe_lt_coe_iff.2 (lt_add_of_pos_right p hh)) h2.2⟩
  · rintro ⟨h1, h2⟩
    obtain ⟨e1, he1, H1⟩ := ereal_nhds_lower h1
    obtain ⟨e2, he2, H2⟩ := ereal_nhds_upper h2
    refine ⟨Min.min e1 e2, lt_min he1 he2, fun t ht => ⟨H1 t ?_, H2 t ?_⟩⟩
    · exact lt_of_lt_of_le ht (min_le_left _ _)
    · exact lt_of_lt_of_le ht (min_le_right _ _)

theorem Itv.not_interiorMem_empty {p : ℝ} : ¬ Itv.InteriorMem p Itv.empty := by
  rintro ⟨ε, hε, h⟩
  exact Itv.not_mem_empty p (h p (by simpa using hε))

/-- a common segment of positive length forces `overlaps` (no hypothesis needed) -/
theorem Itv.overlaps_of_segment {X Y : Itv} {u v : ℝ} (huv : u < v)
    (h : ∀ t : ℝ, u ≤ t → t ≤ v → t ∈ X ∧ t ∈ Y) : Itv.overlaps X Y = true := by
  have hu := h u (le_refl _) huv.le
  have hv := h v huv.le (le_refl _)
  have huv' : (u : EReal) < (v : EReal) := EReal.coe_lt_coe_iff.2 huv
  cases X with
  | empty => exact absurd hu.1 (Itv.not_mem_empty u)
  | mk a b =>
    cases Y with
    | empty => exact absurd hu.2 (Itv.not_mem_empty u)
    | mk c d =>
      simp only [Itv.overlaps, Bool.and_eq_true, Ext.lt_iff]
      exact ⟨lt_of_le_of_lt hu.2.1 (lt_of_lt_of_le huv' hv.1.2),
        lt_of_le_of_lt hu.1.1 (lt_of_lt_of_le huv' hv.2.2)⟩

theorem Itv.lt_of_nondeg {a b : Ext} (hX : (Itv.mk a b).WF = true)
    (hd : (Itv.mk a b).isDegenerated = false) : a.toE < b.toE := by
  obtain ⟨hab, -, -⟩ := Itv.WF_mk.1 hX
  refine lt_of_le_of_ne hab fun e => ?_
  have : a = b := Ext.toE_injective e
  simp [Itv.isDegenerated, this] at hd

/-- for non-degenerate well-formed intervals, `overlaps` means that the intersection has a
    non-empty interior.  (False for a degenerate operand, see the section header.) -/
theorem Itv.overlaps_iff {X Y : Itv} (hX : X.WF = true) (hY : Y.WF = true)
    (hXd : X.isDegenerated = false) (hYd : Y.isDegenerated = false) :
    Itv.overlaps X Y = true ↔
      ∃ u v : ℝ, u < v ∧ ∀ t : ℝ, u ≤ t → t ≤ v → t ∈ X ∧ t ∈ Y := by
  constructor
  · intro h
    cases X with
    | empty => simp [Itv.overlaps] at h
    | mk a b =>
      cases Y with
      | empty => simp [Itv.overlaps] at h
      | mk c d =>
        have hab := Itv.lt_of_nondeg hX hXd
        have hcd := Itv.lt_of_nondeg hY hYd
        simp only [Itv.overlaps, Bool.and_eq_true, Ext.lt_iff] at h
        have hlt : Max.max a.toE c.toE < Min.min b.toE d.toE :=
          max_lt (lt_min hab h.2) (lt_min h.1 hcd)
        obtain ⟨u, hu1, hu2⟩ := EReal.lt_iff_exists_real_btwn.1 hlt
        obtain ⟨v, hv1, hv2⟩ := EReal.lt_iff_exists_real_btwn.1 hu2
        refine ⟨u, v, EReal.coe_lt_coe_iff.1 hv1, fun t h1 h2 => ?_⟩
        have h1' : (u : EReal) ≤ (t : EReal) := EReal.coe_le_coe_iff.2 h1
        have h2' : (t : EReal) ≤ (v : EReal) := EReal.coe_le_coe_iff.2 h2
        have lo : Max.max a.toE c.toE ≤ (t : EReal) := le_trans hu1.le h1'
        have hi : (t : EReal) ≤ Min.min b.toE d.toE := le_trans h2' hv2.le
        exact ⟨⟨le_trans (le_max_left _ _) lo, le_trans hi (min_le_left _ _)⟩,
          ⟨le_trans (le_max_right _ _) lo, le_trans hi (min_le_right _ _)⟩⟩
  · rintro ⟨u, v, huv, h⟩
    exact Itv.overlaps_of_segment huv h

/-- the characterisation of `overlaps` valid for all well-formed intervals: some point of the
    intersection is interior to one of the operands -/
theorem Itv.overlaps_iff_interior {X Y : Itv} (hX : X.WF = true) (hY : Y.WF = true) :
    Itv.overlaps X Y = true ↔
      ∃ p : ℝ, p ∈ X ∧ p ∈ Y ∧ (Itv.InteriorMem p X ∨ Itv.InteriorMem p Y) := by
  cases X with
  | empty => simp [Itv.overlaps]
  | mk a b =>
    cases Y with
    | empty => simp [Itv.overlaps]
    | mk c d =>
      obtain ⟨hab, ha, hb⟩ := Itv.WF_mk.1 hX
      obtain ⟨hcd, hc, hd⟩ := Itv.WF_mk.1 hY
      simp only [Itv.overlaps, Bool.and_eq_true, Ext.lt_iff, Itv.interiorMem_mk, Itv.mem_mk]
      constructor
      · rintro ⟨hcb, had⟩
        rcases eq_or_lt_of_le hab with e | hab'
        · -- X = {p}
          have hb' : a.toE ≠ ⊥ := e ▸ hb
          rw [← e] at hcb
          lift a.toE to ℝ using ⟨ha, hb'⟩ with p hp
          rw [← e]
          exact ⟨p, ⟨le_refl _, le_refl _⟩, ⟨hcb.le, had.le⟩, Or.inr ⟨hcb, had⟩⟩
        · rcases eq_or_lt_of_le hcd with e | hcd'
          · have hd' : c.toE ≠ ⊥ := e ▸ hd
            rw [← e] at had
            lift c.toE to ℝ using ⟨hc, hd'⟩ with p hp
            rw [← e]
            exact ⟨p, ⟨had.le, hcb.le⟩, ⟨le_refl _, le_refl _⟩, Or.inl ⟨had, hcb⟩⟩
          · have hlt : Max.max a.toE c.toE < Min.min b.toE d.toE :=
              max_lt (lt_min hab' had) (lt_min hcb hcd')
            obtain ⟨p, hp1, hp2⟩ := EReal.lt_iff_exists_real_btwn.1 hlt
            have h1 := lt_of_le_of_lt (le_max_left _ _) hp1
            have h2 := lt_of_le_of_lt (le_max_right _ _) hp1
            have h3 := lt_of_lt_of_le hp2 (min_le_left _ _)
            have h4 := lt_of_lt_of_le hp2 (min_le_right _ _)
            exact ⟨p, ⟨h1.le, h3.le⟩, ⟨h2.le, h4.le⟩, Or.inl ⟨h1, h3⟩⟩
      · rintro ⟨p, ⟨h1, h2⟩, ⟨h3, h4⟩, (⟨h5, h6⟩ | ⟨h5, h6⟩)⟩
        · exact ⟨lt_of_le_of_lt h3 h6, lt_of_lt_of_le h5 h4⟩
        · exact ⟨lt_of_lt_of_le h5 h2, lt_of_le_of_lt h1 h6⟩

theorem Itv.intersects_of_overlaps {X Y : Itv} (h : Itv.overlaps X Y = true) :
    Itv.intersects X Y = true := by
  cases X with
  | empty => simp [Itv.overlaps] at h
  | mk a b =>
    cases Y with
    | empty => simp [Itv.overlaps] at h
    | mk c d =>
      simp only [Itv.overlaps, Itv.intersects, Bool.and_eq_true, Ext.lt_iff, Ext.le_iff] at h ⊢
      exact ⟨h.2.le, h.1.le⟩

theorem Itv.overlaps_empty_right (X : Itv) : Itv.overlaps X Itv.empty = false := by
  cases X <;> rfl

theorem Itv.overlaps_eq_false_of_inter_empty {X Y : Itv} (hX : X.WF = true) (hY : Y.WF = true)
    (h : Itv.inter X Y = Itv.empty) : Itv.overlaps X Y = false := by
  cases X with
  | empty => rfl
  | mk a b =>
    cases Y with
    | empty => rfl
    | mk c d =>
      rw [← Bool.not_eq_true]
      intro ho
      obtain ⟨hab, ha, hb⟩ := Itv.WF_mk.1 hX
      obtain ⟨hcd, hc, hd⟩ := Itv.WF_mk.1 hY
      simp only [Itv.overlaps, Bool.and_eq_true, Ext.lt_iff] at ho
      have hwf : (Itv.mk (Ext.max a c) (Ext.min b d)).WF = true := by
        rw [Itv.WF_mk, Ext.toE_max, Ext.toE_min]
        refine ⟨max_le (le_min hab ho.2.le) (le_min ho.1.le hcd), ?_, ?_⟩
        · rcases max_choice a.toE c.toE with e | e <;> rw [e] <;> assumption
        · rcases min_choice b.toE d.toE with e | e <;> rw [e] <;> assumption
      simp [Itv.inter, Itv.ofBounds_eq, hwf] at h

/-- if two well-formed intervals overlap (Boolean test) although their intersection is degenerate
    or empty, one of them is degenerate -/
theorem Itv.degenerate_of_overlaps_of_inter_degenerate {X Y : Itv} (hX : X.WF = true)
    (hY : Y.WF = true) (hz : (Itv.inter X Y).isDegenerated = true)
    (ho : Itv.overlaps X Y = true) : X.isDegenerated = true ∨ Y.isDegenerated = true := by
  cases X with
  | empty => exact Or.inl rfl
  | mk a b =>
    cases Y with
    | empty => exact Or.inr rfl
    | mk c d =>
      by_contra hcon
      rw [not_or, Bool.not_eq_true, Bool.not_eq_true] at hcon
      have hab := Itv.lt_of_nondeg hX hcon.1
      have hcd := Itv.lt_of_nondeg hY hcon.2
      obtain ⟨-, ha, hb⟩ := Itv.WF_mk.1 hX
      obtain ⟨-, hc, hd⟩ := Itv.WF_mk.1 hY
      simp only [Itv.overlaps, Bool.and_eq_true, Ext.lt_iff] at ho
      have hlt : Max.max a.toE c.toE < Min.min b.toE d.toE :=
        max_lt (lt_min hab ho.2) (lt_min ho.1 hcd)
      have hwf : (Itv.mk (Ext.max a c) (Ext.min b d)).WF = true := by
        rw [Itv.WF_mk, Ext.toE_max, Ext.toE_min]
        refine ⟨hlt.le, ?_, ?_⟩
        · rcases max_choice a.toE c.toE with e | e <;> rw [e] <;> assumption
        · rcases min_choice b.toE d.toE with e | e <;> rw [e] <;> assumption
      simp only [Itv.inter, Itv.ofBounds_eq, hwf, if_true, Itv.isDegenerated, beq_iff_eq] at hz
      have := congrArg Ext.toE hz
      rw [Ext.toE_max, Ext.toE_min] at this
      exact absurd this (ne_of_lt hlt)

/-! ### 7. strict subset -/

theorem Itv.strictSubset_iff {X Y : Itv} (hX : X.WF = true) (hY : Y.WF = true) :
    Itv.strictSubset X Y = true ↔
      (∀ x : ℝ, x ∈ X → x ∈ Y) ∧ ∃ y : ℝ, y ∈ Y ∧ ¬ y ∈ X := by
  unfold Itv.strictSubset
  rw [Bool.and_eq_true, Itv.subset_iff hX, bne_iff_ne]
  refine and_congr_right fun hs => ⟨fun hne => ?_, fun ⟨y, hy, hn⟩ e => hn (e ▸ hy)⟩
  -- otherwise `Y ⊆ X` as well
  by_contra hcon
  exact hne (Itv.subset_antisymm ((Itv.subset_iff hX).2 hs)
    ((Itv.subset_iff hY).2 fun y hy => by_contra fun hn => hcon ⟨y, hy, hn⟩))

/-! ### 8. interior subset -/

theorem Itv.interiorSubset_iff {X Y : Itv} (hX : X.WF = true) :
    Itv.interiorSubset X Y = true ↔
      ∀ x : ℝ, x ∈ X → ∃ ε > 0, ∀ t : ℝ, |t - x| < ε → t ∈ Y := by
  cases X with
  | empty => exact iff_of_true rfl fun x hx => absurd hx (Itv.not_mem_empty x)
  | mk a b =>
    cases Y with
    | empty =>
      obtain ⟨x, hx⟩ := Itv.exists_mem_of_WF hX (fun e => nomatch e)
      exact iff_of_false (nomatch ·) fun h => Itv.not_interiorMem_empty (h x hx)
    | mk c d =>
      -- the test is `(c = -∞ ∨ c < a) ∧ (d = +∞ ∨ b < d)`: `c` is a strict lower bound and `d` a strict upper bound
      -- of the reals of `[a,b]`, that is, every real of `[a,b]` is interior to `[c,d]`
      have test : Itv.interiorSubset (Itv.mk a b) (Itv.mk c d) = true ↔
          (c.toE = ⊥ ∨ c.toE < a.toE) ∧ (d.toE = ⊤ ∨ b.toE < d.toE) := by
        simp only [Itv.interiorSubset, Bool.and_eq_true, Bool.or_eq_true, beq_iff_eq, Ext.lt_iff, Ext.toE_eq_bot,
          Ext.toE_eq_top]
      rw [test, ← Itv.forall_mem_gt_iff hX, ← Itv.forall_mem_lt_iff hX, ← forall₂_and]
      exact forall₂_congr fun x _ => Itv.interiorMem_mk.symm

/-! ### 9. complementary -/

theorem Ext.lt_self (a : Ext) : Ext.lt a a = false := by
  rw [← Bool.not_eq_true, Ext.lt_iff]; exact _root_.lt_irrefl _

theorem Itv.compl_cover {x : ℝ} {X : Itv} (hx : ¬ x ∈ X) :
    ∃ c ∈ Itv.complementary X, x ∈ c := by
  cases X with
  | empty =>
    refine ⟨Itv.mk .ninf .pinf, by simp [Itv.complementary, Itv.all], ?_⟩
    exact ⟨bot_le, le_top⟩
  | mk a b =>
    rw [Itv.mem_mk, not_and_or, not_le, not_le] at hx
    rcases hx with h | h
    · have ha : a ≠ .ninf := by rintro rfl; exact not_lt_bot h
      refine ⟨Itv.mk .ninf a, ?_, ⟨bot_le, h.le⟩⟩
      simp [Itv.complementary, ha]
    · have hb : b ≠ .pinf := by rintro rfl; exact not_top_lt h
      refine ⟨Itv.mk b .pinf, ?_, ⟨h.le, le_top⟩⟩
      simp [Itv.complementary, hb]

theorem Itv.compl_no_overlap {c X : Itv} (hc : c ∈ Itv.complementary X) :
    Itv.overlaps c X = false := by
  cases X with
  | empty =>
    cases c <;> rfl
  | mk a b =>
    simp only [Itv.complementary, List.mem_append] at hc
    rcases hc with hc | hc
    · split at hc
      · rw [List.mem_singleton] at hc; subst hc
        simp [Itv.overlaps, Ext.lt_self]
      · simp at hc
    · split at hc
      · rw [List.mem_singleton] at hc; subst hc
        simp [Itv.overlaps, Ext.lt_self]
      · simp at hc

/-! ### 10. difference -/

theorem Itv.mem_diff_mk_empty {c' : Itv} {a b : Ext} :
    c' ∈ Itv.diff (Itv.mk a b) Itv.empty ↔ c' = Itv.mk a b := by
  by_cases hab : a = b <;> simp [Itv.diff, Itv.containsExt, hab]

theorem Itv.mem_diff_mk_mk {c' : Itv} {a b c d : Ext} :
    c' ∈ Itv.diff (Itv.mk a b) (Itv.mk c d) ↔
      (a = b ∧ Itv.containsExt (Itv.mk c d) a = false ∧ c' = Itv.mk a b) ∨
      (a ≠ b ∧ c = d ∧ c' = Itv.mk a b) ∨
      (a ≠ b ∧ c ≠ d ∧ ((Ext.lt a c = true ∧ c' = Itv.mk a (Ext.min b c)) ∨
                         (Ext.lt d b = true ∧ c' = Itv.mk (Ext.max a d) b))) := by
  by_cases hab : a = b
  · subst hab
    cases hk : Itv.containsExt (Itv.mk c d) a <;> simp [Itv.diff, hk]
  · by_cases hcd : c = d
    · simp [Itv.diff, hab, hcd]
    · by_cases h1 : Ext.lt a c = true <;> by_cases h2 : Ext.lt d b = true <;>
        simp [Itv.diff, hab, hcd, h1, h2]

theorem Itv.diff_subset {x : ℝ} {c X Y : Itv} (hc : c ∈ Itv.diff X Y) (hx : x ∈ c) : x ∈ X := by
  cases X with
  | empty => simp [Itv.diff] at hc
  | mk a b =>
    cases Y with
    | empty => rw [Itv.mem_diff_mk_empty] at hc; exact hc ▸ hx
    | mk c' d =>
      rw [Itv.mem_diff_mk_mk] at hc
      rcases hc with ⟨-, -, e⟩ | ⟨-, -, e⟩ | ⟨-, -, ⟨-, e⟩ | ⟨-, e⟩⟩
      · exact e ▸ hx
      · exact e ▸ hx
      · subst e
        rw [Itv.mem_mk, Ext.toE_min] at hx
        exact ⟨hx.1, le_trans hx.2 (min_le_left _ _)⟩
      · subst e
        rw [Itv.mem_mk, Ext.toE_max] at hx
        exact ⟨le_trans (le_max_left _ _) hx.1, hx.2⟩

theorem Itv.diff_cover {x : ℝ} {X Y : Itv} (hx : x ∈ X) (hy : ¬ x ∈ Y) :
    ∃ c ∈ Itv.diff X Y, x ∈ c := by
  cases X with
  | empty => exact absurd hx (Itv.not_mem_empty x)
  | mk a b =>
    cases Y with
    | empty => exact ⟨Itv.mk a b, Itv.mem_diff_mk_empty.2 rfl, hx⟩
    | mk c d =>
      by_cases hab : a = b
      · refine ⟨Itv.mk a b, Itv.mem_diff_mk_mk.2 (Or.inl ⟨hab, ?_, rfl⟩), hx⟩
        subst hab
        have e : a.toE = (x : EReal) := le_antisymm hx.1 hx.2
        rw [← Bool.not_eq_true]
        simp only [Itv.containsExt, Bool.and_eq_true, Ext.le_iff, e]
        exact hy
      · by_cases hcd : c = d
        · exact ⟨Itv.mk a b, Itv.mem_diff_mk_mk.2 (Or.inr (Or.inl ⟨hab, hcd, rfl⟩)), hx⟩
        · rw [Itv.mem_mk, not_and_or, not_le, not_le] at hy
          rcases hy with h | h
          · refine ⟨Itv.mk a (Ext.min b c), Itv.mem_diff_mk_mk.2
              (Or.inr (Or.inr ⟨hab, hcd, Or.inl ⟨?_, rfl⟩⟩)), ?_⟩
            · rw [Ext.lt_iff]; exact lt_of_le_of_lt hx.1 h
            · rw [Itv.mem_mk, Ext.toE_min]; exact ⟨hx.1, le_min hx.2 h.le⟩
          · refine ⟨Itv.mk (Ext.max a d) b, Itv.mem_diff_mk_mk.2
              (Or.inr (Or.inr ⟨hab, hcd, Or.inr ⟨?_, rfl⟩⟩)), ?_⟩
            · rw [Ext.lt_iff]; exact lt_of_lt_of_le h hx.2
            · rw [Itv.mem_mk, Ext.toE_max]; exact ⟨max_le hx.1 h.le, hx.2⟩

/-- Semantic non-overlap: a piece of `X \ Y` and `Y` share no segment of positive length
    (no hypothesis needed). -/
theorem Itv.diff_no_common_segment {c X Y : Itv} (hc : c ∈ Itv.diff X Y) {u v : ℝ} (huv : u < v)
    (h : ∀ t : ℝ, u ≤ t → t ≤ v → t ∈ c ∧ t ∈ Y) : False := by
  have hu := h u (le_refl _) huv.le
  have hv := h v huv.le (le_refl _)
  have huv' : (u : EReal) < (v : EReal) := EReal.coe_lt_coe_iff.2 huv
  cases X with
  | empty => simp [Itv.diff] at hc
  | mk a b =>
    cases Y with
    | empty => exact Itv.not_mem_empty u hu.2
    | mk c' d =>
      rw [Itv.mem_diff_mk_mk] at hc
      rcases hc with ⟨e1, -, e⟩ | ⟨-, e1, e⟩ | ⟨-, -, ⟨-, e⟩ | ⟨-, e⟩⟩
      · subst e; subst e1
        exact absurd (lt_of_le_of_lt hu.1.1 (lt_of_lt_of_le huv' hv.1.2)) (lt_irrefl _)
      · subst e1
        exact absurd (lt_of_le_of_lt hu.2.1 (lt_of_lt_of_le huv' hv.2.2)) (lt_irrefl _)
      · subst e
        have h1 := hv.1.2
        rw [Ext.toE_min] at h1
        exact absurd (lt_of_le_of_lt hu.2.1 (lt_of_lt_of_le huv' (le_trans h1 (min_le_right _ _))))
          (lt_irrefl _)
      · subst e
        have h1 := hu.1.1
        rw [Ext.toE_max] at h1
        exact absurd (lt_of_le_of_lt (le_trans (le_max_right _ _) h1) (lt_of_lt_of_le huv' hv.2.2))
          (lt_irrefl _)

/-- Boolean non-overlap.  The hypothesis excludes the only failing configuration, a degenerate
    `Y = [q,q]` strictly inside a non-degenerate `X` (there `diff X Y = [X]` by the compactness
    convention and `overlaps X Y = true`, see section 6). -/
theorem Itv.diff_no_overlap {c X Y : Itv} (hc : c ∈ Itv.diff X Y)
    (hY : ∀ q : Ext, Y = Itv.mk q q → X.isDegenerated = true) : Itv.overlaps c Y = false := by
  cases X with
  | empty => simp [Itv.diff] at hc
  | mk a b =>
    cases Y with
    | empty => cases c <;> rfl
    | mk c' d =>
      rw [Itv.mem_diff_mk_mk] at hc
      rw [← Bool.not_eq_true]
      rcases hc with ⟨e1, hk, e⟩ | ⟨hab, e1, -⟩ | ⟨-, -, ⟨-, e⟩ | ⟨-, e⟩⟩
      · subst e; subst e1
        rw [← Bool.not_eq_true] at hk
        simp only [Itv.containsExt, Itv.overlaps, Bool.and_eq_true, Ext.le_iff, Ext.lt_iff] at hk ⊢
        exact fun h => hk ⟨h.1.le, h.2.le⟩
      · exfalso
        have := hY c' (by rw [e1])
        simp [Itv.isDegenerated, hab] at this
      · subst e
        simp only [Itv.overlaps, Bool.and_eq_true, Ext.lt_iff, Ext.toE_min]
        exact fun h => absurd (lt_of_lt_of_le h.1 (min_le_right _ _)) (lt_irrefl _)
      · subst e
        simp only [Itv.overlaps, Bool.and_eq_true, Ext.lt_iff, Ext.toE_max]
        exact fun h => absurd (lt_of_le_of_lt (le_max_right _ _) h.2) (lt_irrefl _)

/-! ### 11. bisection certificate -/

theorem Itv.cut_spec {a b p : Ext} (h1 : a.toE ≤ p.toE) (h2 : p.toE ≤ b.toE) (hp : p.isFin = true) :
    (∀ v : ℝ, v ∈ Itv.mk a b → v ∈ Itv.mk a p ∨ v ∈ Itv.mk p b) ∧
    (∀ v : ℝ, v ∈ Itv.mk a p → v ∈ Itv.mk a b) ∧ (∀ v : ℝ, v ∈ Itv.mk p b → v ∈ Itv.mk a b) ∧
    (∃ v : ℝ, v ∈ Itv.mk a p) ∧ ∃ v : ℝ, v ∈ Itv.mk p b := by
  obtain ⟨t, ht⟩ : ∃ t : ℝ, p.toE = (t : EReal) := by
    cases p with
    | fin q => exact ⟨q, rfl⟩
    | ninf => exact nomatch hp
    | pinf => exact nomatch hp
  exact ⟨fun v hv => (le_total (v : EReal) p.toE).imp (fun h => ⟨hv.1, h⟩) fun h => ⟨h, hv.2⟩,
    fun v hv => ⟨hv.1, le_trans hv.2 h2⟩, fun v hv => ⟨le_trans h1 hv.1, hv.2⟩,
    ⟨t, ht ▸ h1, ht.ge⟩, ⟨t, ht.le, ht ▸ h2⟩⟩

theorem Itv.bisectOk_sound {X L R : Itv} (h : Box.bisectOk X L R = true) :
    (∀ x : ℝ, x ∈ X ↔ (x ∈ L ∨ x ∈ R)) ∧
    (∃ p : ℝ, ∀ x : ℝ, (x ∈ L ∧ x ∈ R) ↔ x = p) ∧
    Itv.strictSubset L X = true ∧ Itv.strictSubset R X = true := by
  cases X with
  | empty => simp [Box.bisectOk] at h
  | mk a b =>
    cases L with
    | empty => simp [Box.bisectOk] at h
    | mk la lb =>
      cases R with
      | empty => simp [Box.bisectOk] at h
      | mk ra rb =>
        simp only [Box.bisectOk, Bool.and_eq_true, beq_iff_eq, Ext.lt_iff] at h
        obtain ⟨⟨⟨⟨⟨e1, e2⟩, e3⟩, h1⟩, h2⟩, hf⟩ := h
        subst e1; subst e2; subst e3
        cases lb with
        | ninf => simp [Ext.isFin] at hf
        | pinf => simp [Ext.isFin] at hf
        | fin q =>
          simp only [Ext.toE_fin] at h1 h2
          refine ⟨fun x => ?_, ⟨(q : ℝ), fun x => ?_⟩, ?_, ?_⟩
          · obtain ⟨c, hl, hr, -⟩ := Itv.cut_spec (p := .fin q) h1.le h2.le rfl
            exact ⟨c x, fun h => h.elim (hl x) (hr x)⟩
          · simp only [Itv.mem_mk, Ext.toE_fin]
            constructor
            · rintro ⟨⟨-, hx2⟩, ⟨hx3, -⟩⟩
              exact EReal.coe_eq_coe_iff.1 (le_antisymm hx2 hx3)
            · rintro rfl
              exact ⟨⟨h1.le, le_refl _⟩, ⟨le_refl _, h2.le⟩⟩
          · simp only [Itv.strictSubset, Itv.subset, Bool.and_eq_true, Ext.le_iff, bne_iff_ne,
              Ext.toE_fin]
            refine ⟨⟨le_refl _, h2.le⟩, fun e => ?_⟩
            injection e with _ e2
            rw [← e2] at h2
            exact lt_irrefl _ h2
          · simp only [Itv.strictSubset, Itv.subset, Bool.and_eq_true, Ext.le_iff, bne_iff_ne,
              Ext.toE_fin]
            refine ⟨⟨h1.le, le_refl _⟩, fun e => ?_⟩
            injection e with e1 _
            rw [← e1] at h1
            exact lt_irrefl _ h1

end Ibex
