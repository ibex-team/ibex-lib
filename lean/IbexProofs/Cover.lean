/-
  Soundness of the branch-and-contract cover certificate (`IbexModel/Cover.lean`): the replay state machine
  keeps an invariant (`Inv`), by induction over the event list (no bound on the log).
-/
import IbexProofs.SetAlg
import Mathlib.Data.Set.Defs

namespace Ibex.Cover
open Ibex

theorem foldlM_except_inv {σ ε α : Type} {f : σ → α → Except ε σ} {I : σ → Prop} {Q : α → Prop}
    (hstep : ∀ s a s', I s → Q a → f s a = .ok s' → I s') :
    ∀ (l : List α) {s s' : σ}, I s → (∀ a ∈ l, Q a) → l.foldlM f s = .ok s' → I s'
  | [], _, _, hI, _, h => by cases h; exact hI
  | a :: l, s, _, hI, hQ, h => by
    rw [List.foldlM_cons] at h
    cases hs : f s a with
    | error m => rw [hs] at h; cases h
    | ok s1 =>
      rw [hs] at h
      exact foldlM_except_inv hstep l (hstep s a s1 hI (hQ a List.mem_cons_self) hs)
        (fun b hb => hQ b (List.mem_cons_of_mem _ hb)) h

/-! ### the Boolean rules -/

theorem sameBox_mem {a b : Box} (h : sameBox a b = true) {p : List ℝ} : Box.Mem p a ↔ Box.Mem p b := by
  simp only [sameBox, Bool.or_eq_true, Bool.and_eq_true] at h
  rcases h with ⟨ha, hb⟩ | h
  · exact ⟨fun hp => absurd hp (Box.not_mem_of_isEmpty ha), fun hp => absurd hp (Box.not_mem_of_isEmpty hb)⟩
  · rw [show a = b by simpa using h]

theorem sameBox_sound {a b : Box} (h : sameBox a b = true) {p : List ℝ} (hp : Box.Mem p b) :
    Box.Mem p a := (sameBox_mem h).2 hp

theorem sameBox_sound' {a b : Box} (h : sameBox a b = true) {p : List ℝ} (hp : Box.Mem p a) :
    Box.Mem p b := (sameBox_mem h).1 hp

theorem _root_.Ibex.OptCover.removeFirst_perm {pr : Box → Bool} : ∀ {l l' : List Box},
    OptCover.removeFirst pr l = some l' → ∃ e, pr e = true ∧ List.Perm l (e :: l')
  | [], _, h => by simp [OptCover.removeFirst] at h
  | y :: ys, l', h => by
    simp only [OptCover.removeFirst] at h
    split_ifs at h with hy
    · cases h
      exact ⟨y, hy, List.Perm.refl _⟩
    · obtain ⟨r, hr, rfl⟩ := Option.map_eq_some_iff.1 h
      obtain ⟨e, he, hp⟩ := OptCover.removeFirst_perm hr
      exact ⟨e, he, (hp.cons y).trans (List.Perm.swap e y r)⟩

theorem removeOne_eq (b : Box) : ∀ l : List Box, removeOne b l = OptCover.removeFirst (· == b) l
  | [] => rfl
  | x :: xs => by simp only [removeOne, OptCover.removeFirst, removeOne_eq b xs]

theorem removeOne_perm {b : Box} : ∀ {l l' : List Box}, removeOne b l = some l' →
    List.Perm l (b :: l') := by
  intro l l' h
  obtain ⟨e, he, hp⟩ := OptCover.removeFirst_perm (removeOne_eq b l ▸ h)
  exact (show e = b by simpa using he) ▸ hp

theorem mem_of_removeOne {b : Box} {l l' : List Box} (h : removeOne b l = some l') :
    ∀ x ∈ l, x = b ∨ x ∈ l' :=
  fun _ hx => List.mem_cons.1 ((removeOne_perm h).mem_iff.1 hx)

theorem removeOne_erase {b : Box} : ∀ {l : List Box}, b ∈ l → removeOne b l = some (l.erase b)
  | [], h => by cases h
  | x :: xs, h => by
    unfold removeOne
    by_cases hx : x = b
    · subst hx; simp
    · have hb : b ∈ xs := by
        rcases List.mem_cons.1 h with h | h
        · exact absurd h.symm hx
        · exact h
      have hne : (x == b) = false := by simpa using hx
      simp only [hne, Bool.false_eq_true, if_false, removeOne_erase hb, Option.map_some]
      rw [List.erase_cons_tail (by simpa using hx)]

theorem sameBox_refl (a : Box) : sameBox a a = true := by simp [sameBox]

theorem _root_.Ibex.Box.all2_subset_refl : ∀ b : Box, Box.all2 Itv.subset b b = true
  | [] => rfl
  | x :: xs => by
    have hx : Itv.subset x x = true := by cases x <;> simp [Itv.subset, Ext.le_iff]
    simp [Box.all2, hx, Box.all2_subset_refl xs]

theorem _root_.Ibex.Box.subset_refl (b : Box) : Box.subset b b = true := by
  unfold Box.subset
  cases h : Box.isEmpty b <;> simp [Box.all2_subset_refl]

theorem storedOk_of_mem {pv : Paving} {b : Box} (h : b ∈ pv.boxes) : storedOk pv b = true := by
  unfold storedOk
  rw [Bool.or_eq_true, List.any_eq_true]
  exact Or.inl ⟨b, h, Box.subset_refl b⟩

theorem mem_of_coord {p : List ℝ} {c l : Box} (hp : Box.Mem p c) (hl : c.length = l.length) {i : Nat}
    {t : ℝ} {I : Itv} (ht : p[i]? = some t) (hI : l[i]? = some I) (hti : t ∈ I)
    (hoth : ∀ j, j < c.length → j ≠ i →
      ∃ cj lj, c[j]? = some cj ∧ l[j]? = some lj ∧ Itv.subset cj lj = true) : Box.Mem p l := by
  rw [Box.mem_iff] at hp ⊢
  obtain ⟨hpl, hpc⟩ := hp
  refine ⟨hpl.trans hl, fun j t' I' h1 h2 => ?_⟩
  by_cases e : j = i
  · subst e
    rw [ht] at h1
    rw [hI] at h2
    cases h1; cases h2
    exact hti
  · have hj : j < c.length := by
      rw [← hpl]; exact (List.getElem?_eq_some_iff.1 h1).1
    obtain ⟨cj, lj, h3, h4, h5⟩ := hoth j hj e
    rw [h4] at h2
    cases h2
    exact Itv.mem_of_subset h5 (hpc j t' cj h1 h3)

theorem split2Ok_sound {c l r : Box} (h : split2Ok c l r = true) {p : List ℝ} (hp : Box.Mem p c) :
    Box.Mem p l ∨ Box.Mem p r := by
  simp only [split2Ok, Bool.or_eq_true, Bool.and_eq_true] at h
  rcases h with (h | h) | ⟨⟨hcl, hcr⟩, h⟩
  · exact Or.inl (Box.subset_sound h hp)
  · exact Or.inr (Box.subset_sound h hp)
  · have hcl : c.length = l.length := by simpa using hcl
    have hcr : c.length = r.length := by simpa using hcr
    obtain ⟨i, hi, h⟩ := List.any_eq_true.1 h
    have hic : i < c.length := List.mem_range.1 hi
    split at h
    · rename_i ca cb la lb ra rb hci hli hri
      simp only [Bool.and_eq_true, Bool.or_eq_true, List.all_eq_true, List.mem_range,
        Ext.le_iff] at h
      obtain ⟨hoth, hcov⟩ := h
      -- the other coordinates of `c` are inside those of both children
      have hoth2 : ∀ j, j < c.length → j ≠ i → ∃ cj lj rj, c[j]? = some cj ∧ l[j]? = some lj ∧
          r[j]? = some rj ∧ Itv.subset cj lj = true ∧ Itv.subset cj rj = true := by
        intro j hj hne
        rcases hoth j hj with this | this
        · exact absurd (by simpa using this) hne
        · split at this
          · rename_i cj lj rj h1 h2 h3
            simp only [Bool.and_eq_true] at this
            exact ⟨cj, lj, rj, h1, h2, h3, this⟩
          · exact absurd this Bool.false_ne_true
      -- the coordinate of p along i
      have hpl := hp.length_eq
      obtain ⟨t, ht⟩ : ∃ t, p[i]? = some t :=
        ⟨p[i]'(by omega), List.getElem?_eq_getElem (by omega)⟩
      obtain ⟨htl, htu⟩ : t ∈ Itv.mk ca cb := (Box.mem_iff.1 hp).2 i t _ ht hci
      have inL : la.toE ≤ (t : EReal) → (t : EReal) ≤ lb.toE → Box.Mem p l := fun h1 h2 =>
        mem_of_coord hp hcl ht hli ⟨h1, h2⟩ fun j hj hne =>
          let ⟨cj, lj, _, e1, e2, _, s1, _⟩ := hoth2 j hj hne
          ⟨cj, lj, e1, e2, s1⟩
      have inR : ra.toE ≤ (t : EReal) → (t : EReal) ≤ rb.toE → Box.Mem p r := fun h1 h2 =>
        mem_of_coord hp hcr ht hri ⟨h1, h2⟩ fun j hj hne =>
          let ⟨cj, _, rj, e1, _, e3, _, s2⟩ := hoth2 j hj hne
          ⟨cj, rj, e1, e3, s2⟩
      rcases hcov with ⟨⟨h1, h2⟩, h3⟩ | ⟨⟨h1, h2⟩, h3⟩
      · by_cases hle : (t : EReal) ≤ lb.toE
        · exact Or.inl (inL (le_trans h1 htl) hle)
        · exact Or.inr (inR (le_trans h3 (le_of_lt (not_le.1 hle))) (le_trans htu h2))
      · by_cases hle : (t : EReal) ≤ rb.toE
        · exact Or.inr (inR (le_trans h1 htl) hle)
        · exact Or.inl (inL (le_trans h3 (le_of_lt (not_le.1 hle))) (le_trans htu h2))
    · exact absurd h Bool.false_ne_true

theorem storedOk_sound {pv : Paving} {c : Box} (h : storedOk pv c = true) {p : List ℝ}
    (hp : Box.Mem p c) :
    (∃ b ∈ pv.boxes, Box.Mem p b) ∨ (∃ eu ∈ pv.unicity, Box.Mem p eu.2.1) := by
  simp only [storedOk, Bool.or_eq_true, List.any_eq_true] at h
  rcases h with ⟨s, hs, h⟩ | ⟨eu, heu, h⟩
  · exact Or.inl ⟨s, hs, Box.subset_sound h hp⟩
  · exact Or.inr ⟨eu, heu, Box.subset_sound h hp⟩

/-! ### the invariant of the replay -/

def InPaving (pv : Paving) (p : List ℝ) : Prop := ∃ b ∈ pv.boxes, Box.Mem p b

structure Hyp (Sol : Set (List ℝ)) (cert : Box → Box × Box × List Nat → Bool) (pv : Paving) : Prop where
  /-- soundness of the replacement certificate -/
  cert : ∀ c eu, cert c eu = true → eu ∈ pv.unicity → ∀ p ∈ Sol, Box.Mem p c → Box.Mem p eu.1
  /-- a solution inside a unicity box is inside its existence box -/
  uni : ∀ eu ∈ pv.unicity, ∀ p ∈ Sol, Box.Mem p eu.2.1 → Box.Mem p eu.1
  /-- existence boxes are part of the paving -/
  ex : ∀ eu ∈ pv.unicity, eu.1 ∈ pv.boxes

/-- **Invariant** of the replay, for the state reached after a prefix of the log.
    `cov`: every solution of the root box is in a box of the final paving, in a box of the buffer, or
    in the popped cell whose obligation is pending (the children pushed since, `kids`, do not count
    before `discharge`).
    `top`: while a cell is being processed (between `top` and `pop`), no obligation is pending and
    the current box keeps every solution of the topped box. -/
structure Inv (Sol : Set (List ℝ)) (pv : Paving) (root : Box) (s : St) : Prop where
  cov : ∀ p ∈ Sol, Box.Mem p root →
    InPaving pv p ∨ (∃ b ∈ s.openB, Box.Mem p b) ∨ (∃ c, s.popped = some c ∧ Box.Mem p c)
  top : ∀ t, s.topped = some t →
    s.popped = none ∧ ∀ c, s.cur = some c → ∀ p ∈ Sol, Box.Mem p t → Box.Mem p c

variable {Sol : Set (List ℝ)} {cert : Box → Box × Box × List Nat → Bool} {pv : Paving} {root : Box}

theorem inPaving_of_storedOk (H : Hyp Sol cert pv) {c : Box} (h : storedOk pv c = true)
    {p : List ℝ} (hs : p ∈ Sol) (hp : Box.Mem p c) : InPaving pv p := by
  rcases storedOk_sound h hp with h | ⟨eu, heu, h⟩
  · exact h
  · exact ⟨eu.1, H.ex eu heu, H.uni eu heu p hs h⟩

theorem Inv.discharged {s s' : St} (hI : Inv Sol pv root s) (hpop : s'.popped = none)
    (htop : s'.topped = s.topped) (hcur : s'.cur = s.cur) (hopen : ∀ b ∈ s.openB, b ∈ s'.openB)
    (hc : ∀ c, s.popped = some c → ∀ p ∈ Sol, Box.Mem p c → InPaving pv p ∨ ∃ b ∈ s'.openB, Box.Mem p b) :
    Inv Sol pv root s' := by
  refine ⟨fun p hs hp => ?_, fun t ht => ⟨hpop, ?_⟩⟩
  · rcases hI.cov p hs hp with h | ⟨b, hb, h⟩ | ⟨c, hpc, h⟩
    · exact Or.inl h
    · exact Or.inr (Or.inl ⟨b, hopen b hb, h⟩)
    · exact (hc c hpc p hs h).imp_right Or.inl
  · rw [hcur]
    exact (hI.top t (htop ▸ ht)).2

theorem discharge_inv (H : Hyp Sol cert pv) {s s' : St} (hI : Inv Sol pv root s)
    (h : discharge cert pv s = .ok s') : Inv Sol pv root s' ∧ s'.popped = none := by
  unfold discharge at h
  cases hpop : s.popped with
  | none =>
    rw [hpop] at h
    cases h
    exact ⟨hI.discharged rfl rfl rfl (fun b hb => List.mem_append_right _ hb)
      (fun c hc => by rw [hpop] at hc; cases hc), rfl⟩
  | some c =>
    rw [hpop] at h
    dsimp only at h
    -- in every accepted case: what to show of the popped cell `c`
    have key : ∀ s' : St, s'.popped = none → s'.topped = s.topped → s'.cur = s.cur →
        (∀ b ∈ s.openB, b ∈ s'.openB) →
        (∀ p ∈ Sol, Box.Mem p c → InPaving pv p ∨ ∃ b ∈ s'.openB, Box.Mem p b) →
        Inv Sol pv root s' ∧ s'.popped = none := fun s' h1 h2 h3 h4 h5 =>
      ⟨hI.discharged h1 h2 h3 h4 (fun c' hc' => by rw [hpop] at hc'; cases hc'; exact h5), h1⟩
    by_cases hce : Box.isEmpty c = true
    · -- emptied cell
      rw [if_pos hce] at h
      split at h
      · cases h
        exact key _ rfl rfl rfl (fun _ hb => hb) (fun p _ hp => absurd hp (Box.not_mem_of_isEmpty hce))
      · cases h
    · rw [if_neg hce] at h
      rcases hk : s.kids with _ | ⟨a, _ | ⟨b, _ | _⟩⟩ <;> rw [hk] at h <;> dsimp only at h
      · -- no child: stored, or certified
        by_cases hst : storedOk pv c = true
        · rw [if_pos hst] at h
          cases h
          exact key _ rfl rfl rfl (fun _ hb => hb) (fun p hs hp => Or.inl (inPaving_of_storedOk H hst hs hp))
        · rw [if_neg hst] at h
          by_cases hcert : (pv.unicity.any fun eu => cert c eu) = true
          · rw [if_pos hcert] at h
            cases h
            obtain ⟨eu, heu, hc⟩ := List.any_eq_true.1 hcert
            exact key _ rfl rfl rfl (fun _ hb => hb)
              (fun p hs hp => Or.inl ⟨eu.1, H.ex eu heu, H.cert c eu hc heu p hs hp⟩)
          · rw [if_neg hcert] at h
            split at h
            · cases h
            · split at h <;> cases h
      · cases h
      · -- two children
        by_cases hsp : split2Ok c a b = true
        · rw [if_pos hsp] at h
          cases h
          refine key _ rfl rfl rfl (fun x hx => List.mem_cons_of_mem _ (List.mem_cons_of_mem _ hx))
            (fun p _ hp => Or.inr ?_)
          rcases split2Ok_sound hsp hp with h | h
          · exact ⟨a, List.mem_cons_self, h⟩
          · exact ⟨b, List.mem_cons_of_mem _ List.mem_cons_self, h⟩
        · rw [if_neg hsp] at h
          cases h
      · cases h

theorem step_inv (H : Hyp Sol cert pv) {s s' : St} {e : Ev} (hI : Inv Sol pv root s)
    (hleaf : ∀ i o, e = Ev.ctc i o → ∀ p ∈ Sol, Box.Mem p i → Box.Mem p o)
    (h : step cert pv s e = .ok s') : Inv Sol pv root s' := by
  cases e with
  | push b =>
    simp only [step] at h
    split at h
    · cases h
    · split at h
      · cases h
        exact ⟨hI.cov, hI.top⟩
      · rename_i hpop
        cases h
        exact hI.discharged hpop rfl rfl (fun x hx => List.mem_cons_of_mem _ hx)
          (fun c hc => by rw [hpop] at hc; cases hc)
  | top b =>
    simp only [step, bind, Except.bind] at h
    cases hd : discharge cert pv s with
    | error m => rw [hd] at h; cases h
    | ok s1 =>
      rw [hd] at h
      obtain ⟨hI1, hp1⟩ := discharge_inv H hI hd
      simp only at h
      split at h
      · cases h
        refine ⟨hI1.cov, fun t ht => ⟨hp1, fun c hc p _ hp => ?_⟩⟩
        cases ht; cases hc
        exact hp
      · cases h
  | ctc i o =>
    simp only [step] at h
    split at h
    · rename_i c hc
      split at h
      · rename_i hsame
        split at h
        · cases h
          refine ⟨hI.cov, fun t ht => ⟨(hI.top t ht).1, fun c' hc' p hs hp => ?_⟩⟩
          cases hc'
          exact hleaf i _ rfl p hs (sameBox_sound hsame ((hI.top t ht).2 c hc p hs hp))
        · cases h
      · cases h
        exact hI
    · cases h
      exact hI
  | pop b =>
    simp only [step] at h
    split at h
    · rename_i t c ht hc
      split at h
      · cases h
      · rename_i hsame
        have hsame : sameBox b c = true := by simpa using hsame
        split at h
        · rename_i rest hrem
          cases h
          refine ⟨fun p hs hp => ?_, fun t' ht' => by cases ht'⟩
          rcases hI.cov p hs hp with h | ⟨x, hx, h⟩ | ⟨c', hc', -⟩
          · exact Or.inl h
          · rcases mem_of_removeOne hrem x hx with rfl | hx'
            · exact Or.inr (Or.inr ⟨b, rfl, sameBox_sound hsame ((hI.top x ht).2 c hc p hs h)⟩)
            · exact Or.inr (Or.inl ⟨x, hx', h⟩)
          · rw [(hI.top t ht).1] at hc'; cases hc'
        · cases h
    · cases h
  | flush => exact (discharge_inv H hI h).1

theorem foldlM_inv (H : Hyp Sol cert pv) (log : List Ev) {s s' : St} (hI : Inv Sol pv root s)
    (hleaf : ∀ i o, Ev.ctc i o ∈ log → ∀ p ∈ Sol, Box.Mem p i → Box.Mem p o)
    (h : log.foldlM (step cert pv) s = .ok s') : Inv Sol pv root s' :=
  foldlM_except_inv (Q := fun e => ∀ i o, e = Ev.ctc i o → ∀ p ∈ Sol, Box.Mem p i → Box.Mem p o)
    (fun _ _ _ hI hQ hs => step_inv H hI hQ hs) log hI (fun _ he i o heq => hleaf i o (heq ▸ he)) h

theorem check_ok_iff {log : List Ev} {k : Nat} : check cert pv log = .ok k ↔
    ∃ s1 s2, log.foldlM (step cert pv) St.init = .ok s1 ∧ discharge cert pv s1 = .ok s2 ∧
      s2.openB.all (storedOk pv) = true ∧ s2.certified = k := by
  unfold check
  constructor
  · intro h
    simp only [bind, Except.bind] at h
    cases h1 : log.foldlM (step cert pv) St.init with
    | error m => rw [h1] at h; cases h
    | ok s1 =>
      rw [h1] at h
      dsimp only at h
      cases h2 : discharge cert pv s1 with
      | error m => rw [h2] at h; cases h
      | ok s2 =>
        rw [h2] at h
        dsimp only at h
        split at h
        · rename_i hall; cases h; exact ⟨s1, s2, rfl, h2, hall, rfl⟩
        · cases h
  · rintro ⟨s1, s2, h1, h2, hall, rfl⟩
    simp only [bind, Except.bind, h1, h2, hall, if_true]
    rfl

/-! ### the replay of one iteration of a search loop, event by event -/

theorem step_iteration {cs cs' : St} {b o : Box} (hd : discharge cert pv cs = .ok cs') (hb : b ∈ cs'.openB)
    (ho : Box.subset o b = true) :
    [Ev.top b, Ev.ctc b o, Ev.pop o].foldlM (step cert pv) cs
      = .ok { cs' with openB := cs'.openB.erase b, topped := none, cur := none, popped := some o } := by
  have h1 : step cert pv cs (.top b) = .ok { cs' with topped := some b, cur := some b } := by
    simp [step, hd, bind, Except.bind, hb]
  have h2 : step cert pv { cs' with topped := some b, cur := some b } (.ctc b o)
      = .ok { cs' with topped := some b, cur := some o } := by
    simp [step, sameBox_refl, ho]
  have h3 : step cert pv { cs' with topped := some b, cur := some o } (.pop o)
      = .ok { cs' with openB := cs'.openB.erase b, topped := none, cur := none, popped := some o } := by
    simp [step, sameBox_refl, removeOne_erase hb]
  simp only [List.foldlM_cons, List.foldlM_nil, bind, Except.bind, h1, h2, h3]
  rfl

theorem discharge_leaf {s : St} {c : Box} (hp : s.popped = some c) (hk : s.kids = [])
    (h : Box.isEmpty c = true ∨ storedOk pv c = true) :
    discharge cert pv s = .ok { s with popped := none } := by
  unfold discharge
  rw [hp]
  rcases h with h | h
  · simp [h, hk]
  · cases he : Box.isEmpty c <;> simp [he, h, hk]

theorem discharge_split {s : St} {c l r : Box} (hp : s.popped = some c) (hk : s.kids = [l, r])
    (he : Box.isEmpty c = false) (h : split2Ok c l r = true) :
    discharge cert pv s = .ok { s with popped := none, openB := l :: r :: s.openB, kids := [] } := by
  unfold discharge
  rw [hp]
  simp [he, hk, h]

/-! ### several starting cells (a search resumed from a saved paving) -/

theorem leading_inv (H : Hyp Sol cert pv) : ∀ (log : List Ev) {s s' : St}, s.popped = none → s.topped = none →
    (∀ i o, Ev.ctc i o ∈ log → ∀ p ∈ Sol, Box.Mem p i → Box.Mem p o) →
    log.foldlM (step cert pv) s = .ok s' → ∀ r ∈ leadingPushes log, Inv Sol pv r s'
  | [], _, _, _, _, _, _ => fun r hr => by cases hr
  | e :: es, s, s', hpop, htop, hleaf, h => by
    intro r hr
    cases e with
    | push b =>
      simp only [List.foldlM_cons, bind, Except.bind] at h
      cases hs : step cert pv s (.push b) with
      | error m => rw [hs] at h; cases h
      | ok s1 =>
        rw [hs] at h
        simp only [step, hpop] at hs
        split at hs
        · cases hs
        · cases hs
          have hleaf' : ∀ i o, Ev.ctc i o ∈ es → ∀ p ∈ Sol, Box.Mem p i → Box.Mem p o :=
            fun i o he => hleaf i o (List.mem_cons_of_mem _ he)
          rcases List.mem_cons.1 hr with rfl | hr
          · -- the box just pushed is in the buffer
            exact foldlM_inv H es ⟨fun p _ hp => Or.inr (Or.inl ⟨r, List.mem_cons_self, hp⟩),
              fun t ht => by rw [htop] at ht; cases ht⟩ hleaf' h
          · exact leading_inv H es (s := { s with openB := b :: s.openB, popped := none }) rfl htop hleaf' h r hr
    | _ => cases hr

/-- **Soundness of the cover certificate for a resumed search**: an accepted log proves that every solution
    of every box pushed at the very beginning of the log is in a box of the final paving. -/
theorem check_sound_roots (H : Hyp Sol cert pv) {log : List Ev} {k : Nat}
    (hacc : check cert pv log = .ok k)
    (hleaf : ∀ i o, Ev.ctc i o ∈ log → ∀ p ∈ Sol, Box.Mem p i → Box.Mem p o) :
    ∀ r ∈ leadingPushes log, ∀ p ∈ Sol, Box.Mem p r → InPaving pv p := by
  intro r hr p hs hp
  obtain ⟨s1, s2, h1, h2, hall, -⟩ := check_ok_iff.1 hacc
  obtain ⟨hI, hpop⟩ := discharge_inv H (leading_inv H log rfl rfl hleaf h1 r hr) h2
  rcases hI.cov p hs hp with h | ⟨b, hb, h⟩ | ⟨c, hc, -⟩
  · exact h
  · exact inPaving_of_storedOk H (List.all_eq_true.1 hall b hb) hs h
  · rw [hpop] at hc; cases hc

/-- **Soundness of the cover certificate**: an accepted log that starts by pushing `root` proves that
    every solution of `root` is in a box of the final paving. -/
theorem check_sound (H : Hyp Sol cert pv) {rest : List Ev} {k : Nat}
    (hacc : check cert pv (.push root :: rest) = .ok k)
    (hleaf : ∀ i o, Ev.ctc i o ∈ rest → ∀ p ∈ Sol, Box.Mem p i → Box.Mem p o) :
    ∀ p ∈ Sol, Box.Mem p root → InPaving pv p :=
  check_sound_roots H hacc (fun i o h => hleaf i o ((List.mem_cons.1 h).resolve_left Ev.noConfusion))
    root List.mem_cons_self

end Ibex.Cover
