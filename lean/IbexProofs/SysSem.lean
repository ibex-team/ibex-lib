/-
  C13 — real-number semantics of systems of constraints (definitions shared by the proofs).

  `A : Alg ℝ` is the real algebra: `Alg.real` (thick interval constants have no value) or
  `Alg.realWith ch` (a thick constant `I` denotes the selected member `ch I`); all theorems are
  stated for every algebra that is `RealLike` (exact subtraction and opposite, degenerate
  constants denote their value).
-/
import IbexProofs.EvalCert
import IbexProofs.EvalWF
import IbexModel.Sys

namespace Ibex
namespace Sys
open Ibex Ibex.Eval

structure RealLike (A : Alg ℝ) : Prop where
  sub : ∀ a b : ℝ, A.sub a b = some (a - b)
  neg : A.un "minus" = some (fun a => some (-a))
  pt : ∀ q : ℚ, A.ofItv (Itv.point q) = some (q : ℝ)

theorem realLike_real : RealLike Alg.real where
  sub := fun _ _ => rfl
  neg := rfl
  pt := fun _ => if_pos rfl

theorem realLike_realWith {ch : Itv → Option ℝ} (h : ∀ q : ℚ, ch (Itv.point q) = some (q : ℝ)) :
    RealLike (Alg.realWith ch) where
  sub := fun _ _ => rfl
  neg := rfl
  pt := h

/-- `x op 0` -/
def Cmp.holds : Cmp → ℝ → Prop
  | .lt, x => x < 0
  | .leq, x => x ≤ 0
  | .eq, x => x = 0
  | .geq, x => 0 ≤ x
  | .gt, x => 0 < x

/-- real value of an expression at the point `ρ` (flattened variables) -/
noncomputable def evalR (A : Alg ℝ) (f : Prog) (ρ : List ℝ) : Option (Mat ℝ) :=
  root A ρ (buildCalls A f.funs) f.main

/-- the constraint `f(x) op 0` holds at `ρ`: `f` is defined there and every entry satisfies `op` -/
def Ctr.Sat (A : Alg ℝ) (c : Ctr) (ρ : List ℝ) : Prop :=
  ∃ v, evalR A c.f ρ = some v ∧ ∀ x ∈ v.d, c.op.holds x

/-- every entry of `f(x)` is within `eps` of 0 -/
def Ctr.SatEps (A : Alg ℝ) (eps : ℝ) (c : Ctr) (ρ : List ℝ) : Prop :=
  ∃ v, evalR A c.f ρ = some v ∧ ∀ x ∈ v.d, |x| ≤ eps

/-- `f` is defined at `ρ` and every entry of its value satisfies `P`: what `Ctr.Sat` and
    `Ctr.SatEps` say for two choices of `P` -/
def SatP (A : Alg ℝ) (f : Prog) (P : ℝ → Prop) (ρ : List ℝ) : Prop :=
  ∃ v, evalR A f ρ = some v ∧ ∀ x ∈ v.d, P x

theorem Ctr.sat_iff (A : Alg ℝ) (c : Ctr) (ρ : List ℝ) : c.Sat A ρ ↔ SatP A c.f c.op.holds ρ := Iff.rfl

theorem Ctr.satEps_iff (A : Alg ℝ) (eps : ℝ) (c : Ctr) (ρ : List ℝ) :
    c.SatEps A eps ρ ↔ SatP A c.f (fun x => |x| ≤ eps) ρ := Iff.rfl

def SatAll (A : Alg ℝ) (cs : List Ctr) (ρ : List ℝ) : Prop := ∀ c ∈ cs, c.Sat A ρ

def Defined (A : Alg ℝ) (cs : List Ctr) (ρ : List ℝ) : Prop := ∀ c ∈ cs, ∃ v, evalR A c.f ρ = some v

/-- satisfaction through the vector-valued function `f_ctrs` and the array `ops` -/
def SatF (A : Alg ℝ) (f : Prog) (ops : List Cmp) (ρ : List ℝ) : Prop :=
  ∃ v, evalR A f ρ = some v ∧ List.Forall₂ (fun x op => Cmp.holds op x) v.d ops

theorem exists_eq_some_and {α : Type} {o : Option α} {w : α} (hw : o = some w) {P : α → Prop} :
    (∃ v, o = some v ∧ P v) ↔ P w := by
  subst hw
  simp only [Option.some.injEq, exists_eq_left']

end Sys
end Ibex
