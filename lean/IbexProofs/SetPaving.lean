/-
  Soundness of the paving checker of `IbexModel/SetPaving.lean` (C19, last sentence).

  Real semantics `SE.sem e p = (p certainly in, p possibly in)` for a real point `p : List ℝ`.  The executable
  membership `SE.mem` at a rational point is this semantics at that point (`sem_cast`, every expression: soundness of
  the refutation by exact points); for a boxy expression it is constant on the cells of a grid containing its cuts
  (`sem_cell`), and the enumerated representatives meet every cell of a box, so what the driver checks at them holds
  at all real points.
-/
import IbexProofs.SetAlg
import IbexModel.SetPaving
import Mathlib.Tactic.Linarith
import Mathlib.Tactic.Ring
import Mathlib.Tactic.Positivity

namespace Ibex.SetPaving
open Ibex

abbrev Pt := List ℝ

def castPt (r : RPt) : Pt := r.map fun (q : Rat) => (q : ℝ)

@[simp] theorem castPt_nil : castPt [] = [] := rfl
@[simp] theorem castPt_cons (q : Rat) (r : RPt) : castPt (q :: r) = (q : ℝ) :: castPt r := rfl

/-! ### polynomials -/

noncomputable def monoValR : Pt → List Nat → ℝ
  | v :: pt, e :: exps => v ^ e * monoValR pt exps
  | _, _ => 1

noncomputable def polyEvalR : Poly → Pt → ℝ
  | [], _ => 0
  | m :: p, pt => (m.coef : ℝ) * monoValR pt m.exps + polyEvalR p pt

theorem monoValR_cast (r : RPt) (es : List Nat) : monoValR (castPt r) es = ((monoVal r es : Rat) : ℝ) := by
  induction r generalizing es with
  | nil => simp [monoValR, monoVal]
  | cons q r ih =>
    cases es with
    | nil => simp [monoValR, monoVal]
    | cons e es => simp [monoValR, monoVal, ih]

theorem polyEvalR_cast (f : Poly) (r : RPt) : polyEvalR f (castPt r) = ((polyEval f r : Rat) : ℝ) := by
  induction f with
  | nil => simp [polyEvalR, polyEval]
  | cons m f ih => simp [polyEvalR, polyEval, ih, monoValR_cast]

/-! ### rational points in intervals and boxes -/

/-- strict membership (topological interior of the interval, see `Itv.interiorMem_mk`) -/
def SMemI (x : ℝ) : Itv → Prop
  | .empty => False
  | .mk lo hi => lo.toE < (x : EReal) ∧ (x : EReal) < hi.toE

theorem SMemI_iff_interior {x : ℝ} {I : Itv} : SMemI x I ↔ Itv.InteriorMem x I := by
  cases I with
  | empty => exact ⟨fun h => h.elim, fun h => (Itv.not_interiorMem_empty h).elim⟩
  | mk a b => exact Itv.interiorMem_mk.symm

theorem SMemI.mem {x : ℝ} {I : Itv} (h : SMemI x I) : x ∈ I := by
  cases I with
  | empty => exact h.elim
  | mk a b => exact (Itv.mem_mk _ _ _).2 ⟨h.1.le, h.2.le⟩

theorem inItv_iff (q : Rat) (I : Itv) : inItv q I = true ↔ ((q : ℝ)) ∈ I := by
  cases I with
  | empty => simp [inItv]
  | mk a b =>
    rw [Itv.mem_mk]
    simp only [inItv, Bool.and_eq_true, Ext.le_iff, Ext.toE_fin]

theorem sinItv_iff (q : Rat) (I : Itv) : sinItv q I = true ↔ SMemI (q : ℝ) I := by
  cases I with
  | empty => simp [sinItv, SMemI]
  | mk a b => simp only [sinItv, SMemI, Bool.and_eq_true, Ext.lt_iff, Ext.toE_fin]

/-- strict membership in a box (interior of the box) -/
def SMem (p : Pt) (b : Box) : Prop := List.Forall₂ (fun x I => SMemI x I) p b

theorem SMem.mem {p : Pt} {b : Box} (h : SMem p b) : Box.Mem p b := by
  induction h with
  | nil => exact List.Forall₂.nil
  | cons h0 _ ih => exact List.Forall₂.cons h0.mem ih

theorem inBox_iff (r : RPt) (b : Box) : inBox r b = true ↔ Box.Mem (castPt r) b := by
  induction r generalizing b with
  | nil => cases b <;> simp [inBox, Box.Mem]
  | cons q r ih =>
    cases b with
    | nil => simp [inBox, Box.Mem]
    | cons I b =>
      simp only [inBox, Bool.and_eq_true, castPt_cons, Box.mem_cons, inItv_iff, ih]

theorem sinBox_iff (r : RPt) (b : Box) : sinBox r b = true ↔ SMem (castPt r) b := by
  induction r generalizing b with
  | nil => cases b <;> simp [sinBox, SMem]
  | cons q r ih =>
    cases b with
    | nil => simp [sinBox, SMem]
    | cons I b =>
      simp only [sinBox, Bool.and_eq_true, castPt_cons, SMem, List.forall₂_cons, sinItv_iff]
      rw [ih]; rfl

def InAny (p : Pt) (W : List Box) : Prop := ∃ b ∈ W, Box.Mem p b

theorem inAny_iff (r : RPt) (W : List Box) : inAny r W = true ↔ InAny (castPt r) W := by
  simp only [inAny, List.any_eq_true, InAny, inBox_iff]

/-! ### real semantics of the expressions -/

/-- (p certainly in the set, p possibly in the set) -/
noncomputable def SE.sem : SE → Pt → Prop × Prop
  | .univ, _ => (True, True)
  | .cl W, p => (InAny p W, InAny p W)
  | .cmp op f, p =>
    match op with
    | .lt => (polyEvalR f p < 0, polyEvalR f p ≤ 0)
    | .le => (polyEvalR f p < 0, polyEvalR f p ≤ 0)
    | .ge => (0 < polyEvalR f p, 0 ≤ polyEvalR f p)
    | .gt => (0 < polyEvalR f p, 0 ≤ polyEvalR f p)
    | .eq => (False, polyEvalR f p = 0)
  | .inv f s, p => s.sem [polyEvalR f p]
  | .not s, p => (¬ (s.sem p).2, ¬ (s.sem p).1)
  | .inter a b, p => ((a.sem p).1 ∧ (b.sem p).1, (a.sem p).2 ∧ (b.sem p).2)
  | .union a b, p => ((a.sem p).1 ∨ (b.sem p).1, (a.sem p).2 ∨ (b.sem p).2)
  | .thick a b, p => ((a.sem p).1, (b.sem p).2)
  | .meet a b, p => ((a.sem p).1 ∨ (b.sem p).1, (a.sem p).2 ∧ (b.sem p).2)

def SE.Lo (e : SE) (p : Pt) : Prop := (e.sem p).1
def SE.Hi (e : SE) (p : Pt) : Prop := (e.sem p).2

/-! a pair of propositions decided by a pair of Booleans stays so under the connectives of the set expressions -/

theorem agree_not {P Q : Prop} {a b : Bool} (h : (P ↔ a = true) ∧ (Q ↔ b = true)) :
    ((¬ Q) ↔ (!b) = true) ∧ ((¬ P) ↔ (!a) = true) :=
  ⟨(not_congr h.2).trans (by simp), (not_congr h.1).trans (by simp)⟩

theorem agree_inter {P Q P' Q' : Prop} {a b a' b' : Bool} (h : (P ↔ a = true) ∧ (Q ↔ b = true))
    (h' : (P' ↔ a' = true) ∧ (Q' ↔ b' = true)) :
    ((P ∧ P') ↔ (a && a') = true) ∧ ((Q ∧ Q') ↔ (b && b') = true) :=
  ⟨(and_congr h.1 h'.1).trans Bool.and_eq_true_iff.symm, (and_congr h.2 h'.2).trans Bool.and_eq_true_iff.symm⟩

theorem agree_union {P Q P' Q' : Prop} {a b a' b' : Bool} (h : (P ↔ a = true) ∧ (Q ↔ b = true))
    (h' : (P' ↔ a' = true) ∧ (Q' ↔ b' = true)) :
    ((P ∨ P') ↔ (a || a') = true) ∧ ((Q ∨ Q') ↔ (b || b') = true) :=
  ⟨(or_congr h.1 h'.1).trans Bool.or_eq_true_iff.symm, (or_congr h.2 h'.2).trans Bool.or_eq_true_iff.symm⟩

/-- exact evaluation at a rational point is the real semantics at this point (every expression) -/
theorem sem_cast (e : SE) : ∀ r : RPt,
    ((e.sem (castPt r)).1 ↔ (e.mem r).1 = true) ∧ ((e.sem (castPt r)).2 ↔ (e.mem r).2 = true) := by
  induction e with
  | univ => intro r; simp [SE.sem, SE.mem]
  | cl W => intro r; simp [SE.sem, SE.mem, inAny_iff]
  | cmp op f =>
    intro r
    have hv := polyEvalR_cast f r
    -- the sign of a rational is the sign of its cast; `<` and `≤` (`>` and `≥`) have the same pair on purpose: the
    -- expression denotes every set between the open and the closed one
    cases op <;>
      simp only [SE.sem, SE.mem, hv, decide_eq_true_eq, Rat.cast_lt_zero, Rat.cast_nonpos, Rat.cast_pos,
        Rat.cast_nonneg, Rat.cast_eq_zero, Bool.false_eq_true, and_self]
  | inv f s ih =>
    intro r
    have := ih [polyEval f r]
    simpa [SE.sem, SE.mem, polyEvalR_cast] using this
  | not s ih => intro r; exact agree_not (ih r)
  | inter a b iha ihb => intro r; exact agree_inter (iha r) (ihb r)
  | union a b iha ihb => intro r; exact agree_union (iha r) (ihb r)
  | thick a b iha ihb => intro r; exact ⟨(iha r).1, (ihb r).2⟩
  | meet a b iha ihb => intro r; exact ⟨(agree_union (iha r) (ihb r)).1, (agree_inter (iha r) (ihb r)).2⟩

theorem lo_cast (e : SE) (r : RPt) : e.Lo (castPt r) ↔ e.lo r = true := (sem_cast e r).1
theorem hi_cast (e : SE) (r : RPt) : e.Hi (castPt r) ↔ e.hi r = true := (sem_cast e r).2

/-! ### cells -/

/-- the real `x` and the rational `q` are on the same side of every cut -/
def SameSide (cs : List Rat) (x : ℝ) (q : Rat) : Prop :=
  ∀ c ∈ cs, (x < (c : ℝ) ↔ (q : ℝ) < (c : ℝ)) ∧ ((c : ℝ) < x ↔ (c : ℝ) < (q : ℝ))

theorem SameSide.mono {cs cs' : List Rat} {x : ℝ} {q : Rat} (h : SameSide cs x q) (hs : ∀ c ∈ cs', c ∈ cs) :
    SameSide cs' x q := fun c hc => h c (hs c hc)

theorem SameSide.le_iff {cs : List Rat} {x : ℝ} {q : Rat} (h : SameSide cs x q) {c : Rat} (hc : c ∈ cs) :
    ((c : ℝ) ≤ x ↔ (c : ℝ) ≤ (q : ℝ)) ∧ (x ≤ (c : ℝ) ↔ (q : ℝ) ≤ (c : ℝ)) := by
  obtain ⟨h1, h2⟩ := h c hc
  exact ⟨by rw [← not_lt, ← not_lt, h1], by rw [← not_lt, ← not_lt, h2]⟩

theorem mem_finBounds_lo {a : Rat} {hi : Ext} : a ∈ SE.finBounds (.mk (.fin a) hi) := by
  simp [SE.finBounds]

theorem mem_finBounds_hi {lo : Ext} {b : Rat} : b ∈ SE.finBounds (.mk lo (.fin b)) := by
  simp [SE.finBounds]

theorem SameSide.toE {cs : List Rat} {x : ℝ} {q : Rat} (h : SameSide cs x q) {e : Ext}
    (he : ∀ c, e = .fin c → c ∈ cs) :
    (e.toE ≤ (x : EReal) ↔ e.toE ≤ ((q : ℝ) : EReal)) ∧ ((x : EReal) ≤ e.toE ↔ ((q : ℝ) : EReal) ≤ e.toE) ∧
    (e.toE < (x : EReal) ↔ e.toE < ((q : ℝ) : EReal)) ∧ ((x : EReal) < e.toE ↔ ((q : ℝ) : EReal) < e.toE) := by
  cases e with
  | ninf => simp
  | pinf => simp
  | fin a =>
    have ha := he a rfl
    simp only [Ext.toE_fin, EReal.coe_le_coe_iff, EReal.coe_lt_coe_iff]
    exact ⟨(h.le_iff ha).1, (h.le_iff ha).2, (h a ha).2, (h a ha).1⟩

theorem mem_itv_side {cs : List Rat} {x : ℝ} {q : Rat} (h : SameSide cs x q) {I : Itv}
    (hb : ∀ c ∈ SE.finBounds I, c ∈ cs) : x ∈ I ↔ (q : ℝ) ∈ I := by
  cases I with
  | empty => exact iff_of_false (Itv.not_mem_empty _) (Itv.not_mem_empty _)
  | mk lo hi =>
    rw [Itv.mem_mk, Itv.mem_mk, (h.toE fun a e => hb a (by rw [e]; exact mem_finBounds_lo)).1,
      (h.toE fun b e => hb b (by rw [e]; exact mem_finBounds_hi)).2.1]

theorem smem_itv_side {cs : List Rat} {x : ℝ} {q : Rat} (h : SameSide cs x q) {I : Itv}
    (hb : ∀ c ∈ SE.finBounds I, c ∈ cs) : SMemI x I ↔ SMemI (q : ℝ) I := by
  cases I with
  | empty => exact Iff.rfl
  | mk lo hi =>
    show _ ∧ _ ↔ _ ∧ _
    rw [(h.toE fun a e => hb a (by rw [e]; exact mem_finBounds_lo)).2.2.1,
      (h.toE fun b e => hb b (by rw [e]; exact mem_finBounds_hi)).2.2.2]

/-- the real point `p` and the rational point `r` are in the same cell of the grid `cuts` (coordinate `i` of the points
    is coordinate `off + i` of the grid) -/
def SameCell (cuts : Nat → List Rat) : Nat → Pt → RPt → Prop
  | _, [], [] => True
  | off, x :: p, q :: r => SameSide (cuts off) x q ∧ SameCell cuts (off + 1) p r
  | _, _, _ => False

theorem SameCell.mono {cuts cuts' : Nat → List Rat} (hs : ∀ j c, c ∈ cuts' j → c ∈ cuts j) :
    ∀ {off : Nat} {p : Pt} {r : RPt}, SameCell cuts off p r → SameCell cuts' off p r
  | _, [], [], _ => trivial
  | _, _ :: _, _ :: _, h => ⟨h.1.mono (hs _), SameCell.mono hs h.2⟩
  | _, [], _ :: _, h => h.elim
  | _, _ :: _, [], h => h.elim

/-- a relation between reals and intervals that does not tell `x` from `q` on an interval whose finite bounds are cuts
    does not tell, on a box whose finite bounds are cuts, the two points of a cell -/
theorem forall₂_cell {cuts : Nat → List Rat} {P : ℝ → Itv → Prop}
    (hP : ∀ {cs : List Rat} {x : ℝ} {q : Rat} {I : Itv}, SameSide cs x q → (∀ c ∈ SE.finBounds I, c ∈ cs) →
      (P x I ↔ P (q : ℝ) I)) :
    ∀ {off : Nat} {p : Pt} {r : RPt} {b : Box},
    SameCell cuts off p r → (∀ i I, b[i]? = some I → ∀ c ∈ SE.finBounds I, c ∈ cuts (off + i)) →
    (List.Forall₂ P p b ↔ List.Forall₂ P (castPt r) b)
  | _, [], [], _, _, _ => Iff.rfl
  | _, _ :: _, _ :: _, [], _, _ => iff_of_false (nomatch ·) (nomatch ·)
  | off, x :: p, q :: r, I :: b, h, hb => by
    rw [castPt_cons, List.forall₂_cons, List.forall₂_cons, hP h.1 (hb 0 I rfl),
      forall₂_cell hP h.2 fun i J hJ c hc => by
        have := hb (i + 1) J hJ c hc
        rwa [show off + (i + 1) = off + 1 + i by omega] at this]
  | _, [], _ :: _, _, h, _ => h.elim
  | _, _ :: _, [], _, h, _ => h.elim

theorem mem_box_cell {cuts : Nat → List Rat} {off : Nat} {p : Pt} {r : RPt} {b : Box}
    (h : SameCell cuts off p r) (hb : ∀ i I, b[i]? = some I → ∀ c ∈ SE.finBounds I, c ∈ cuts (off + i)) :
    Box.Mem p b ↔ inBox r b = true :=
  (forall₂_cell (P := fun x I => x ∈ I) (fun hS hI => mem_itv_side hS hI) h hb).trans (inBox_iff r b).symm

theorem smem_box_cell {cuts : Nat → List Rat} : ∀ {off : Nat} {p : Pt} {r : RPt} {b : Box},
    SameCell cuts off p r → (∀ i I, b[i]? = some I → ∀ c ∈ SE.finBounds I, c ∈ cuts (off + i)) →
    (SMem p b ↔ sinBox r b = true) := fun h hb =>
  (forall₂_cell (P := SMemI) (fun hS hI => smem_itv_side hS hI) h hb).trans (sinBox_iff _ _).symm

theorem mem_boxCuts {b : Box} {i : Nat} {I : Itv} (h : b[i]? = some I) {c : Rat} (hc : c ∈ SE.finBounds I) :
    c ∈ SE.boxCuts b i := by
  simp only [SE.boxCuts, List.getD_eq_getElem?_getD, h, Option.getD_some]
  exact hc

/-- for a boxy expression the membership of a real point is the exact membership of any rational point of its cell -/
theorem sem_cell {cuts : Nat → List Rat} (e : SE) (hb : e.boxy = true) (hc : ∀ j c, c ∈ e.cuts j → c ∈ cuts j)
    {p : Pt} {r : RPt} (h : SameCell cuts 0 p r) :
    ((e.sem p).1 ↔ (e.mem r).1 = true) ∧ ((e.sem p).2 ↔ (e.mem r).2 = true) := by
  induction e with
  | univ => simp [SE.sem, SE.mem]
  | cl W =>
    have key : InAny p W ↔ inAny r W = true := by
      simp only [InAny, inAny, List.any_eq_true]
      refine exists_congr fun b => and_congr_right fun hbW => mem_box_cell h fun i I hI c hcI => ?_
      rw [Nat.zero_add]
      exact hc i c (List.mem_flatMap.2 ⟨b, hbW, mem_boxCuts hI hcI⟩)
    simp [SE.sem, SE.mem, key]
  | cmp op f => simp [SE.boxy] at hb
  | inv f s _ => simp [SE.boxy] at hb
  | not s ih => exact agree_not (ih hb fun j c hj => hc j c hj)
  | inter a b iha ihb =>
    rw [SE.boxy, Bool.and_eq_true] at hb
    exact agree_inter (iha hb.1 fun j c hj => hc j c (List.mem_append_left _ hj))
      (ihb hb.2 fun j c hj => hc j c (List.mem_append_right _ hj))
  | union a b iha ihb =>
    rw [SE.boxy, Bool.and_eq_true] at hb
    exact agree_union (iha hb.1 fun j c hj => hc j c (List.mem_append_left _ hj))
      (ihb hb.2 fun j c hj => hc j c (List.mem_append_right _ hj))
  | thick a b iha ihb =>
    rw [SE.boxy, Bool.and_eq_true] at hb
    exact ⟨(iha hb.1 fun j c hj => hc j c (List.mem_append_left _ hj)).1,
      (ihb hb.2 fun j c hj => hc j c (List.mem_append_right _ hj)).2⟩
  | meet a b iha ihb =>
    rw [SE.boxy, Bool.and_eq_true] at hb
    have A := iha hb.1 fun j c hj => hc j c (List.mem_append_left _ hj)
    have B := ihb hb.2 fun j c hj => hc j c (List.mem_append_right _ hj)
    exact ⟨(agree_union A B).1, (agree_inter A B).2⟩

/-! ### the representatives of the cells of the line -/

theorem mem_insertCut {x y : Rat} : ∀ {l : List Rat}, y ∈ insertCut x l ↔ y = x ∨ y ∈ l
  | [] => by simp [insertCut]
  | c :: cs => by
    unfold insertCut
    split
    · simp
    · split
      · rename_i h; subst h; simp
      · simp only [List.mem_cons, mem_insertCut (l := cs)]
        tauto

theorem mem_sortCuts {y : Rat} : ∀ {l : List Rat}, y ∈ sortCuts l ↔ y ∈ l
  | [] => by simp [sortCuts]
  | x :: l => by
    have ih := mem_sortCuts (y := y) (l := l)
    simp only [sortCuts, List.foldr_cons] at ih ⊢
    rw [mem_insertCut, ih, List.mem_cons]

theorem sorted_insertCut {x : Rat} : ∀ {l : List Rat}, l.Pairwise (· < ·) → (insertCut x l).Pairwise (· < ·)
  | [], _ => by simp [insertCut]
  | c :: cs, h => by
    have hc := List.pairwise_cons.1 h
    unfold insertCut
    split
    · rename_i hx
      exact List.pairwise_cons.2 ⟨fun y hy => by
        rcases List.mem_cons.1 hy with rfl | hy
        · exact hx
        · exact lt_trans hx (hc.1 y hy), h⟩
    · split
      · exact h
      · rename_i h1 h2
        refine List.pairwise_cons.2 ⟨fun y hy => ?_, sorted_insertCut hc.2⟩
        rcases mem_insertCut.1 hy with rfl | hy
        · exact lt_of_le_of_ne (not_lt.1 h1) (fun e => h2 e.symm)
        · exact hc.1 y hy

theorem sorted_sortCuts : ∀ (l : List Rat), (sortCuts l).Pairwise (· < ·)
  | [] => by simp [sortCuts]
  | x :: l => by
    have ih := sorted_sortCuts l
    simp only [sortCuts, List.foldr_cons] at ih ⊢
    exact sorted_insertCut ih

theorem sameSide_self (cs : List Rat) (c : Rat) : SameSide cs (c : ℝ) c := fun _ _ => ⟨Iff.rfl, Iff.rfl⟩

theorem sameSide_below {c : Rat} {cs : List Rat} (hs : (c :: cs).Pairwise (· < ·)) {x : ℝ} {q : Rat}
    (hx : x < (c : ℝ)) (hq : (q : ℝ) < (c : ℝ)) : SameSide (c :: cs) x q := fun c' hc' => by
  have hc : (c : ℝ) ≤ (c' : ℝ) := by
    rcases List.mem_cons.1 hc' with rfl | h
    · exact le_rfl
    · exact_mod_cast ((List.pairwise_cons.1 hs).1 c' h).le
  exact ⟨iff_of_true (lt_of_lt_of_le hx hc) (lt_of_lt_of_le hq hc),
    iff_of_false (not_lt.2 (hx.le.trans hc)) (not_lt.2 (hq.le.trans hc))⟩

theorem SameSide.cons_above {cs : List Rat} {x : ℝ} {q c : Rat} (h : SameSide cs x q) (hx : (c : ℝ) < x)
    (hq : (c : ℝ) < (q : ℝ)) : SameSide (c :: cs) x q :=
  List.forall_mem_cons.2 ⟨⟨iff_of_false (not_lt.2 hx.le) (not_lt.2 hq.le), iff_of_true hx hq⟩, h⟩

theorem gapReps_complete : ∀ (cs : List Rat) (prev : Rat) (x : ℝ), (prev : ℝ) < x →
    (prev :: cs).Pairwise (· < ·) → ∃ q ∈ gapReps prev cs, (prev : ℝ) < (q : ℝ) ∧ SameSide cs x q
  | [], prev, x, _, _ => ⟨prev + 1, by simp [gapReps], by push_cast; linarith, fun c hc => nomatch hc⟩
  | c :: cs, prev, x, hx, hs => by
    obtain ⟨h1, h2⟩ := List.pairwise_cons.1 hs
    have hpc : (prev : ℝ) < (c : ℝ) := by exact_mod_cast h1 c (List.mem_cons_self ..)
    rcases lt_trichotomy x (c : ℝ) with hlt | rfl | hgt
    · have hq : (((prev + c) / 2 : Rat) : ℝ) < (c : ℝ) := by push_cast; linarith
      exact ⟨(prev + c) / 2, by simp [gapReps], by push_cast; linarith, sameSide_below h2 hlt hq⟩
    · exact ⟨c, by simp [gapReps], hpc, sameSide_self _ c⟩
    · obtain ⟨q, hq, hcq, hS⟩ := gapReps_complete cs c x hgt h2
      exact ⟨q, by simp [gapReps, hq], lt_trans hpc hcq, hS.cons_above hgt hcq⟩

theorem lineReps_complete (cs : List Rat) (x : ℝ) : ∃ q ∈ lineReps cs, SameSide cs x q := by
  suffices h : ∃ q ∈ lineReps cs, SameSide (sortCuts cs) x q by
    obtain ⟨q, hq, hS⟩ := h
    exact ⟨q, hq, hS.mono fun c hc => mem_sortCuts.2 hc⟩
  unfold lineReps
  have hs := sorted_sortCuts cs
  generalize sortCuts cs = l at hs
  cases l with
  | nil => exact ⟨0, List.mem_singleton_self 0, fun c hc => nomatch hc⟩
  | cons c cs' =>
    rcases lt_trichotomy x (c : ℝ) with hlt | rfl | hgt
    · exact ⟨c - 1, by simp, sameSide_below hs hlt (by push_cast; linarith)⟩
    · exact ⟨c, by simp, sameSide_self _ c⟩
    · obtain ⟨q, hq, hcq, hS⟩ := gapReps_complete cs' c x hgt hs
      exact ⟨q, by simp [hq], hS.cons_above hgt hcq⟩

/-! ### the representatives of the cells of a box -/

theorem repsIn_complete (cuts : Nat → List Rat) : ∀ (b : Box) (off : Nat) (p : Pt), Box.Mem p b →
    ∃ r ∈ repsIn cuts off b, SameCell cuts off p r
  | [], _, p, hp => by
    cases hp
    exact ⟨[], by simp [repsIn], trivial⟩
  | I :: b, off, p, hp => by
    cases hp with
    | @cons x _ p' _ hx hp' =>
      obtain ⟨q, hq, hS⟩ := lineReps_complete (cuts off ++ SE.finBounds I) x
      obtain ⟨r', hr', hC⟩ := repsIn_complete cuts b (off + 1) p' hp'
      have hin : inItv q I = true :=
        (inItv_iff q I).2 ((mem_itv_side hS (fun c hc => List.mem_append_right _ hc)).1 hx)
      refine ⟨q :: r', ?_, hS.mono (fun c hc => List.mem_append_left _ hc), hC⟩
      simp only [repsIn, List.mem_flatMap, List.mem_filter, List.mem_map]
      exact ⟨q, ⟨hq, hin⟩, r', hr', rfl⟩

/-! ### segments from a point to a representative of an adjacent full-dimensional cell -/

noncomputable def seg (t : ℝ) : Pt → RPt → Pt
  | x :: p, q :: r => (x + t * ((q : ℝ) - x)) :: seg t p r
  | _, _ => []

/-- the cuts different from `x` stay at a distance from `x` -/
theorem exists_gap_width (x : ℝ) : ∀ (cs : List Rat), ∃ δ : ℝ, 0 < δ ∧
    ∀ c ∈ cs, (x < (c : ℝ) → x + δ ≤ (c : ℝ)) ∧ ((c : ℝ) < x → (c : ℝ) + δ ≤ x)
  | [] => ⟨1, one_pos, fun c hc => nomatch hc⟩
  | c :: cs => by
    obtain ⟨δ, hδ, h⟩ := exists_gap_width x cs
    by_cases hcx : (c : ℝ) = x
    · exact ⟨δ, hδ, List.forall_mem_cons.2 ⟨⟨fun hlt => absurd hcx hlt.ne', fun hlt => absurd hcx hlt.ne⟩, h⟩⟩
    · have hm := min_le_right δ |(c : ℝ) - x|
      have hm' := min_le_left δ |(c : ℝ) - x|
      refine ⟨min δ |(c : ℝ) - x|, lt_min hδ (abs_pos.2 (sub_ne_zero.2 hcx)),
        List.forall_mem_cons.2 ⟨⟨fun hlt => ?_, fun hlt => ?_⟩, fun c' hc' => ⟨fun hlt => ?_, fun hlt => ?_⟩⟩⟩
      · linarith [abs_of_pos (sub_pos.2 hlt)]
      · linarith [abs_of_neg (sub_neg.2 hlt)]
      · linarith [(h c' hc').1 hlt]
      · linarith [(h c' hc').2 hlt]

/-- a point below `x` and strictly below `q` is strictly below the points of the segment from `x` (excluded) to `q` -/
theorem lt_seg {c x q t : ℝ} (hx : c ≤ x) (hq : c < q) (ht0 : 0 < t) (ht1 : t ≤ 1) : c < x + t * (q - x) := by
  have h1 := mul_nonneg (sub_nonneg.2 ht1) (sub_nonneg.2 hx)
  have h2 := mul_pos ht0 (sub_pos.2 hq)
  linarith

theorem seg_lt {c x q t : ℝ} (hx : x ≤ c) (hq : q < c) (ht0 : 0 < t) (ht1 : t ≤ 1) : x + t * (q - x) < c := by
  have h1 := mul_nonneg (sub_nonneg.2 ht1) (sub_nonneg.2 hx)
  have h2 := mul_pos ht0 (sub_pos.2 hq)
  linarith

/-- a point of a non-degenerate interval is the end of a segment whose other points lie in one gap of the grid,
    strictly inside the interval -/
theorem lineGap_adjacent (cs : List Rat) (a b : Ext) (hb : ∀ c ∈ SE.finBounds (.mk a b), c ∈ cs) (hne : a ≠ b)
    (x : ℝ) (hx : x ∈ Itv.mk a b) :
    ∃ q ∈ lineReps cs, sinItv q (.mk a b) = true ∧ q ∉ cs ∧
      ∀ t : ℝ, 0 < t → t ≤ 1 → SameSide cs (x + t * ((q : ℝ) - x)) q := by
  obtain ⟨hxa, hxb⟩ := (Itv.mem_mk _ _ _).1 hx
  obtain ⟨δ, hδ, hgap⟩ := exists_gap_width x cs
  -- a point y0 ≠ x strictly inside the interval, no cut lies between x (excluded) and y0 (included)
  have hy0 : ∃ y0 : ℝ, a.toE < (y0 : EReal) ∧ (y0 : EReal) < b.toE ∧ y0 ≠ x ∧
      ∀ c ∈ cs, ((c : ℝ) ≤ y0 → (c : ℝ) ≤ x) ∧ (y0 ≤ (c : ℝ) → x ≤ (c : ℝ)) := by
    by_cases hlt : (x : EReal) < b.toE
    · refine ⟨x + δ / 2, lt_of_le_of_lt hxa (EReal.coe_lt_coe_iff.2 (by linarith)), ?_, by linarith, fun c hc =>
        ⟨fun h => not_lt.1 fun hxc => by linarith [(hgap c hc).1 hxc], fun h => by linarith⟩⟩
      cases b with
      | ninf => simp at hlt
      | pinf => exact EReal.coe_lt_top _
      | fin bb =>
        simp only [Ext.toE_fin, EReal.coe_lt_coe_iff] at hlt ⊢
        linarith [(hgap bb (hb bb mem_finBounds_hi)).1 hlt]
    · have hxb' : (x : EReal) = b.toE := le_antisymm hxb (not_lt.1 hlt)
      have hab : a.toE < (x : EReal) :=
        lt_of_le_of_ne hxa fun h => hne (Ext.toE_injective (h.trans hxb'))
      refine ⟨x - δ / 2, ?_, hxb' ▸ EReal.coe_lt_coe_iff.2 (by linarith), by linarith, fun c hc =>
        ⟨fun h => by linarith, fun h => not_lt.1 fun hcx => by linarith [(hgap c hc).2 hcx]⟩⟩
      cases a with
      | pinf => simp at hab
      | ninf => exact EReal.bot_lt_coe _
      | fin aa =>
        simp only [Ext.toE_fin, EReal.coe_lt_coe_iff] at hab ⊢
        linarith [(hgap aa (hb aa mem_finBounds_lo)).2 hab]
  obtain ⟨y0, hya, hyb, hy_ne, hno⟩ := hy0
  obtain ⟨q, hq, hS⟩ := lineReps_complete cs y0
  have hq_notin : q ∉ cs := fun hqc => by
    obtain ⟨h1, h2⟩ := hS q hqc
    -- a cut on the same side of itself as `y0` is `y0`; no cut lies between `x` and `y0`, so `y0` would be `x`
    have e : y0 = (q : ℝ) := le_antisymm (not_lt.1 fun h => lt_irrefl _ (h2.1 h)) (not_lt.1 fun h => lt_irrefl _ (h1.1 h))
    have hxq : x = (q : ℝ) := le_antisymm ((hno q hqc).2 e.le) ((hno q hqc).1 e.ge)
    exact hy_ne (e.trans hxq.symm)
  refine ⟨q, hq, (sinItv_iff q _).2 ((smem_itv_side hS hb).1 ⟨hya, hyb⟩), hq_notin, fun t ht0 ht1 c hc => ?_⟩
  obtain ⟨h1, h2⟩ := hS c hc
  -- c and q differ: c is on the same side of y0 and of q (strictly), of x (weakly), hence of the segment
  rcases lt_trichotomy (c : ℝ) (q : ℝ) with hcq | hcq | hcq
  · have := lt_seg ((hno c hc).1 (h2.2 hcq).le) hcq ht0 ht1
    exact ⟨iff_of_false this.not_gt hcq.not_gt, iff_of_true this hcq⟩
  · exact absurd (Rat.cast_injective hcq ▸ hc) hq_notin
  · have := seg_lt ((hno c hc).2 (h1.2 hcq).le) hcq ht0 ht1
    exact ⟨iff_of_true this hcq, iff_of_false this.not_gt hcq.not_gt⟩

/-- no component of the box is reduced to a point -/
def NonFlat (b : Box) : Prop := ∀ I ∈ b, I.isDegenerated = false

/-- every point of a non-flat box is the end of a segment whose other points lie in ONE full-dimensional cell of the box
    (strictly inside the box), the cell of one of the representatives `gapsIn` -/
theorem gapsIn_complete (cuts : Nat → List Rat) : ∀ (b : Box) (off : Nat) (p : Pt), Box.Mem p b → NonFlat b →
    ∃ r ∈ gapsIn cuts off b, r.length = p.length ∧
      ∀ t : ℝ, 0 < t → t ≤ 1 → SameCell cuts off (seg t p r) r ∧ SMem (seg t p r) b
  | [], _, p, hp, _ => by
    cases hp
    exact ⟨[], by simp [gapsIn], rfl, fun t _ _ => ⟨trivial, List.Forall₂.nil⟩⟩
  | I :: b, off, p, hp, hnf => by
    cases hp with
    | @cons x _ p' _ hx hp' =>
      have hI : I.isDegenerated = false := hnf I (List.mem_cons_self ..)
      obtain ⟨r', hr', hlen, hC⟩ := gapsIn_complete cuts b (off + 1) p' hp' (fun J hJ => hnf J (List.mem_cons_of_mem _ hJ))
      cases I with
      | empty => exact absurd hx (Itv.not_mem_empty x)
      | mk a bb =>
        have hne : a ≠ bb := by
          intro e
          simp [Itv.isDegenerated, e] at hI
        obtain ⟨q, hq, hsin, hnot, hseg⟩ :=
          lineGap_adjacent (cuts off ++ SE.finBounds (.mk a bb)) a bb (fun c hc => List.mem_append_right _ hc) hne x hx
        refine ⟨q :: r', ?_, by simp [hlen], fun t ht0 ht1 => ?_⟩
        · simp only [gapsIn, List.mem_flatMap, List.mem_filter, List.mem_map, Bool.and_eq_true, Bool.not_eq_true',
            List.contains_eq_mem, decide_eq_false_iff_not]
          exact ⟨q, ⟨hq, hsin, hnot⟩, r', hr', rfl⟩
        · obtain ⟨hC1, hC2⟩ := hC t ht0 ht1
          have hS := hseg t ht0 ht1
          exact ⟨⟨hS.mono (fun c hc => List.mem_append_left _ hc), hC1⟩,
            List.Forall₂.cons ((smem_itv_side hS (fun c hc => List.mem_append_right _ hc)).2 ((sinItv_iff q _).1 hsin)) hC2⟩

/-! ### soundness of the checkers -/

/-- rule (B) of the header of Props/C19set.lean (`okB` decides it at a rational point): claim of a leaf of status `st` at any of its points: a YES leaf is possibly in, a NO
    leaf is not certainly in -/
def ClaimB (e : SE) (st : St) (p : Pt) : Prop :=
  match st with
  | .yes => e.Hi p
  | .no => ¬ e.Lo p
  | .maybe => True

/-- rule (R) of the header of Props/C19set.lean (`okR` decides it at a rational point): claim of a leaf of status `st` inside its
    full-dimensional cells: a YES leaf is certainly in, a NO leaf certainly out -/
def ClaimR (e : SE) (st : St) (p : Pt) : Prop :=
  match st with
  | .yes => e.Lo p
  | .no => ¬ e.Hi p
  | .maybe => True

theorem okB_cell {cuts : Nat → List Rat} {e : SE} (hb : e.boxy = true) (hc : ∀ j c, c ∈ e.cuts j → c ∈ cuts j)
    {p : Pt} {r : RPt} (h : SameCell cuts 0 p r) (st : St) : ClaimB e st p ↔ okB e st r = true := by
  obtain ⟨h1, h2⟩ := sem_cell e hb hc h
  cases st
  · exact h2
  · simp only [ClaimB, okB, SE.Lo, SE.lo, h1, Bool.not_eq_true', Bool.not_eq_true]
  · simp [ClaimB, okB]

theorem okR_cell {cuts : Nat → List Rat} {e : SE} (hb : e.boxy = true) (hc : ∀ j c, c ∈ e.cuts j → c ∈ cuts j)
    {p : Pt} {r : RPt} (h : SameCell cuts 0 p r) (st : St) : ClaimR e st p ↔ okR e st r = true := by
  obtain ⟨h1, h2⟩ := sem_cell e hb hc h
  cases st
  · exact h1
  · simp only [ClaimR, okR, SE.Hi, SE.hi, h2, Bool.not_eq_true', Bool.not_eq_true]
  · simp [ClaimR, okR]

theorem fastCuts_contains (e : SE) (n j : Nat) (c : Rat) (h : c ∈ e.cuts j) : c ∈ e.fastCuts (e.cutTable n) j := by
  unfold SE.fastCuts SE.cutTable
  rw [List.getElem?_map]
  by_cases hj : j < n
  · rw [List.getElem?_range hj]
    exact mem_sortCuts.2 h
  · rw [List.getElem?_eq_none (by simpa using not_lt.1 hj)]
    exact h

/-- a leaf accepted by the cell rules: (1) [sets] the claim `ClaimB` holds at EVERY real point of the leaf;
    (2) if the leaf is not flat, every real point `p` of the leaf is the end of a segment `p + t (m - p)`, `0 < t <= 1`,
    lying strictly inside the leaf, on which the strong claim `ClaimR` holds (p is a limit of such points) -/
theorem leafOkW_sound {cuts : Nat → List Rat} {e : SE} (hb : e.boxy = true) (hc : ∀ j c, c ∈ e.cuts j → c ∈ cuts j)
    {iset : Bool} {L : Leaf} (h : leafOkW cuts iset e L = true) :
    (iset = false → ∀ p, Box.Mem p L.box → ClaimB e L.st p) ∧
    (NonFlat L.box → ∀ p, Box.Mem p L.box →
      ∃ m : RPt, m.length = p.length ∧
        ∀ t : ℝ, 0 < t → t ≤ 1 → SMem (seg t p m) L.box ∧ ClaimR e L.st (seg t p m)) := by
  by_cases hm : L.st = .maybe
  · refine ⟨fun _ p _ => by rw [hm]; trivial, fun hnf p hp => ?_⟩
    obtain ⟨r, _, hlen, hr⟩ := gapsIn_complete cuts L.box 0 p hp hnf
    exact ⟨r, hlen, fun t h0 h1 => ⟨(hr t h0 h1).2, by rw [hm]; trivial⟩⟩
  · have h' : (iset = true ∨ (repsIn cuts 0 L.box).all (okB e L.st) = true) ∧ (gapsIn cuts 0 L.box).all (okR e L.st) = true := by
      simpa [leafOkW, hm] using h
    obtain ⟨hB, hR⟩ := h'
    refine ⟨fun hi p hp => ?_, fun hnf p hp => ?_⟩
    · have hall : (repsIn cuts 0 L.box).all (okB e L.st) = true := by
        rcases hB with hB | hB
        · rw [hi] at hB; cases hB
        · exact hB
      obtain ⟨r, hr, hC⟩ := repsIn_complete cuts L.box 0 p hp
      exact (okB_cell hb hc hC L.st).2 (List.all_eq_true.1 hall r hr)
    · obtain ⟨r, hr, hlen, hC⟩ := gapsIn_complete cuts L.box 0 p hp hnf
      exact ⟨r, hlen, fun t h0 h1 => ⟨(hC t h0 h1).2, (okR_cell hb hc (hC t h0 h1).1 L.st).2 (List.all_eq_true.1 hR r hr)⟩⟩

theorem uncovered_sound {p : Pt} : ∀ (leaves : List Leaf) (acc : List Box), (∀ L ∈ leaves, L.box.length = p.length) →
    (∃ x ∈ acc, Box.Mem p x) → (∀ L ∈ leaves, ¬ Box.Mem p L.box) → ∃ x ∈ uncovered leaves acc, Box.Mem p x
  | [], acc, _, h, _ => by simpa [uncovered] using h
  | L :: ls, acc, hl, ⟨x, hx, hpx⟩, hn => by
    have : uncovered (L :: ls) acc = uncovered ls (acc.flatMap fun x => Box.diff x L.box) := by
      simp [uncovered]
    rw [this]
    refine uncovered_sound ls _ (fun L' h' => hl L' (List.mem_cons_of_mem _ h')) ?_
      (fun L' h' => hn L' (List.mem_cons_of_mem _ h'))
    obtain ⟨b, hb, hpb⟩ := Box.diff_cover (hpx.length_eq.symm.trans (hl L (List.mem_cons_self ..)).symm) hpx
      (hn L (List.mem_cons_self ..))
    exact ⟨b, List.mem_flatMap.2 ⟨x, hx, hb⟩, hpb⟩

theorem coverOk_sound {n : Nat} {leaves : List Leaf} (h : coverOk n leaves = true) (p : Pt) (hp : p.length = n) :
    ∃ L ∈ leaves, Box.Mem p L.box := by
  simp only [coverOk, Bool.and_eq_true, List.all_eq_true, beq_iff_eq] at h
  obtain ⟨hlen, hall⟩ := h
  by_contra hcon
  simp only [not_exists, not_and] at hcon
  have hm : Box.Mem p (List.replicate n Itv.all) := Box.mem_replicate_all hp
  obtain ⟨x, hx, hpx⟩ := uncovered_sound leaves [List.replicate n Itv.all] (fun L hL => (hlen L hL).trans hp.symm)
    ⟨_, List.mem_singleton_self _, hm⟩ hcon
  exact Box.not_mem_of_isEmpty (hall x hx) hpx

/-- soundness of the paving checker, for all real points, any dimension, any number of leaves, any boxy expression -/
theorem paving_sound {iset : Bool} {e : SE} {n : Nat} {leaves : List Leaf} (h : pavingOk iset e n leaves = true) :
    (∀ p : Pt, p.length = n → ∃ L ∈ leaves, Box.Mem p L.box) ∧
    ∀ L ∈ leaves,
      (iset = false → ∀ p, Box.Mem p L.box → ClaimB e L.st p) ∧
      (NonFlat L.box → ∀ p, Box.Mem p L.box →
        ∃ m : RPt, m.length = p.length ∧
          ∀ t : ℝ, 0 < t → t ≤ 1 → SMem (seg t p m) L.box ∧ ClaimR e L.st (seg t p m)) := by
  simp only [pavingOk, Bool.and_eq_true, List.all_eq_true] at h
  obtain ⟨⟨hb, hcov⟩, hl⟩ := h
  exact ⟨fun p hp => coverOk_sound hcov p hp, fun L hL => leafOkW_sound hb (fastCuts_contains e n) (hl L hL)⟩

/-- `is_superset(B) = YES` accepted: every point of `B` is possibly in, and (B not flat) is a limit of points of `B`
    that are certainly in -/
theorem supOk_sound {e : SE} {n : Nat} {B : Box} (h : supOk e n B = true) :
    (∀ p, Box.Mem p B → e.Hi p) ∧
    (NonFlat B → ∀ p, Box.Mem p B →
      ∃ m : RPt, m.length = p.length ∧ ∀ t : ℝ, 0 < t → t ≤ 1 → SMem (seg t p m) B ∧ e.Lo (seg t p m)) := by
  simp only [supOk, Bool.and_eq_true] at h
  obtain ⟨h1, h2⟩ := leafOkW_sound h.1 (fastCuts_contains e n) h.2
  exact ⟨fun p hp => h1 rfl p hp, h2⟩

/-- the separator contract decided on the outputs of `Sep::separate`: every real point removed from the inner box is
    certainly in the set, every real point removed from the outer box is certainly not in it -/
theorem sepOk_sound {e : SE} {x xin xout : Box} (h : sepOk e x xin xout = true) (p : Pt) (hp : Box.Mem p x) :
    (¬ Box.Mem p xin → e.Lo p) ∧ (¬ Box.Mem p xout → ¬ e.Hi p) := by
  simp only [sepOk, Bool.and_eq_true, List.all_eq_true] at h
  obtain ⟨hb, hall⟩ := h
  obtain ⟨r, hr, hC⟩ := repsIn_complete _ x 0 p hp
  have hc : ∀ j c, c ∈ e.cuts j → c ∈ sepCuts (e.fastCuts (e.cutTable x.length)) xin xout j := fun j c hj =>
    List.mem_append_left _ (fastCuts_contains e _ j c hj)
  obtain ⟨h1, h2⟩ := sem_cell e hb hc hC
  have hin : Box.Mem p xin ↔ inBox r xin = true := mem_box_cell hC (fun i I hI c hcI => by
    rw [Nat.zero_add]
    exact List.mem_append_right _ (List.mem_append_left _ (mem_boxCuts hI hcI)))
  have hout : Box.Mem p xout ↔ inBox r xout = true := mem_box_cell hC (fun i I hI c hcI => by
    rw [Nat.zero_add]
    exact List.mem_append_right _ (List.mem_append_right _ (mem_boxCuts hI hcI)))
  have := hall r hr
  simp only [sepOkAt, Bool.and_eq_true, Bool.or_eq_true, Bool.not_eq_true'] at this
  obtain ⟨a1, a2⟩ := this
  refine ⟨fun hn => ?_, fun hn => ?_⟩
  · rcases a1 with a | a
    · exact absurd (hin.2 a) hn
    · exact h1.2 a
  · rcases a2 with a | a
    · exact absurd (hout.2 a) hn
    · intro hh
      have := h2.1 hh
      rw [SE.hi] at a
      rw [a] at this
      cases this

/-- consistency of the information of an i-set: no real point is certainly in and certainly out -/
theorem consistentOk_sound {e : SE} {n : Nat} (hb : e.boxy = true) (h : consistentOk e n = true) (p : Pt)
    (hp : p.length = n) : e.Lo p → e.Hi p := by
  simp only [consistentOk, List.all_eq_true] at h
  have hm : Box.Mem p (List.replicate n Itv.all) := Box.mem_replicate_all hp
  obtain ⟨r, hr, hC⟩ := repsIn_complete _ _ 0 p hm
  obtain ⟨h1, h2⟩ := sem_cell e hb (fastCuts_contains e n) hC
  have := h r hr
  simp only [incons, SE.lo, SE.hi, Bool.not_eq_true', Bool.and_eq_false_iff, Bool.not_eq_false'] at this
  intro hlo
  rcases this with a | a
  · have := h1.1 hlo
    rw [a] at this; cases this
  · exact h2.2 a

/-- refutation by an exact point (EVERY expression, also with polynomial constraints): the real point of `r` belongs to
    the leaf (to its interior for an i-set) and contradicts the label: YES but certainly not in the set, or NO but
    certainly in the set -/
theorem leafRefuted_sound {iset : Bool} {e : SE} {L : Leaf} {pts : List RPt} {r : RPt}
    (h : leafRefuted iset e L pts = some r) :
    (if iset = true then SMem (castPt r) L.box else Box.Mem (castPt r) L.box) ∧
    ((L.st = .yes ∧ ¬ e.Hi (castPt r)) ∨ (L.st = .no ∧ e.Lo (castPt r))) := by
  have := List.find?_some h
  simp only [Bool.and_eq_true, Bool.not_eq_true'] at this
  obtain ⟨hin, hok⟩ := this
  constructor
  · cases iset
    · simpa [inBox_iff] using hin
    · simpa [sinBox_iff] using hin
  · cases hst : L.st
    · left
      refine ⟨rfl, fun hh => ?_⟩
      have := (hi_cast e r).1 hh
      simp [okB, hst, this] at hok
    · right
      refine ⟨rfl, (lo_cast e r).2 ?_⟩
      simpa [okB, hst] using hok
    · simp [okB, hst] at hok

/-! ### the derived forms denote the set operations they name -/

@[simp] theorem sem_none (p : Pt) : SE.none.sem p = (¬ True, ¬ True) := rfl

theorem lo_none (p : Pt) : ¬ SE.none.Lo p := by simp [SE.Lo]
theorem hi_none (p : Pt) : ¬ SE.none.Hi p := by simp [SE.Hi]

/-- separator leaf (U,V): certainly in = outside every box of V; possibly in = inside some box of U -/
theorem lo_leaf (U V : List Box) (p : Pt) : (SE.leaf U V).Lo p ↔ ¬ InAny p V := Iff.rfl
theorem hi_leaf (U V : List Box) (p : Pt) : (SE.leaf U V).Hi p ↔ InAny p U := Iff.rfl

theorem lo_not (s : SE) (p : Pt) : (SE.not s).Lo p ↔ ¬ s.Hi p := Iff.rfl
theorem hi_not (s : SE) (p : Pt) : (SE.not s).Hi p ↔ ¬ s.Lo p := Iff.rfl
theorem lo_inter (a b : SE) (p : Pt) : (SE.inter a b).Lo p ↔ a.Lo p ∧ b.Lo p := Iff.rfl
theorem hi_inter (a b : SE) (p : Pt) : (SE.inter a b).Hi p ↔ a.Hi p ∧ b.Hi p := Iff.rfl
theorem lo_union (a b : SE) (p : Pt) : (SE.union a b).Lo p ↔ a.Lo p ∨ b.Lo p := Iff.rfl
theorem hi_union (a b : SE) (p : Pt) : (SE.union a b).Hi p ↔ a.Hi p ∨ b.Hi p := Iff.rfl
theorem lo_meet (a b : SE) (p : Pt) : (SE.meet a b).Lo p ↔ a.Lo p ∨ b.Lo p := Iff.rfl
theorem hi_meet (a b : SE) (p : Pt) : (SE.meet a b).Hi p ↔ a.Hi p ∧ b.Hi p := Iff.rfl

/-- a reading `V` of the expressions as truth values (`Lo` or `Hi` at a point) for which `univ`, `none`, `inter`,
    `union` are true, false, and, or: the list forms are then the quantifiers over the list -/
structure Reads (V : SE → Prop) : Prop where
  univ : V .univ
  none : ¬ V .none
  inter : ∀ a b, V (.inter a b) ↔ V a ∧ V b
  union : ∀ a b, V (.union a b) ↔ V a ∨ V b

theorem reads_lo (p : Pt) : Reads (·.Lo p) := ⟨trivial, lo_none p, fun _ _ => Iff.rfl, fun _ _ => Iff.rfl⟩
theorem reads_hi (p : Pt) : Reads (·.Hi p) := ⟨trivial, hi_none p, fun _ _ => Iff.rfl, fun _ _ => Iff.rfl⟩

namespace Reads
variable {V : SE → Prop} (hV : Reads V)
include hV

theorem interL : ∀ l : List SE, V (SE.interL l) ↔ ∀ s ∈ l, V s
  | [] => iff_of_true hV.univ fun _ h => nomatch h
  | [a] => List.forall_mem_singleton.symm
  | a :: b :: l => by
    show V (.inter a (SE.interL (b :: l))) ↔ _
    rw [hV.inter, interL (b :: l)]
    exact List.forall_mem_cons.symm

theorem unionL : ∀ l : List SE, V (SE.unionL l) ↔ ∃ s ∈ l, V s
  | [] => iff_of_false hV.none fun ⟨_, h, _⟩ => nomatch h
  | [a] => ⟨fun h => ⟨a, List.mem_singleton_self a, h⟩, fun ⟨_, hs, h⟩ => List.mem_singleton.1 hs ▸ h⟩
  | a :: b :: l => by
    show V (.union a (SE.unionL (b :: l))) ↔ _
    rw [hV.union, unionL (b :: l)]
    exact (List.exists_mem_cons_iff V a (b :: l)).symm

/-- `atLeast k l`: the points that are in all the sets of some sub-list of `k` of them (as `atLeast` of C19) -/
theorem atLeast : ∀ (l : List SE) (k : Nat),
    V (SE.atLeast k l) ↔ ∃ sub : List SE, sub.Sublist l ∧ sub.length = k ∧ ∀ s ∈ sub, V s
  | l, 0 => by
    have : SE.atLeast 0 l = .univ := by cases l <;> rfl
    rw [this]
    exact iff_of_true hV.univ ⟨[], List.nil_sublist l, rfl, fun _ h => nomatch h⟩
  | [], k + 1 => iff_of_false hV.none fun ⟨sub, hs, hl, _⟩ => by
    rw [List.sublist_nil.1 hs] at hl
    cases hl
  | a :: l, k + 1 => by
    rw [SE.atLeast, hV.union, hV.inter, atLeast l k, atLeast l (k + 1)]
    constructor
    · rintro (⟨ha, sub, hs, hl, hall⟩ | ⟨sub, hs, hl, hall⟩)
      · exact ⟨a :: sub, hs.cons_cons a, congrArg (· + 1) hl, List.forall_mem_cons.2 ⟨ha, hall⟩⟩
      · exact ⟨sub, hs.cons a, hl, hall⟩
    · rintro ⟨sub, hs, hl, hall⟩
      cases hs with
      | cons _ hs' => exact Or.inr ⟨sub, hs', hl, hall⟩
      | @cons_cons sub' _ _ hs' =>
        obtain ⟨ha, hall'⟩ := List.forall_mem_cons.1 hall
        exact Or.inl ⟨ha, sub', hs', Nat.succ.inj hl, hall'⟩

end Reads

end Ibex.SetPaving
