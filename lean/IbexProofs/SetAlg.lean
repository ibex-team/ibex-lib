/-
  The set algebra of `IbexModel.Box` (inter, subset, intersects, overlaps, diff, complementary) and the box
  bisection certificate over real points: `Box.Mem p b` is component-wise membership, each box fact is the
  interval fact of `SetItv.lean` on every component, and `Box.diff` is followed through its peeling loop.
-/
import IbexProofs.SetItv

namespace Ibex
open Ibex

/-! ## Boxes -/

def Box.Mem (p : List ℝ) (b : Box) : Prop := List.Forall₂ (fun x I => x ∈ I) p b

theorem Box.mem_nil : Box.Mem [] [] := List.Forall₂.nil

theorem Box.mem_cons {t : ℝ} {ps : List ℝ} {I : Itv} {bs : Box} :
    Box.Mem (t :: ps) (I :: bs) ↔ t ∈ I ∧ Box.Mem ps bs := List.forall₂_cons

theorem Box.Mem.length_eq {p : List ℝ} {b : Box} (h : Box.Mem p b) : p.length = b.length :=
  List.Forall₂.length_eq h

theorem Box.mem_iff {p : List ℝ} {b : Box} :
    Box.Mem p b ↔
      p.length = b.length ∧
        ∀ (i : Nat) (t : ℝ) (I : Itv), p[i]? = some t → b[i]? = some I → t ∈ I :=
  forall₂_iff_getElem?

theorem Box.Mem.exists_getElem? {p : List ℝ} {x : Box} {i : Nat} {xi : Itv} (hm : Box.Mem p x)
    (hi : x[i]? = some xi) : ∃ t : ℝ, p[i]? = some t ∧ t ∈ xi := by
  obtain ⟨hlt, -⟩ := List.getElem?_eq_some_iff.1 hi
  have hp : i < p.length := hm.length_eq ▸ hlt
  exact ⟨p[i], List.getElem?_eq_getElem hp, (Box.mem_iff.1 hm).2 i _ xi (List.getElem?_eq_getElem hp) hi⟩

theorem Box.mem_set {p : List ℝ} {x : Box} {i : Nat} {t : ℝ} {c : Itv} (hm : Box.Mem p x)
    (ht : p[i]? = some t) (hc : t ∈ c) : Box.Mem p (x.set i c) :=
  forall₂_set_right hm ht hc

theorem Box.mem_set_cover {q : List ℝ} {y : Box} (hq : Box.Mem q y) {i : Nat} {I Jl Jr : Itv} (hi : y[i]? = some I)
    (hcov : ∀ v : ℝ, v ∈ I → v ∈ Jl ∨ v ∈ Jr) : Box.Mem q (y.set i Jl) ∨ Box.Mem q (y.set i Jr) := by
  obtain ⟨t, ht, htI⟩ := hq.exists_getElem? hi
  exact (hcov t htI).imp (Box.mem_set hq ht) (Box.mem_set hq ht)

theorem Box.nonempty_set {y : Box} {i : Nat} {J : Itv} (hy : ∃ q, Box.Mem q y) (hJ : ∃ v : ℝ, v ∈ J) :
    ∃ q, Box.Mem q (y.set i J) := by
  obtain ⟨q, hq⟩ := hy
  obtain ⟨v, hv⟩ := hJ
  exact ⟨q.set i v, forall₂_set hq i hv⟩

theorem Box.mem_of_mem_set {p : List ℝ} {x : Box} {i : Nat} {xi c : Itv} (hi : x[i]? = some xi)
    (hc : ∀ t : ℝ, t ∈ c → t ∈ xi) (hm : Box.Mem p (x.set i c)) : Box.Mem p x := by
  rw [Box.mem_iff] at hm ⊢
  obtain ⟨hl, h⟩ := hm
  obtain ⟨hlt, -⟩ := List.getElem?_eq_some_iff.1 hi
  refine ⟨by simpa using hl, fun j t I h1 h2 => ?_⟩
  by_cases e : i = j
  · subst e
    rw [hi] at h2
    injection h2 with h2
    subst h2
    exact hc t (h i t c h1 (by simp [hlt]))
  · exact h j t I h1 (by rw [List.getElem?_set_ne e]; exact h2)

/-! ### 12. empty boxes have no point -/

theorem Itv.isEmpty_eq_false_of_mem {x : ℝ} {X : Itv} (hx : x ∈ X) : X.isEmpty = false := by
  cases X with
  | empty => exact absurd hx (Itv.not_mem_empty x)
  | mk a b => rfl

theorem Box.not_mem_of_isEmpty {p : List ℝ} {b : Box} (h : Box.isEmpty b = true) :
    ¬ Box.Mem p b := by
  intro hm
  induction hm with
  | nil => simp [Box.isEmpty] at h
  | cons hx _ ih =>
    simp only [Box.isEmpty, List.any_cons, Bool.or_eq_true] at h
    rcases h with h | h
    · rw [Itv.isEmpty_eq_false_of_mem hx] at h; exact Bool.false_ne_true h
    · exact ih h

theorem Box.isEmpty_eq_false_of_mem {p : List ℝ} {b : Box} (hm : Box.Mem p b) :
    Box.isEmpty b = false := by
  cases h : Box.isEmpty b with
  | false => rfl
  | true => exact absurd hm (Box.not_mem_of_isEmpty h)

/-! ### 13. intersection -/

theorem Box.mem_zipWith_left {f : Itv → Itv → Itv} (hf : ∀ (v : ℝ) I J, v ∈ I → v ∈ f I J) {p : List ℝ} {a b : Box}
    (ha : Box.Mem p a) (hl : a.length = b.length) : Box.Mem p (List.zipWith f a b) := by
  induction ha generalizing b with
  | nil => cases b with
    | nil => exact List.Forall₂.nil
    | cons _ _ => simp at hl
  | cons hv _ ih =>
    cases b with
    | nil => simp at hl
    | cons J b => exact List.Forall₂.cons (hf _ _ J hv) (ih (by simpa using hl))

theorem Box.mem_zipWith_right {f : Itv → Itv → Itv} (hf : ∀ (v : ℝ) I J, v ∈ J → v ∈ f I J) {p : List ℝ} {a b : Box}
    (hb : Box.Mem p b) (hl : a.length = b.length) : Box.Mem p (List.zipWith f a b) := by
  induction hb generalizing a with
  | nil => cases a with
    | nil => exact List.Forall₂.nil
    | cons _ _ => simp at hl
  | cons hv _ ih =>
    cases a with
    | nil => simp at hl
    | cons I a => exact List.Forall₂.cons (hf _ I _ hv) (ih (by simpa using hl))

theorem Box.mem_inter {p : List ℝ} {x y : Box} (hl : x.length = y.length) :
    Box.Mem p (Box.inter x y) ↔ Box.Mem p x ∧ Box.Mem p y := by
  induction x generalizing y p with
  | nil =>
    cases y with
    | nil => simp [Box.inter]
    | cons Y ys => simp at hl
  | cons X xs ih =>
    cases y with
    | nil => simp at hl
    | cons Y ys =>
      have hl' : xs.length = ys.length := by simpa using hl
      cases p with
      | nil => simp [Box.Mem, Box.inter]
      | cons t ps =>
        have e : Box.inter (X :: xs) (Y :: ys) = Itv.inter X Y :: Box.inter xs ys := rfl
        rw [e, Box.mem_cons, Box.mem_cons, Box.mem_cons, ih hl', Itv.mem_inter]
        tauto

/-! ### 14. subset, intersects, overlaps -/

theorem Box.all2_iff {f : Itv → Itv → Bool} : ∀ {x y : Box},
    Box.all2 f x y = true ↔ List.Forall₂ (fun X Y => f X Y = true) x y
  | [], [] => iff_of_true rfl .nil
  | [], _ :: _ => iff_of_false (nomatch ·) (nomatch ·)
  | _ :: _, [] => iff_of_false (nomatch ·) (nomatch ·)
  | X :: xs, Y :: ys => by rw [Box.all2, Bool.and_eq_true, List.forall₂_cons, Box.all2_iff]

theorem Box.mem_of_all2 {f : Itv → Itv → Bool}
    (hf : ∀ (X Y : Itv) (t : ℝ), f X Y = true → t ∈ X → t ∈ Y)
    {p : List ℝ} {x y : Box} (h : Box.all2 f x y = true) (hm : Box.Mem p x) : Box.Mem p y :=
  forall₂_comp hm (Box.all2_iff.1 h) fun t X Y ht hs => hf X Y t hs ht

theorem Box.all2_of_mem {f : Itv → Itv → Bool}
    (hf : ∀ (X Y : Itv) (t : ℝ), t ∈ X → t ∈ Y → f X Y = true)
    {p : List ℝ} {x y : Box} (hx : Box.Mem p x) (hy : Box.Mem p y) : Box.all2 f x y = true :=
  Box.all2_iff.2 (forall₂_comp hx.flip hy fun X t Y h1 h2 => hf X Y t h1 h2)

theorem Box.subset_sound {p : List ℝ} {x y : Box} (h : Box.subset x y = true)
    (hm : Box.Mem p x) : Box.Mem p y := by
  simp only [Box.subset, Box.isEmpty_eq_false_of_mem hm, Bool.false_or, Bool.and_eq_true] at h
  exact Box.mem_of_all2 (fun X Y t hs ht => Itv.mem_of_subset hs ht) h.2 hm

theorem Box.intersects_of_common_point {p : List ℝ} {x y : Box} (hx : Box.Mem p x)
    (hy : Box.Mem p y) : Box.intersects x y = true := by
  simp only [Box.intersects, Box.isEmpty_eq_false_of_mem hx, Box.isEmpty_eq_false_of_mem hy,
    Bool.not_false, Bool.true_and]
  exact Box.all2_of_mem (fun X Y t h1 h2 => Itv.intersects_of_mem h1 h2) hx hy

/-- `Box.overlaps` implies a common sub-box of positive volume, provided no component is degenerate
    (for a degenerate component the scalar `overlaps` does not have this meaning, see section 6 of `SetItv.lean`:
    `x = [[1,1]]`, `y = [[0,2]]` is a counterexample). -/
theorem Box.overlaps_sound {x y : Box}
    (hx : ∀ I ∈ x, I.WF = true ∧ I.isDegenerated = false)
    (hy : ∀ I ∈ y, I.WF = true ∧ I.isDegenerated = false)
    (h : Box.overlaps x y = true) :
    ∃ u v : List ℝ, List.Forall₂ (· < ·) u v ∧
      ∀ t, List.Forall₂ (· ≤ ·) u t → List.Forall₂ (· ≤ ·) t v → Box.Mem t x ∧ Box.Mem t y := by
  simp only [Box.overlaps, Bool.and_eq_true] at h
  have h := h.2
  clear * - h hx hy
  induction x generalizing y with
  | nil =>
    cases y with
    | nil =>
      refine ⟨[], [], List.Forall₂.nil, fun t ht _ => ?_⟩
      rw [List.forall₂_nil_left_iff] at ht
      subst ht
      exact ⟨Box.mem_nil, Box.mem_nil⟩
    | cons Y ys => simp [Box.all2] at h
  | cons X xs ih =>
    cases y with
    | nil => simp [Box.all2] at h
    | cons Y ys =>
      simp only [Box.all2, Bool.and_eq_true] at h
      obtain ⟨hX, hXd⟩ := hx X (by simp)
      obtain ⟨hY, hYd⟩ := hy Y (by simp)
      obtain ⟨u0, v0, huv, H0⟩ := (Itv.overlaps_iff hX hY hXd hYd).1 h.1
      obtain ⟨us, vs, huvs, Hs⟩ := ih (fun I hI => hx I (by simp [hI]))
        (fun I hI => hy I (by simp [hI])) h.2
      refine ⟨u0 :: us, v0 :: vs, List.Forall₂.cons huv huvs, fun t h1 h2 => ?_⟩
      cases t with
      | nil => simp at h1
      | cons t0 ts =>
        rw [List.forall₂_cons] at h1 h2
        have a := H0 t0 h1.1 h2.1
        have b := Hs ts h1.2 h2.2
        exact ⟨Box.mem_cons.2 ⟨a.1, b.1⟩, Box.mem_cons.2 ⟨a.2, b.2⟩⟩

/-- converse (unconditional): a common sub-box of positive volume forces `Box.overlaps` -/
theorem Box.overlaps_complete {x y : Box}
    (h : ∃ u v : List ℝ, List.Forall₂ (· < ·) u v ∧
      ∀ t, List.Forall₂ (· ≤ ·) u t → List.Forall₂ (· ≤ ·) t v → Box.Mem t x ∧ Box.Mem t y) :
    Box.overlaps x y = true := by
  obtain ⟨u, v, huv, H⟩ := h
  have hle : List.Forall₂ (· ≤ ·) u v := huv.imp fun _ _ h => le_of_lt h
  have hu := H u (List.forall₂_refl u) hle
  simp only [Box.overlaps, Box.isEmpty_eq_false_of_mem hu.1, Box.isEmpty_eq_false_of_mem hu.2,
    Bool.not_false, Bool.true_and]
  clear hu hle
  induction huv generalizing x y with
  | nil =>
    have := H [] List.Forall₂.nil List.Forall₂.nil
    have h1 := this.1.length_eq
    have h2 := this.2.length_eq
    cases x with
    | nil =>
      cases y with
      | nil => rfl
      | cons _ _ => simp at h2
    | cons _ _ => simp at h1
  | @cons u0 v0 us vs h0 hs ih =>
    have hles : List.Forall₂ (· ≤ ·) us vs := hs.imp fun _ _ h => le_of_lt h
    have hu := H (u0 :: us) (List.forall₂_refl _) (List.Forall₂.cons h0.le hles)
    cases x with
    | nil => have := hu.1.length_eq; simp at this
    | cons X xs =>
      cases y with
      | nil => have := hu.2.length_eq; simp at this
      | cons Y ys =>
        simp only [Box.all2, Bool.and_eq_true]
        constructor
        · refine Itv.overlaps_of_segment h0 fun t h1 h2 => ?_
          have := H (t :: us) (List.Forall₂.cons h1 (List.forall₂_refl _))
            (List.Forall₂.cons h2 hles)
          exact ⟨(Box.mem_cons.1 this.1).1, (Box.mem_cons.1 this.2).1⟩
        · refine ih fun ts h1 h2 => ?_
          have := H (u0 :: ts) (List.Forall₂.cons (le_refl _) h1) (List.Forall₂.cons h0.le h2)
          exact ⟨(Box.mem_cons.1 this.1).2, (Box.mem_cons.1 this.2).2⟩


/-! ### 15. box difference -/

theorem Box.diffLoop_zero {y z x : Box} {var : Nat} : Box.diffLoop y z 0 var x = [] := rfl

theorem Box.diffLoop_succ {y z x : Box} {fuel var : Nat} {xv yv zv : Itv}
    (h1 : x[var]? = some xv) (h2 : y[var]? = some yv) (h3 : z[var]? = some zv) :
    Box.diffLoop y z (fuel + 1) var x =
      if Itv.diff xv yv = [] then Box.diffLoop y z fuel (var + 1) x
      else (Itv.diff xv yv).map (fun c => x.set var c) ++
        Box.diffLoop y z fuel (var + 1) (x.set var zv) := by
  simp only [Box.diffLoop, h1, h2, h3, Box.setAt]
  cases hd : Itv.diff xv yv with
  | nil => simp
  | cons c cs => simp

/-- one step of the peeling loop, as membership: a piece of the scalar difference on component `var`, or a box of
    the rest of the loop -/
theorem Box.mem_diffLoop_succ {y z x b : Box} {fuel var : Nat} :
    b ∈ Box.diffLoop y z (fuel + 1) var x ↔
      ∃ xv yv zv, x[var]? = some xv ∧ y[var]? = some yv ∧ z[var]? = some zv ∧
        ((∃ c ∈ Itv.diff xv yv, x.set var c = b) ∨
          b ∈ Box.diffLoop y z fuel (var + 1) (if Itv.diff xv yv = [] then x else x.set var zv)) := by
  cases h1 : x[var]? with
  | none => simp [Box.diffLoop, h1]
  | some xv =>
    cases h2 : y[var]? with
    | none => simp [Box.diffLoop, h1, h2]
    | some yv =>
      cases h3 : z[var]? with
      | none => simp [Box.diffLoop, h1, h2, h3]
      | some zv =>
        rw [Box.diffLoop_succ h1 h2 h3]
        by_cases hd : Itv.diff xv yv = []
        · simp [hd]
        · simp [hd, List.mem_append, List.mem_map]

/-- the boxes of the peeling loop are inside the running box, in the form the induction needs: `z` is component-wise inside the running box on
    the not yet processed components -/
theorem Box.diffLoop_subset {p : List ℝ} {y z b : Box} : ∀ (fuel var : Nat) (x : Box),
    (∀ (j : Nat) (zj xj : Itv), var ≤ j → z[j]? = some zj → x[j]? = some xj →
      ∀ t : ℝ, t ∈ zj → t ∈ xj) →
    b ∈ Box.diffLoop y z fuel var x → Box.Mem p b → Box.Mem p x := by
  intro fuel
  induction fuel with
  | zero => intro var x _ hb; simp [Box.diffLoop_zero] at hb
  | succ fuel ih =>
    intro var x inv hb hm
    obtain ⟨xv, yv, zv, h1, h2, h3, hb⟩ := Box.mem_diffLoop_succ.1 hb
    rcases hb with ⟨c, hc, rfl⟩ | hb
    · exact Box.mem_of_mem_set h1 (fun t ht => Itv.diff_subset hc ht) hm
    · split at hb
      · exact ih (var + 1) x (fun j zj xj hj => inv j zj xj (by omega)) hb hm
      · have hm' := ih (var + 1) (x.set var zv) (fun j zj xj hj hz hx => by
          rw [List.getElem?_set_ne (by omega)] at hx
          exact inv j zj xj (by omega) hz hx) hb hm
        exact Box.mem_of_mem_set h1 (inv var zv xv (le_refl _) h3 h1) hm'

theorem Box.inter_getElem? {x y : Box} {j : Nat} {zj : Itv}
    (h : (Box.inter x y)[j]? = some zj) :
    ∃ xj yj, x[j]? = some xj ∧ y[j]? = some yj ∧ zj = Itv.inter xj yj := by
  obtain ⟨xj, yj, h1, h2, h3⟩ := List.getElem?_zipWith_eq_some.1 h
  exact ⟨xj, yj, h1, h2, h3.symm⟩

theorem Box.any2_exists {f : Itv → Itv → Bool} {a b : Box} (h : Box.any2 f a b = true) :
    ∃ (i : Nat) (ai bi : Itv), a[i]? = some ai ∧ b[i]? = some bi ∧ f ai bi = true := by
  induction a generalizing b with
  | nil => exact nomatch h
  | cons A as ih =>
    cases b with
    | nil => exact nomatch h
    | cons B bs =>
      rcases Bool.or_eq_true_iff.1 h with h | h
      · exact ⟨0, A, B, rfl, rfl, h⟩
      · obtain ⟨i, ai, bi, h1, h2, h3⟩ := ih h
        exact ⟨i + 1, ai, bi, h1, h2, h3⟩

/-- a box of `Box.diff x y`: `x` itself, when on some component the intersection is empty, or degenerate without
    the component of `x` being so; or a box of the peeling loop -/
theorem Box.diff_cases {x y b : Box} (hb : b ∈ Box.diff x y) :
    (b = x ∧ ∃ (i : Nat) (xi yi : Itv), x[i]? = some xi ∧ y[i]? = some yi ∧
      (Itv.inter xi yi = Itv.empty ∨
        ((Itv.inter xi yi).isDegenerated = true ∧ xi.isDegenerated = false))) ∨
    b ∈ Box.diffLoop y (Box.inter x y) x.length 0 x := by
  unfold Box.diff at hb
  split at hb
  · exact nomatch hb
  · simp only [] at hb
    split at hb
    · rename_i hz
      obtain ⟨zi, hzi, hze⟩ := List.any_eq_true.1 hz
      obtain ⟨i, hi⟩ := List.mem_iff_getElem?.1 hzi
      obtain ⟨xi, yi, h1, h2, rfl⟩ := Box.inter_getElem? hi
      refine Or.inl ⟨List.mem_singleton.1 hb, i, xi, yi, h1, h2, Or.inl ?_⟩
      cases h : Itv.inter xi yi with
      | empty => rfl
      | mk _ _ => rw [h] at hze; exact nomatch hze
    · split at hb
      · rename_i hany
        obtain ⟨i, zi, xi, hz, h1, hf⟩ := Box.any2_exists hany
        obtain ⟨xi', yi, h1', h2, rfl⟩ := Box.inter_getElem? hz
        cases h1.symm.trans h1'
        rw [Bool.and_eq_true, Bool.not_eq_true'] at hf
        exact Or.inl ⟨List.mem_singleton.1 hb, i, xi, yi, h1, h2, Or.inr hf⟩
      · exact Or.inr hb

theorem Box.diff_subset {p : List ℝ} {x y b : Box} (hb : b ∈ Box.diff x y)
    (hm : Box.Mem p b) : Box.Mem p x := by
  rcases Box.diff_cases hb with ⟨rfl, -⟩ | hb
  · exact hm
  · refine Box.diffLoop_subset _ _ _ (fun j zj xj _ hz hx t ht => ?_) hb hm
    obtain ⟨xj', yj, h1, -, rfl⟩ := Box.inter_getElem? hz
    cases hx.symm.trans h1
    exact (Itv.mem_inter.1 ht).1

/-- the boxes of the peeling loop cover, in the form the induction needs: a point of the running box that leaves `y` on a
    not yet processed component is in one of the produced boxes -/
theorem Box.diffLoop_cover {p : List ℝ} {y z : Box} : ∀ (fuel var : Nat) (x : Box),
    x.length = y.length → z.length = y.length → var + fuel = y.length →
    (∀ (j : Nat) (xj yj zj : Itv), var ≤ j → x[j]? = some xj → y[j]? = some yj →
      z[j]? = some zj → ∀ t : ℝ, t ∈ xj → t ∈ yj → t ∈ zj) →
    Box.Mem p x →
    (∃ (j : Nat) (t : ℝ) (yj : Itv), var ≤ j ∧ p[j]? = some t ∧ y[j]? = some yj ∧ ¬ t ∈ yj) →
    ∃ b ∈ Box.diffLoop y z fuel var x, Box.Mem p b := by
  intro fuel
  induction fuel with
  | zero =>
    rintro var x - - hv - - ⟨j, t, yj, hj, -, hy, -⟩
    obtain ⟨hlt, -⟩ := List.getElem?_eq_some_iff.1 hy
    omega
  | succ fuel ih =>
    rintro var x hlx hlz hv inv hm ⟨j, t, yj, hj, hpj, hyj, hnot⟩
    obtain ⟨xv, h1⟩ : ∃ xv, x[var]? = some xv := ⟨_, List.getElem?_eq_getElem (by omega)⟩
    obtain ⟨yv, h2⟩ : ∃ yv, y[var]? = some yv := ⟨_, List.getElem?_eq_getElem (by omega)⟩
    obtain ⟨zv, h3⟩ : ∃ zv, z[var]? = some zv := ⟨_, List.getElem?_eq_getElem (by omega)⟩
    obtain ⟨tv, h4, htx⟩ := hm.exists_getElem? h1
    rw [Box.diffLoop_succ h1 h2 h3]
    by_cases hty : tv ∈ yv
    · have hne : var ≠ j := by
        rintro rfl
        rw [h4] at hpj; rw [h2] at hyj
        cases hpj; cases hyj
        exact hnot hty
      split
      · exact ih (var + 1) x hlx hlz (by omega)
          (fun j xj yj zj hj => inv j xj yj zj (by omega)) hm
          ⟨j, t, yj, by omega, hpj, hyj, hnot⟩
      · obtain ⟨b, hb, hmb⟩ := ih (var + 1) (x.set var zv) (by simpa using hlx) hlz (by omega)
          (fun j xj yj zj hj hx => by
            rw [List.getElem?_set_ne (by omega)] at hx
            exact inv j xj yj zj (by omega) hx)
          (Box.mem_set hm h4 (inv var xv yv zv (le_refl _) h1 h2 h3 tv htx hty))
          ⟨j, t, yj, by omega, hpj, hyj, hnot⟩
        exact ⟨b, List.mem_append_right _ hb, hmb⟩
    · obtain ⟨c, hc, htc⟩ := Itv.diff_cover htx hty
      rw [if_neg (List.ne_nil_of_mem hc)]
      exact ⟨x.set var c, List.mem_append_left _ (List.mem_map.2 ⟨c, hc, rfl⟩),
        Box.mem_set hm h4 htc⟩

theorem Box.diff_cover {p : List ℝ} {x y : Box} (hl : x.length = y.length)
    (hx : Box.Mem p x) (hy : ¬ Box.Mem p y) : ∃ b ∈ Box.diff x y, Box.Mem p b := by
  unfold Box.diff
  rw [if_neg (by simp [Box.isEmpty_eq_false_of_mem hx])]
  simp only []
  split
  · exact ⟨x, List.mem_singleton.2 rfl, hx⟩
  · split
    · exact ⟨x, List.mem_singleton.2 rfl, hx⟩
    · refine Box.diffLoop_cover _ 0 x hl (by simp [Box.inter, hl]) (by omega) ?_ hx ?_
      · intro j xj yj zj _ h1 h2 h3 t ht1 ht2
        obtain ⟨xj', yj', h1', h2', e⟩ := Box.inter_getElem? h3
        rw [h1] at h1'; rw [h2] at h2'
        injection h1' with e1; injection h2' with e2
        subst e1; subst e2; subst e
        exact Itv.mem_inter.2 ⟨ht1, ht2⟩
      · rw [Box.mem_iff] at hy
        by_contra hcon
        apply hy
        refine ⟨hx.length_eq.trans hl, fun i t I h1 h2 => ?_⟩
        by_contra hn
        exact hcon ⟨i, t, I, Nat.zero_le _, h1, h2, hn⟩

/-! ### 16. the pieces of a box difference do not overlap the subtracted box

Two statements.  `Box.diff_no_common_box` is the semantic one (no common sub-box of positive
volume) and holds unconditionally.  `Box.diff_no_overlap` speaks about the Boolean
`Box.overlaps`; because the scalar `overlaps` answers `true` for a degenerate interval strictly
inside another one (`SetItv.lean`, section 6), it needs the hypothesis that a degenerate component `[q,q]` of `y`
only faces a degenerate component of `x`.  Counterexample without it: `x = [[0,2]]`, `y = [[1,1]]`,
`Box.diff x y = [x]` (the intersection is degenerate, nothing is removed) and
`Box.overlaps x y = true`. -/

theorem Box.all2_eq_false_of_getElem? {f : Itv → Itv → Bool} {a b : Box} {i : Nat} {ai bi : Itv}
    (h1 : a[i]? = some ai) (h2 : b[i]? = some bi) (hf : f ai bi = false) :
    Box.all2 f a b = false :=
  Bool.eq_false_iff.2 fun h =>
    Bool.false_ne_true (hf.symm.trans ((forall₂_iff_getElem?.1 (Box.all2_iff.1 h)).2 i ai bi h1 h2))

/-- every box produced by the peeling loop carries, on some not yet processed component `i`,
    a piece of the scalar difference of the running component and `y[i]` -/
theorem Box.diffLoop_piece {y z b : Box} : ∀ (fuel var : Nat) (x : Box),
    b ∈ Box.diffLoop y z fuel var x →
    ∃ (i : Nat) (xi yi c : Itv), var ≤ i ∧ x[i]? = some xi ∧ y[i]? = some yi ∧
      c ∈ Itv.diff xi yi ∧ b[i]? = some c := by
  intro fuel
  induction fuel with
  | zero => intro var x hb; simp [Box.diffLoop_zero] at hb
  | succ fuel ih =>
    intro var x hb
    obtain ⟨xv, yv, zv, h1, h2, h3, hb⟩ := Box.mem_diffLoop_succ.1 hb
    rcases hb with ⟨c, hc, rfl⟩ | hb
    · obtain ⟨hlt, -⟩ := List.getElem?_eq_some_iff.1 h1
      exact ⟨var, xv, yv, c, le_refl _, h1, h2, hc, by simp [hlt]⟩
    · split at hb
      · obtain ⟨i, xi, yi, c, hi, h⟩ := ih (var + 1) x hb
        exact ⟨i, xi, yi, c, by omega, h⟩
      · obtain ⟨i, xi, yi, c, hi, hx, h⟩ := ih (var + 1) (x.set var zv) hb
        rw [List.getElem?_set_ne (by omega)] at hx
        exact ⟨i, xi, yi, c, by omega, hx, h⟩

theorem Box.segment_of_common_box {u v : List ℝ} (huv : List.Forall₂ (· < ·) u v) {b y : Box}
    (H : ∀ t, List.Forall₂ (· ≤ ·) u t → List.Forall₂ (· ≤ ·) t v → Box.Mem t b ∧ Box.Mem t y)
    {i : Nat} {bi yi : Itv} (hb : b[i]? = some bi) (hy : y[i]? = some yi) :
    ∃ u0 v0 : ℝ, u0 < v0 ∧ ∀ t : ℝ, u0 ≤ t → t ≤ v0 → t ∈ bi ∧ t ∈ yi := by
  have hle : List.Forall₂ (· ≤ ·) u v := huv.imp fun _ _ h => le_of_lt h
  have hu := H u (List.forall₂_refl u) hle
  obtain ⟨hlt, -⟩ := List.getElem?_eq_some_iff.1 hb
  have hlu : u.length = b.length := hu.1.length_eq
  have hlv : u.length = v.length := huv.length_eq
  have h1 : u[i]? = some (u[i]'(by omega)) := List.getElem?_eq_getElem _
  have h2 : v[i]? = some (v[i]'(by omega)) := List.getElem?_eq_getElem _
  generalize u[i]'(by omega) = u0 at h1
  generalize v[i]'(by omega) = v0 at h2
  refine ⟨u0, v0, (forall₂_iff_getElem?.1 huv).2 i u0 v0 h1 h2, fun t ht1 ht2 => ?_⟩
  have := H (u.set i t) (forall₂_set_right (List.forall₂_refl u) h1 ht1)
    (forall₂_set_left hle h2 ht2)
  have hti : (u.set i t)[i]? = some t := List.getElem?_set_self (by omega)
  exact ⟨(Box.mem_iff.1 this.1).2 i t bi hti hb, (Box.mem_iff.1 this.2).2 i t yi hti hy⟩

/-- Semantic non-overlap (unconditional): a box of `diff x y` and `y` have no common sub-box of
    positive volume. -/
theorem Box.diff_no_common_box {x y b : Box} (hb : b ∈ Box.diff x y) {u v : List ℝ}
    (huv : List.Forall₂ (· < ·) u v)
    (H : ∀ t, List.Forall₂ (· ≤ ·) u t → List.Forall₂ (· ≤ ·) t v → Box.Mem t b ∧ Box.Mem t y) :
    False := by
  rcases Box.diff_cases hb with ⟨rfl, i, xi, yi, hx, hy, hz⟩ | hb
  · -- a segment of positive length inside an empty or degenerate intersection
    obtain ⟨u0, v0, h0, H0⟩ := Box.segment_of_common_box huv H hx hy
    have hu0 := Itv.mem_inter.2 (H0 u0 (le_refl _) h0.le)
    have hv0 := Itv.mem_inter.2 (H0 v0 h0.le (le_refl _))
    cases hzi : Itv.inter xi yi with
    | empty => exact Itv.not_mem_empty u0 (hzi ▸ hu0)
    | mk a c =>
      rw [hzi] at hz hu0 hv0
      have hac : a = c := hz.elim (fun e => nomatch e) fun h => by simpa [Itv.isDegenerated] using h.1
      subst hac
      exact absurd (EReal.coe_le_coe_iff.1 (le_trans hv0.2 hu0.1)) (not_le.2 h0)
  · obtain ⟨i, xi, yi, c, -, -, hy, hc, hbi⟩ := Box.diffLoop_piece _ _ _ hb
    obtain ⟨u0, v0, h0, H0⟩ := Box.segment_of_common_box huv H hbi hy
    exact Itv.diff_no_common_segment hc h0 H0

/-- Boolean non-overlap of the pieces of `diff x y` with `y`, for well-formed components, when a
    degenerate component of `y` only faces a degenerate component of `x` (see the section header
    for the counterexample otherwise). -/
theorem Box.diff_no_overlap {x y b : Box} (hx : ∀ I ∈ x, I.WF = true) (hy : ∀ I ∈ y, I.WF = true)
    (hdeg : ∀ (i : Nat) (xi : Itv) (q : Ext), x[i]? = some xi → y[i]? = some (Itv.mk q q) →
      xi.isDegenerated = true)
    (hb : b ∈ Box.diff x y) : Box.overlaps b y = false := by
  have key : ∀ {i : Nat} {bi yi : Itv}, b[i]? = some bi → y[i]? = some yi →
      Itv.overlaps bi yi = false → Box.overlaps b y = false := by
    intro i bi yi h1 h2 h3
    simp [Box.overlaps, Box.all2_eq_false_of_getElem? h1 h2 h3]
  rcases Box.diff_cases hb with ⟨rfl, i, xi, yi, h1, h2, hemp | hf⟩ | hb
  · exact key h1 h2 (Itv.overlaps_eq_false_of_inter_empty (hx xi (List.mem_of_getElem? h1))
      (hy yi (List.mem_of_getElem? h2)) hemp)
  · refine key h1 h2 (Bool.eq_false_iff.2 fun ho => ?_)
    have hxd : ¬ xi.isDegenerated = true := by simp [hf.2]
    rcases Itv.degenerate_of_overlaps_of_inter_degenerate
      (hx xi (List.mem_of_getElem? h1)) (hy yi (List.mem_of_getElem? h2)) hf.1 ho with h | h
    · exact hxd h
    · cases yi with
      | empty => rw [Itv.overlaps_empty_right] at ho; exact Bool.false_ne_true ho
      | mk c d =>
        have hcd : c = d := by simpa [Itv.isDegenerated] using h
        subst hcd
        exact hxd (hdeg i xi c h1 h2)
  · obtain ⟨i, xi, yi, c, -, h1, h2, hc, hbi⟩ := Box.diffLoop_piece _ _ _ hb
    exact key hbi h2 (Itv.diff_no_overlap hc (fun q e => hdeg i xi q h1 (e ▸ h2)))

theorem Box.diff_no_overlap_of_nondeg {x y b : Box} (hx : ∀ I ∈ x, I.WF = true)
    (hy : ∀ I ∈ y, I.WF = true) (hyd : ∀ I ∈ y, I.isDegenerated = false)
    (hb : b ∈ Box.diff x y) : Box.overlaps b y = false :=
  Box.diff_no_overlap hx hy (fun i xi q _ h2 => by
    have := hyd _ (List.mem_of_getElem? h2)
    simp [Itv.isDegenerated] at this) hb

/-! ### 17. box complement (`Box.complementary y = Box.diff (-∞,+∞)ⁿ y`) -/

theorem Box.mem_all {p : List ℝ} {y : Box} (hl : p.length = y.length) :
    Box.Mem p (y.map fun _ => Itv.all) := by
  rw [Box.mem_iff]
  refine ⟨by simpa using hl, fun i t I _ h2 => ?_⟩
  rw [List.getElem?_map, Option.map_eq_some_iff] at h2
  obtain ⟨_, -, e⟩ := h2
  subst e
  exact ⟨bot_le, le_top⟩

theorem Box.mem_replicate_all {p : List ℝ} {n : Nat} (hl : p.length = n) :
    Box.Mem p (List.replicate n Itv.all) := by
  have := Box.mem_all (p := p) (y := List.replicate n Itv.all) (by rw [List.length_replicate, hl])
  rwa [List.map_replicate] at this

theorem Box.compl_cover {p : List ℝ} {y : Box} (hl : p.length = y.length) (hy : ¬ Box.Mem p y) :
    ∃ b ∈ Box.complementary y, Box.Mem p b :=
  Box.diff_cover (by simp) (Box.mem_all hl) hy

theorem Box.compl_no_common_box {y b : Box} (hb : b ∈ Box.complementary y) {u v : List ℝ}
    (huv : List.Forall₂ (· < ·) u v)
    (H : ∀ t, List.Forall₂ (· ≤ ·) u t → List.Forall₂ (· ≤ ·) t v → Box.Mem t b ∧ Box.Mem t y) :
    False :=
  Box.diff_no_common_box hb huv H

/-! ### 18. box bisection certificate -/

theorem Box.boxBisectOk_sound {x l r : Box} {i : Nat} (h : Box.boxBisectOk x i l r = true) :
    ∀ p, Box.Mem p x ↔ (Box.Mem p l ∨ Box.Mem p r) := by
  unfold Box.boxBisectOk at h
  cases h1 : x[i]? with
  | none => simp [h1] at h
  | some xi =>
    cases h2 : l[i]? with
    | none => simp [h1, h2] at h
    | some li =>
      cases h3 : r[i]? with
      | none => simp [h1, h2, h3] at h
      | some ri =>
        simp only [h1, h2, h3, Bool.and_eq_true, beq_iff_eq, Box.setAt] at h
        obtain ⟨⟨⟨hb, hl⟩, hr⟩, -⟩ := h
        obtain ⟨hcov, -, -, -⟩ := Itv.bisectOk_sound hb
        intro p
        rw [hl, hr]
        constructor
        · intro hm
          obtain ⟨t, h4, ht⟩ := hm.exists_getElem? h1
          rcases (hcov t).1 ht with h | h
          · exact Or.inl (Box.mem_set hm h4 h)
          · exact Or.inr (Box.mem_set hm h4 h)
        · rintro (hm | hm)
          · exact Box.mem_of_mem_set h1 (fun t ht => (hcov t).2 (Or.inl ht)) hm
          · exact Box.mem_of_mem_set h1 (fun t ht => (hcov t).2 (Or.inr ht)) hm

end Ibex
