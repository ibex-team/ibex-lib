/-
  C19 — quantified contractors `CtcExist` / `CtcForAll` (projection-union / projection-intersection):
  soundness of the stack algorithms for ANY sub-contractor meeting the contract, any covering
  bisection function, any sampling function, any precision and any fuel.
-/
import IbexProofs.Comb

namespace Ibex.C19
open Ibex Ibex.Comb

/-! ### variables / parameters: `merge`, `projT`, `projF` -/

section MergeLemmas
variable {α β : Type}

theorem merge_nil_mask (xs ys : List α) : merge [] xs ys = [] := by
  cases xs <;> cases ys <;> rfl

theorem merge_true_nil (m : List Bool) (ys : List α) : merge (true :: m) [] ys = [] := by
  cases ys <;> rfl

theorem merge_false_nil (m : List Bool) (xs : List α) : merge (false :: m) xs [] = [] := by
  cases xs <;> rfl

theorem merge_true_cons (m : List Bool) (x : α) (xs ys : List α) :
    merge (true :: m) (x :: xs) ys = x :: merge m xs ys := by
  cases ys <;> rfl

theorem merge_false_cons (m : List Bool) (xs : List α) (y : α) (ys : List α) :
    merge (false :: m) xs (y :: ys) = y :: merge m xs ys := by
  cases xs <;> rfl

theorem forall₂_merge {R : α → β → Prop} : ∀ (m : List Bool) {ps qs : List α} {xs ys : List β},
    List.Forall₂ R ps xs → List.Forall₂ R qs ys → List.Forall₂ R (merge m ps qs) (merge m xs ys)
  | [], _, _, _, _, _, _ => by rw [merge_nil_mask, merge_nil_mask]; exact List.Forall₂.nil
  | true :: m, _, _, _, _, hp, hq => by
    cases hp with
    | nil => rw [merge_true_nil, merge_true_nil]; exact List.Forall₂.nil
    | cons h hp' => rw [merge_true_cons, merge_true_cons]; exact List.Forall₂.cons h (forall₂_merge m hp' hq)
  | false :: m, _, _, _, _, hp, hq => by
    cases hq with
    | nil => rw [merge_false_nil, merge_false_nil]; exact List.Forall₂.nil
    | cons h hq' => rw [merge_false_cons, merge_false_cons]; exact List.Forall₂.cons h (forall₂_merge m hp hq')

theorem projT_nil_mask (as : List α) : projT [] as = [] := by cases as <;> rfl
theorem projF_nil_mask (as : List α) : projF [] as = [] := by cases as <;> rfl
theorem projT_nil (m : List Bool) : projT m ([] : List α) = [] := by
  cases m with
  | nil => rfl
  | cons b m => cases b <;> rfl
theorem projF_nil (m : List Bool) : projF m ([] : List α) = [] := by
  cases m with
  | nil => rfl
  | cons b m => cases b <;> rfl

theorem forall₂_projT {R : α → β → Prop} : ∀ (m : List Bool) {rs : List α} {fs : List β},
    List.Forall₂ R rs fs → List.Forall₂ R (projT m rs) (projT m fs)
  | [], _, _, _ => by rw [projT_nil_mask, projT_nil_mask]; exact List.Forall₂.nil
  | b :: m, _, _, h => by
    cases h with
    | nil => rw [projT_nil, projT_nil]; exact List.Forall₂.nil
    | cons h1 h' =>
      cases b with
      | true => exact List.Forall₂.cons h1 (forall₂_projT m h')
      | false => exact forall₂_projT m h'

theorem forall₂_projF {R : α → β → Prop} : ∀ (m : List Bool) {rs : List α} {fs : List β},
    List.Forall₂ R rs fs → List.Forall₂ R (projF m rs) (projF m fs)
  | [], _, _, _ => by rw [projF_nil_mask, projF_nil_mask]; exact List.Forall₂.nil
  | b :: m, _, _, h => by
    cases h with
    | nil => rw [projF_nil, projF_nil]; exact List.Forall₂.nil
    | cons h1 h' =>
      cases b with
      | true => exact forall₂_projF m h'
      | false => exact List.Forall₂.cons h1 (forall₂_projF m h')

theorem projT_merge : ∀ (m : List Bool) (xs ys : List α), cntT m = xs.length → cntF m = ys.length →
    projT m (merge m xs ys) = xs
  | [], xs, ys, hx, _ => by
    have : xs = [] := List.length_eq_zero_iff.1 (by simpa [cntT] using hx.symm)
    subst this; rw [merge_nil_mask]; rfl
  | true :: m, xs, ys, hx, hy => by
    cases xs with
    | nil => simp [cntT] at hx
    | cons x xs =>
      rw [merge_true_cons]
      show x :: projT m (merge m xs ys) = x :: xs
      rw [projT_merge m xs ys (by simpa [cntT] using hx) (by simpa [cntF] using hy)]
  | false :: m, xs, ys, hx, hy => by
    cases ys with
    | nil => simp [cntF] at hy
    | cons y ys =>
      rw [merge_false_cons]
      show projT m (merge m xs ys) = xs
      exact projT_merge m xs ys (by simpa [cntT] using hx) (by simpa [cntF] using hy)

theorem projF_merge : ∀ (m : List Bool) (xs ys : List α), cntT m = xs.length → cntF m = ys.length →
    projF m (merge m xs ys) = ys
  | [], xs, ys, _, hy => by
    have : ys = [] := List.length_eq_zero_iff.1 (by simpa [cntF] using hy.symm)
    subst this; rw [merge_nil_mask]; rfl
  | true :: m, xs, ys, hx, hy => by
    cases xs with
    | nil => simp [cntT] at hx
    | cons x xs =>
      rw [merge_true_cons]
      show projF m (merge m xs ys) = ys
      exact projF_merge m xs ys (by simpa [cntT] using hx) (by simpa [cntF] using hy)
  | false :: m, xs, ys, hx, hy => by
    cases ys with
    | nil => simp [cntF] at hy
    | cons y ys =>
      rw [merge_false_cons]
      show y :: projF m (merge m xs ys) = y :: ys
      rw [projF_merge m xs ys (by simpa [cntT] using hx) (by simpa [cntF] using hy)]

end MergeLemmas

/-! ### `CtcQuantif::contract(x,y)` -/

theorem BSub_varBox {m : List Bool} {B x y : Box} (h : BSub B (merge m x y))
    (hx : cntT m = x.length) (hy : cntF m = y.length) : BSub (varBox m B) x := by
  have h' : BSub (projT m B) x := by
    have := forall₂_projT m h
    rwa [projT_merge m x y hx hy] at this
  unfold varBox; split
  · exact BSub_emptyLike_of_length h'.length_eq
  · exact h'

theorem BSub_paramBox {m : List Bool} {B x y : Box} (h : BSub B (merge m x y))
    (hx : cntT m = x.length) (hy : cntF m = y.length) : BSub (paramBox m B) y := by
  have h' : BSub (projF m B) y := by
    have := forall₂_projF m h
    rwa [projF_merge m x y hx hy] at this
  unfold paramBox; split
  · exact BSub_emptyLike_of_length h'.length_eq
  · exact h'

section QC
variable {c : CtcFn} {S : Set Pt} (hc : CtcOK c S) (m : List Bool)
include hc

theorem qc_sub {x y : Box} (hx : cntT m = x.length) (hy : cntF m = y.length) :
    BSub (qc c m x y).x x ∧ BSub (qc c m x y).y y := by
  have h : BSub (c (norm (merge m x y)) (allImp (norm (merge m x y)))).box (merge m x y) :=
    (hc.sub _ _).trans (BSub_norm _)
  exact ⟨BSub_varBox h hx hy, BSub_paramBox h hx hy⟩

theorem qc_keep {x y : Box} {p q : Pt} (hp : Mem p x) (hq : Mem q y)
    (hx : cntT m = x.length) (hy : cntF m = y.length)
    (h : merge m p q ∈ S ∨ (qc c m x y).inact = true) :
    Mem p (qc c m x y).x ∧ Mem q (qc c m x y).y := by
  have hfull : Mem (merge m p q) (norm (merge m x y)) := mem_norm (forall₂_merge m hp hq)
  have hB : Mem (merge m p q) (c (norm (merge m x y)) (allImp (norm (merge m x y)))).box := by
    rcases h with h | h
    · exact hc.sound _ _ _ hfull h
    · exact hc.inact _ _ h _ hfull
  have hne : Box.isEmpty (c (norm (merge m x y)) (allImp (norm (merge m x y)))).box = false := by
    cases hh : Box.isEmpty (c (norm (merge m x y)) (allImp (norm (merge m x y)))).box with
    | false => rfl
    | true => exact absurd hB (not_mem_of_isEmpty hh _)
  have hpl : cntT m = p.length := hx.trans hp.length_eq.symm
  have hql : cntF m = q.length := hy.trans hq.length_eq.symm
  constructor
  · have h1 := forall₂_projT m hB
    rw [projT_merge m p q hpl hql] at h1
    simp only [qc, varBox, hne, Bool.false_eq_true, if_false]
    exact h1
  · have h1 := forall₂_projF m hB
    rw [projF_merge m p q hpl hql] at h1
    simp only [qc, paramBox, hne, Bool.false_eq_true, if_false]
    exact h1

end QC

/-! ### contracts of the bisection and sampling functions -/

structure BisOK (bis : Box → Option (Box × Box)) : Prop where
  len : ∀ {y l r}, bis y = some (l, r) → l.length = y.length ∧ r.length = y.length
  cover : ∀ {y l r}, bis y = some (l, r) → ∀ q, Mem q y → Mem q l ∨ Mem q r
  sub : ∀ {y l r}, bis y = some (l, r) → (∀ q, Mem q l → Mem q y) ∧ (∀ q, Mem q r → Mem q y)
  nonempty : ∀ {y l r}, bis y = some (l, r) → (∃ q, Mem q y) → (∃ q, Mem q l) ∧ (∃ q, Mem q r)

structure SampOK (samp : Box → Box) : Prop where
  len : ∀ y, (samp y).length = y.length
  sub : ∀ y q, Mem q (samp y) → Mem q y
  nonempty : ∀ y, (∃ q, Mem q y) → ∃ q, Mem q (samp y)

/-- `{x | ∃ y ∈ yinit, (x,y) ∈ S}` -/
def existSet (m : List Bool) (yinit : Box) (S : Set Pt) : Set Pt := {p | ∃ q, Mem q yinit ∧ merge m p q ∈ S}
/-- `{x | ∀ y ∈ yinit, (x,y) ∈ S}` -/
def forallSet (m : List Bool) (yinit : Box) (S : Set Pt) : Set Pt := {p | ∀ q, Mem q yinit → merge m p q ∈ S}

/-! ### CtcExist -/

/-- the pair `(p,q)` is already in the result or still pending on the stack -/
def CovP (p q : Pt) (res : Box) (stack : List (Box × Box)) : Prop :=
  Mem p res ∨ ∃ e ∈ stack, Mem p e.1 ∧ Mem q e.2

theorem CovP.mono {p q : Pt} {res res' : Box} {s s' : List (Box × Box)} (h : CovP p q res s)
    (hres : Mem p res → Mem p res') (hs : ∀ e ∈ s, e ∈ s') : CovP p q res' s' :=
  h.imp hres fun ⟨e, he, hpe⟩ => ⟨e, hs e he, hpe⟩

/-- what one call of `CtcExist::proceed` on the pair `(xCur, y)` guarantees -/
structure ExStepOK (m : List Bool) (S : Set Pt) (box xCur res y : Box) (s : ExStep) : Prop where
  res_sub : BSub s.res box
  push_ok : ∀ e ∈ s.push, BSub e.1 box ∧ cntF m = e.2.length
  mono : ∀ {p}, Mem p res → Mem p s.res
  cov : ∀ {p q}, merge m p q ∈ S → Mem p xCur → Mem q y → CovP p q s.res s.push
  stop_full : s.stop = true → ∀ p, Mem p box → Mem p s.res

/-- the step replaces the pair `(xCur, y)`, wherever it is in the stack, by what it pushes -/
theorem ExStepOK.covP {m : List Bool} {S : Set Pt} {box xCur res y : Box} {s : ExStep}
    (h : ExStepOK m S box xCur res y s) {p q : Pt} (hS : merge m p q ∈ S) {l rest : List (Box × Box)}
    (hcov : CovP p q res (l ++ (xCur, y) :: rest)) : CovP p q s.res (s.push ++ (l ++ rest)) := by
  rcases hcov with hr | ⟨e, he, hpe⟩
  · exact Or.inl (h.mono hr)
  · rcases List.mem_append.1 he with hl | hr
    · exact Or.inr ⟨e, List.mem_append_right _ (List.mem_append_left _ hl), hpe⟩
    · rcases List.mem_cons.1 hr with rfl | hr'
      · exact (h.cov hS hpe.1 hpe.2).mono id fun e he => List.mem_append_left _ he
      · exact Or.inr ⟨e, List.mem_append_right _ (List.mem_append_right _ hr'), hpe⟩

/-- after a call of `CtcExist::proceed` the loop either stops with the whole box in the result, or goes on with the
    pair `(xCur, y)` replaced, wherever it is in the stack, by what the call pushed -/
theorem ExStepOK.out {m : List Bool} {S : Set Pt} {box xCur res y : Box} {s : ExStep}
    (h : ExStepOK m S box xCur res y s) {l rest : List (Box × Box)} {gu : Bool} {imp : Imp} {o : Out}
    (ho : OutOK box (fun p => ∃ q, merge m p q ∈ S ∧ CovP p q s.res (s.push ++ (l ++ rest))) (Full box) o) :
    OutOK box (fun p => ∃ q, merge m p q ∈ S ∧ CovP p q res (l ++ (xCur, y) :: rest)) (Full box)
      (if s.stop = true then exFinish box s.res s.inact gu imp else o) := by
  refine ite_cases (fun hstop => ?_) fun _ => ?_
  · have hfull := h.stop_full hstop
    exact ⟨BSub_binter_left _ _, fun p hp _ => mem_binter hp (hfull p hp), fun _ p hp => mem_binter hp (hfull p hp)⟩
  · exact ⟨ho.sub, fun p hp ⟨q, hS, hcov⟩ => ho.keep p hp ⟨q, hS, h.covP hS hcov⟩, ho.inact⟩

section Exist
variable {c : CtcFn} {S : Set Pt} (hc : CtcOK c S) (m : List Bool) (prec : Ext) (samp : Box → Box)
  (hsamp : ∀ y, (samp y).length = y.length) (box : Box) (hbx : cntT m = box.length)
include hc hsamp hbx

theorem exProceed_ok {xCur res y : Box} (hxc : BSub xCur box) (hres : BSub res box) (hy : cntF m = y.length) :
    ExStepOK m S box xCur res y (exProceed c m prec samp box xCur res y) := by
  have hxcl : cntT m = xCur.length := hbx.trans hxc.length_eq.symm
  obtain ⟨hrx, hry⟩ := qc_sub hc m hxcl hy
  generalize hr : qc c m xCur y = r at hrx hry
  have hrxb : BSub r.x box := hrx.trans hxc
  have hryl : cntF m = r.y.length := hy.trans hry.length_eq.symm
  have hl : res.length = r.x.length := hres.length_eq.trans hrxb.length_eq.symm
  -- a covered pair is kept by the contraction of (xCur, y)
  have hkeep : ∀ {p q}, merge m p q ∈ S → Mem p xCur → Mem q y → Mem p r.x ∧ Mem q r.y :=
    fun hS hp hq => hr ▸ qc_keep hc m hp hq hxcl hy (Or.inl hS)
  have hpush : ∀ e ∈ [(r.x, r.y)], BSub e.1 box ∧ cntF m = e.2.length :=
    fun e he => List.mem_singleton.1 he ▸ ⟨hrxb, hryl⟩
  have hcovPush : ∀ {res' : Box} {p q}, merge m p q ∈ S → Mem p xCur → Mem q y → CovP p q res' [(r.x, r.y)] :=
    fun hS hp hq => Or.inr ⟨_, List.mem_singleton_self _, hkeep hS hp hq⟩
  have hnil : ∀ e ∈ ([] : List (Box × Box)), BSub e.1 box ∧ cntF m = e.2.length := fun e he => nomatch he
  have ff : ∀ {P : Prop}, false = true → P := fun h => nomatch h
  simp only [exProceed, hr]
  refine ite_cases (fun h1 => ?_) fun _ => ite_cases (fun _ => ite_cases (fun _ => ?_) fun _ => ?_) fun _ =>
    ite_cases (fun _ => ite_cases (fun _ => ?_) fun _ => ite_cases (fun _ => ?_) fun _ => ?_) fun h4 => ?_
  · -- the contracted box is empty
    exact ⟨hres, hnil, id, fun hS hp hq => absurd (hkeep hS hp hq).1 (not_mem_of_isEmpty h1 _), ff⟩
  · -- inactive on the whole initial box: stop with the initial box
    exact ⟨BSub.refl box, hnil, hres.mem, fun _ hp _ => Or.inl (hxc.mem hp), fun _ p hp => hp⟩
  · -- inactive on a sub-box: keep it entirely
    exact ⟨BSub_hull hres hrxb, hnil, (mem_hull_left · hl),
      fun hS hp hq => Or.inl (mem_hull_right (hkeep hS hp hq).1 hl), ff⟩
  · -- small parameter box: add to the result
    exact ⟨BSub_hull hres hrxb, hnil, (mem_hull_left · hl),
      fun hS hp hq => Or.inl (mem_hull_right (hkeep hS hp hq).1 hl), fun hst p hp => (boxEq_mem_iff hst p).2 hp⟩
  · -- push and sample (sample not empty)
    have hsl : cntF m = (samp r.y).length := (hsamp _).symm ▸ hryl
    have hsx : BSub (qc c m r.x (samp r.y)).x box :=
      (qc_sub hc m (hbx.trans hrxb.length_eq.symm) hsl).1.trans hrxb
    have hl2 : res.length = (qc c m r.x (samp r.y)).x.length := hres.length_eq.trans hsx.length_eq.symm
    exact ⟨BSub_hull hres hsx, hpush, (mem_hull_left · hl2), hcovPush, fun hst p hp => (boxEq_mem_iff hst p).2 hp⟩
  · -- push and sample (sample empty)
    exact ⟨hres, hpush, id, hcovPush, ff⟩
  · -- already inside the result
    have hsub : Box.subset r.x res = true := by simpa using h4
    exact ⟨hres, hnil, id, fun hS hp hq => Or.inl (mem_of_subset hsub (hkeep hS hp hq).1), ff⟩

theorem exLoop_ok (bis : Box → Option (Box × Box)) (hbis : BisOK bis) (imp : Imp) :
    ∀ (n : Nat) (stack : List (Box × Box)) (res : Box) (gu : Bool),
      BSub res box → (∀ e ∈ stack, BSub e.1 box ∧ cntF m = e.2.length) →
      OutOK box (fun p => ∃ q, merge m p q ∈ S ∧ CovP p q res stack) (Full box)
        (exLoop c m prec bis samp box imp n stack res gu) := by
  intro n
  induction n with
  | zero => intro stack res gu _ _; exact ⟨BSub.refl box, fun p hp _ => hp, fun hi => nomatch hi⟩
  | succ n ih =>
    intro stack res gu hres hst
    cases stack with
    | nil =>
      exact ⟨BSub_binter_left _ _, fun p hp ⟨q, _, hcov⟩ =>
        mem_binter hp (hcov.elim id fun ⟨_, he, _⟩ => (List.not_mem_nil he).elim), fun hi => nomatch hi⟩
    | cons e rest =>
      obtain ⟨xs, ys⟩ := e
      obtain ⟨hxs, hys⟩ := hst (xs, ys) (List.mem_cons_self ..)
      have hrest : ∀ e ∈ rest, BSub e.1 box ∧ cntF m = e.2.length := fun e he => hst e (List.mem_cons_of_mem _ he)
      cases hb : bis ys with
      | none =>
        have P := exProceed_ok hc m prec samp hsamp box hbx hxs hres hys
        simp only [exLoop, hb]
        exact P.out (l := []) (ih _ _ _ P.res_sub fun e he => (List.mem_append.1 he).elim (P.push_ok e) (hrest e))
      | some lr =>
        obtain ⟨y1, y2⟩ := lr
        obtain ⟨hl1, hl2⟩ := hbis.len hb
        have P := exProceed_ok hc m prec samp hsamp box hbx hxs hres (hys.trans hl1.symm)
        have Q := exProceed_ok hc m prec samp hsamp box hbx hxs P.res_sub (hys.trans hl2.symm)
        simp only [exLoop, hb]
        -- the popped pair is covered by its two halves, processed one after the other
        refine OutOK.imp_keep (K' := fun p => ∃ q, merge m p q ∈ S ∧ CovP p q res ((xs, y1) :: (xs, y2) :: rest))
          (P.out (l := []) (Q.out (l := (exProceed c m prec samp box xs res y1).push) ?_))
          fun p ⟨q, hS, hcov⟩ => ⟨q, hS, ?_⟩
        · rw [← List.append_assoc]
          exact ih _ _ _ Q.res_sub fun e he => (List.mem_append.1 he).elim
            (fun h => (List.mem_append.1 h).elim (Q.push_ok e) (P.push_ok e)) (hrest e)
        · rcases hcov with h | ⟨e, he, hpe⟩
          · exact Or.inl h
          · rcases List.mem_cons.1 he with rfl | he'
            · rcases hbis.cover hb q hpe.2 with hq | hq
              · exact Or.inr ⟨(xs, y1), List.mem_cons_self .., hpe.1, hq⟩
              · exact Or.inr ⟨(xs, y2), List.mem_cons_of_mem _ (List.mem_cons_self ..), hpe.1, hq⟩
            · exact Or.inr ⟨e, List.mem_cons_of_mem _ (List.mem_cons_of_mem _ he'), hpe⟩

end Exist

/-- exists: every point `x` of the box such that `(x,y)` is in the set for some `y` of the parameter box
    is kept, whatever the sub-contractor (meeting the contract), the covering bisection, the sampling,
    the precision and the fuel; the result is a sub-box -/
theorem exist_ok {c : CtcFn} {S : Set Pt} (hc : CtcOK c S) (fuel : Nat) (m : List Bool) (yinit : Box) (prec : Ext)
    (bis : Box → Option (Box × Box)) (samp : Box → Box) (hbis : BisOK bis) (hsamp : ∀ y, (samp y).length = y.length) :
    CtcOK (existF fuel c m yinit prec bis samp) (existSet m yinit S) :=
  .of_out fun x imp => by
    simp only [existF]
    refine ite_cases (fun hg => ?_) fun _ => ⟨BSub.refl x, fun p hp _ => hp, fun hi => nomatch hi⟩
    have i := exLoop_ok hc m prec samp hsamp x hg.1 bis hbis imp fuel [(x, yinit)] (emptyLike x) false (BSub_emptyLike x)
      fun e he => List.mem_singleton.1 he ▸ ⟨BSub.refl x, hg.2⟩
    exact ⟨i.sub, fun p hp ⟨q, hq, hS⟩ => i.keep p hp ⟨q, hS, Or.inr ⟨_, List.mem_singleton_self _, hp, hq⟩⟩, i.inact⟩

/-! ### CtcForAll -/

/-- a pending parameter box: inside the initial one, non-empty, of the right dimension -/
def GoodY (m : List Bool) (yinit y : Box) : Prop :=
  (∀ q, Mem q y → Mem q yinit) ∧ (∃ q, Mem q y) ∧ cntF m = y.length

/-- what one call of `CtcForAll::proceed` on the box `x` and the parameter box `y` guarantees; the call pushes back
    nothing or `y` itself (when `y` is still wider than the precision), which is all the loop needs to know of `push` -/
def FaStepOK (m : List Bool) (yinit : Box) (S : Set Pt) (x y : Box) : Option FaStep → Prop
  | none => ∀ p, Mem p x → p ∉ forallSet m yinit S
  | some s => BSub s.x x ∧ (∀ p, Mem p x → p ∈ forallSet m yinit S → Mem p s.x) ∧ ∀ y' ∈ s.push, y' = y

/-- after a call of `CtcForAll::proceed` the loop either stops with the empty box (`ForAllEmptyBox`: no point of `x`
    is in the set) or goes on from the contracted box -/
theorem FaStepOK.out {m : List Bool} {yinit : Box} {S : Set Pt} {x y box : Box} {o : Option FaStep}
    (h : FaStepOK m yinit S x y o) {I : Box → Prop} {imp : Imp} {gu : Bool} {k : FaStep → Out}
    (hk : ∀ s, BSub s.x x → (∀ y' ∈ s.push, y' = y) →
      OutOK box (fun p => Mem p s.x ∧ p ∈ forallSet m yinit S) I (k s)) :
    OutOK box (fun p => Mem p x ∧ p ∈ forallSet m yinit S) I
      (match o with
        | none => { box := emptyLike box, fl := { fix := true, gaveUp := gu }, imp := imp }
        | some s => k s) := by
  cases o with
  | none => exact ⟨BSub_emptyLike box, fun p _ hK => absurd hK.2 (h p hK.1), fun hi => nomatch hi⟩
  | some s =>
    obtain ⟨h1, h2, h3⟩ := h
    have i := hk s h1 h3
    exact ⟨i.sub, fun p hp hK => i.keep p hp ⟨h2 p hK.1 hK.2, hK.2⟩, i.inact⟩

section ForAll
variable {c : CtcFn} {S : Set Pt} (hc : CtcOK c S) (m : List Bool) (prec : Ext) (samp : Box → Box)
  (hsamp : SampOK samp) (yinit : Box)
include hc hsamp

theorem faProceed_ok {x y : Box} (hx : cntT m = x.length) (hy : GoodY m yinit y) (inact : Bool) :
    FaStepOK m yinit S x y (faProceed c m prec samp x y inact) := by
  obtain ⟨hyin, ⟨q1, hq1⟩, hyl⟩ := hy
  have hsl : cntF m = (samp y).length := by rw [hsamp.len]; exact hyl
  obtain ⟨q0, hq0⟩ := hsamp.nonempty y ⟨q1, hq1⟩
  have hrx : BSub (qc c m x (samp y)).x x := (qc_sub hc m hx hsl).1
  have hkeep : ∀ p, Mem p x → p ∈ forallSet m yinit S → Mem p (qc c m x (samp y)).x :=
    fun p hp hS => (qc_keep hc m hp hq0 hx hsl (Or.inl (hS q0 (hyin q0 (hsamp.sub y q0 hq0))))).1
  have hnil : ∀ y' ∈ ([] : List Box), y' = y := fun _ h => nomatch h
  simp only [faProceed]
  refine ite_cases (fun h1 => ?_) fun _ => ite_cases (fun _ => ?_) fun _ => ite_cases (fun _ => ?_) fun _ => ?_
  · exact fun p hp hS => not_mem_of_isEmpty h1 p (hkeep p hp hS)
  · exact ⟨hrx, hkeep, fun y' hy' => List.mem_singleton.1 hy'⟩
  · have hrxl : cntT m = (qc c m x (samp y)).x.length := hx.trans hrx.length_eq.symm
    exact ⟨(qc_sub hc m hrxl hyl).1.trans hrx,
      fun p hp hS => (qc_keep hc m (hkeep p hp hS) hq1 hrxl hyl (Or.inl (hS q1 (hyin q1 hq1)))).1, hnil⟩
  · exact ⟨hrx, hkeep, hnil⟩

/-- `faLoop` reports INACTIVE only together with `boxEq box x`: that is the INACTIVE clause here -/
theorem faLoop_ok (bis : Box → Option (Box × Box)) (hbis : BisOK bis) (box : Box) (hbx : cntT m = box.length) (imp : Imp) :
    ∀ (n : Nat) (stack : List Box) (x : Box) (inact gu : Bool),
      BSub x box → (∀ y ∈ stack, GoodY m yinit y) →
      OutOK box (fun p => Mem p x ∧ p ∈ forallSet m yinit S) (fun b => boxEq box b = true)
        (faLoop c m prec bis samp box imp n stack x inact gu) := by
  intro n
  induction n with
  | zero => intro stack x inact gu hx _; exact ⟨BSub.refl box, fun p hp _ => hp, fun hi => nomatch hi⟩
  | succ n ih =>
    intro stack x inact gu hx hst
    have hxl : cntT m = x.length := hbx.trans hx.length_eq.symm
    cases stack with
    | nil => exact ⟨hx, fun p _ hK => hK.1, fun hi => (Bool.and_eq_true_iff.1 hi).2⟩
    | cons y rest =>
      have hy : GoodY m yinit y := hst y (List.mem_cons_self ..)
      have hrest : ∀ y' ∈ rest, GoodY m yinit y' := fun y' h => hst y' (List.mem_cons_of_mem _ h)
      cases hb : bis y with
      | none =>
        simp only [faLoop, hb]
        refine (faProceed_ok hc m prec samp hsamp yinit hxl hy inact).out fun s P1 _ => ?_
        refine ih _ s.x s.inact (gu || s.gaveUp) (P1.trans hx) fun y' hy' => ?_
        -- `faLoop` puts `y` back on the stack exactly when `proceed` pushed it
        split_ifs at hy'
        · exact hrest y' hy'
        · exact hst y' hy'
      | some lr =>
        obtain ⟨y1, y2⟩ := lr
        obtain ⟨hl1, hl2⟩ := hbis.len hb
        obtain ⟨hs1, hs2⟩ := hbis.sub hb
        obtain ⟨hn1, hn2⟩ := hbis.nonempty hb hy.2.1
        have hy1 : GoodY m yinit y1 := ⟨fun q hq => hy.1 q (hs1 q hq), hn1, hy.2.2.trans hl1.symm⟩
        have hy2 : GoodY m yinit y2 := ⟨fun q hq => hy.1 q (hs2 q hq), hn2, hy.2.2.trans hl2.symm⟩
        simp only [faLoop, hb]
        refine (faProceed_ok hc m prec samp hsamp yinit hxl hy1 inact).out fun s1 P1 P3 => ?_
        refine (faProceed_ok hc m prec samp hsamp yinit (hxl.trans P1.length_eq.symm) hy2 s1.inact).out
          fun s2 Q1 Q3 => ?_
        refine ih _ s2.x s2.inact (gu || s1.gaveUp || s2.gaveUp) ((Q1.trans P1).trans hx) fun y' hy' => ?_
        rcases List.mem_append.1 hy' with h | h
        · rcases List.mem_append.1 h with h | h
          · rw [Q3 y' h]; exact hy2
          · rw [P3 y' h]; exact hy1
        · exact hrest y' h

end ForAll

/-- for all: every point `x` of the box such that `(x,y)` is in the set for all `y` of the (non-empty)
    parameter box is kept; the result is a sub-box; INACTIVE only if nothing was removed -/
theorem forall_ok {c : CtcFn} {S : Set Pt} (hc : CtcOK c S) (fuel : Nat) (m : List Bool) (yinit : Box) (prec : Ext)
    (bis : Box → Option (Box × Box)) (samp : Box → Box) (hbis : BisOK bis) (hsamp : SampOK samp)
    (hne : ∃ q, Mem q yinit) :
    CtcOK (forallF fuel c m yinit prec bis samp) (forallSet m yinit S) :=
  .of_out fun x imp => by
    simp only [forallF]
    refine ite_cases (fun hg => ?_) fun _ => ⟨BSub.refl x, fun p hp _ => hp, fun hi => nomatch hi⟩
    have i := faLoop_ok hc m prec samp hsamp yinit bis hbis x hg.1 imp fuel [yinit] x true false (BSub.refl x)
      fun y hy => by rw [List.mem_singleton.1 hy]; exact ⟨fun q hq => hq, hne, hg.2⟩
    exact ⟨i.sub, fun p hp hS => i.keep p hp ⟨hp, hS⟩, fun hi p hp => (boxEq_mem_iff (i.inact hi) p).1 hp⟩

/-! ### the concrete bisection (`LargestFirst`, guarded cut point) and sampling (`mid`) functions -/

theorem guardCut_spec {a b p : Ext} {l r : Itv} (h : guardCut a b p = some (l, r)) :
    l = .mk a p ∧ r = .mk p b ∧ Ext.le a p = true ∧ Ext.le p b = true ∧ p.isFin = true := by
  unfold guardCut at h
  split_ifs at h with hg
  simp only [Option.some.injEq, Prod.mk.injEq] at h
  simp only [Bool.and_eq_true] at hg
  exact ⟨h.1.symm, h.2.symm, hg.1.1, hg.1.2, hg.2⟩

theorem bisectItv_spec {ratio : Rat} {I l r : Itv} (h : bisectItv ratio I = some (l, r)) :
    ∃ a b p, I = .mk a b ∧ l = .mk a p ∧ r = .mk p b ∧ Ext.le a p = true ∧ Ext.le p b = true ∧ p.isFin = true := by
  unfold bisectItv at h
  split at h
  · split at h
    · obtain ⟨h1, h2, h3, h4, h5⟩ := guardCut_spec h
      exact ⟨_, _, _, rfl, h1, h2, h3, h4, h5⟩
    · simp at h
  · simp at h

theorem lfBisect_spec {prec : Ext} {ratio : Rat} {y l r : Box} (h : lfBisect prec ratio y = some (l, r)) :
    ∃ i a b p, y[i]? = some (.mk a b) ∧ l = y.set i (.mk a p) ∧ r = y.set i (.mk p b) ∧
      Ext.le a p = true ∧ Ext.le p b = true ∧ p.isFin = true := by
  unfold lfBisect at h
  split at h
  · simp at h
  · rename_i i _
    split at h
    · simp at h
    · rename_i I hI
      split at h
      · simp at h
      · rename_i l' r' hb
        obtain ⟨a, b, p, hIab, hl, hr, h1, h2, h3⟩ := bisectItv_spec hb
        simp only [Option.some.injEq, Prod.mk.injEq] at h
        exact ⟨i, a, b, p, hIab ▸ hI, by rw [← h.1, hl], by rw [← h.2, hr], h1, h2, h3⟩

/-- the guarded `LargestFirst` bisection is a covering bisection into two non-empty sub-boxes -/
theorem lfBisect_ok (prec : Ext) (ratio : Rat) : BisOK (lfBisect prec ratio) := by
  constructor
  · intro y l r h
    obtain ⟨i, a, b, p, _, rfl, rfl, _⟩ := lfBisect_spec h
    simp
  · intro y l r h q hq
    obtain ⟨i, a, b, p, hi, rfl, rfl, h1, h2, hp⟩ := lfBisect_spec h
    exact Box.mem_set_cover hq hi (Itv.cut_spec ((Ext.le_iff _ _).1 h1) ((Ext.le_iff _ _).1 h2) hp).1
  · intro y l r h
    obtain ⟨i, a, b, p, hi, rfl, rfl, h1, h2, hp⟩ := lfBisect_spec h
    obtain ⟨-, hl, hr, -⟩ := Itv.cut_spec ((Ext.le_iff _ _).1 h1) ((Ext.le_iff _ _).1 h2) hp
    exact ⟨fun q => Box.mem_of_mem_set hi hl, fun q => Box.mem_of_mem_set hi hr⟩
  · intro y l r h hne
    obtain ⟨i, a, b, p, hi, rfl, rfl, h1, h2, hp⟩ := lfBisect_spec h
    obtain ⟨-, -, -, hl, hr⟩ := Itv.cut_spec ((Ext.le_iff _ _).1 h1) ((Ext.le_iff _ _).1 h2) hp
    exact ⟨Box.nonempty_set hne hl, Box.nonempty_set hne hr⟩

theorem guardMid_sub (a b m : Ext) (v : ℝ) (hv : v ∈ guardMid a b m) : v ∈ Itv.mk a b := by
  unfold guardMid at hv
  split_ifs at hv with hg
  · simp only [Bool.and_eq_true, Ext.le_iff] at hg
    have hv' := (Itv.mem_mk _ _ _).1 hv
    exact ⟨le_trans hg.1 hv'.1, le_trans hv'.2 hg.2⟩
  · exact hv

theorem guardMid_nonempty (a b : Rat) (m : Ext) (h : ∃ v : ℝ, v ∈ Itv.mk (.fin a) (.fin b)) :
    ∃ v : ℝ, v ∈ guardMid (.fin a) (.fin b) m := by
  unfold guardMid
  split_ifs with hg
  · simp only [Bool.and_eq_true] at hg
    cases m with
    | fin t => exact ⟨(t : ℝ), ⟨le_refl _, le_refl _⟩⟩
    | ninf => simp [Ext.le] at hg
    | pinf => simp [Ext.le] at hg
  · exact h

theorem midItv_sub (I : Itv) (v : ℝ) (hv : v ∈ midItv I) : v ∈ I := by
  unfold midItv at hv
  split at hv
  · exact guardMid_sub _ _ _ v hv
  · exact hv

theorem midItv_nonempty (I : Itv) (h : ∃ v : ℝ, v ∈ I) : ∃ v : ℝ, v ∈ midItv I := by
  unfold midItv
  split
  · exact guardMid_nonempty _ _ _ h
  · exact h

/-- sampling at the (guarded) midpoint: a non-empty sub-box of the same dimension -/
theorem midBox_ok : SampOK midBox := by
  constructor
  · intro y; simp [midBox]
  · intro y q hq
    unfold midBox at hq
    induction y generalizing q with
    | nil => exact hq
    | cons I y ih =>
      cases hq with
      | cons hv hq' => exact List.Forall₂.cons (midItv_sub I _ hv) (ih _ hq')
  · intro y hne
    unfold midBox
    induction y with
    | nil => exact ⟨[], List.Forall₂.nil⟩
    | cons I y ih =>
      obtain ⟨q, hq⟩ := hne
      cases hq with
      | @cons v _ q' _ hv hq' =>
        obtain ⟨q2, hq2⟩ := ih ⟨q', hq'⟩
        obtain ⟨w, hw⟩ := midItv_nonempty I ⟨v, hv⟩
        exact ⟨w :: q2, List.Forall₂.cons hw hq2⟩

end Ibex.C19
